import PQ.Model.Basic
import PQ.Model.IMap
import PQ.Model.Arith
import PQ.Model.Store
import PQ.Model.PQ
import PQ.Model.DPQ
import PQ.Model.Iter
import PQ.Model.Ops
import PQ.Model.Observe
import PQ.Model.Crash
import PQ.Driver
import PQ.Lemmas.Monad
import PQ.Lemmas.Spec
import PQ.Lemmas.OpsCommon
import PQ.Lemmas.Cost
import PQ.Lemmas.IterLemmas
import PQ.Lemmas.History
import PQ.Lemmas.BulkProps
import PQ.Lemmas.TickFrame
import PQ.Lemmas.Contents
import PQ.Lemmas.CrashLemmas
import PQ.Lemmas.CrashCbLemmas
import PQ.Props.C01
import PQ.Props.C02
import PQ.Props.C03
import PQ.Props.C04
import PQ.Props.C05
import PQ.Props.C06
import PQ.Props.C07
import PQ.Props.C08
import PQ.Props.C09
import PQ.Props.C10
import PQ.Props.C11
import PQ.Props.C12
import PQ.Props.C13
import PQ.Props.C14
import PQ.Props.C15
import PQ.Props.C16
import PQ.Props.C17
import PQ.Props.C18
import PQ.Lemmas.SortedWF
import PQ.Props.F7
import PQ.Model.Stateful
import PQ.Model.Capacity
import PQ.Model.SortedIter
import PQ.Lemmas.DebugLemmas
import PQ.Lemmas.StatefulLemmas
import PQ.Lemmas.LookupLemmas
import PQ.Lemmas.PrOrder
import PQ.Lemmas.CursorStore
import PQ.Lemmas.CapacityLemmas
import PQ.Lemmas.SortedIterLemmas
import PQ.Lemmas.EqvBy
import PQ.Lemmas.IterMutFused
import PQ.Lemmas.PopIfHistory
import PQ.Lemmas.FramePopIf
import PQ.Props.C01_more
import PQ.Props.C02_more
import PQ.Props.C03_more
import PQ.Props.C08_more
import PQ.Props.C09_more
import PQ.Props.C10_more
import PQ.Props.C13_more
import PQ.Props.C14_more
import PQ.Props.C16_more
import PQ.Props.C18_more
import PQ.Model.Src
import PQ.Model.SrcGen
import PQ.Lemmas.SrcEquivBase
import PQ.Lemmas.SrcEquiv
import PQ.Lemmas.SrcEquivStore
import PQ.Lemmas.SrcEquivDQ
import PQ.Lemmas.SrcEquivOps
import PQ.Lemmas.SrcEquivStore2
import PQ.Lemmas.SrcEquivPush
import PQ.Lemmas.SrcEquivOps2
import PQ.Lemmas.SrcEquivBulk
import PQ.Lemmas.SrcEquivBulkQ
import PQ.Model.SrcF
import PQ.Lemmas.SrcEquivExtend
import PQ.Lemmas.SrcEquivPanic
import PQ.Lemmas.SrcEquivPanic2
import PQ.Lemmas.SrcEquivPanicPQ
import PQ.Lemmas.SrcEquivPanicDQ
import PQ.Lemmas.SrcEquivPanicBulk
import PQ.Lemmas.SrcEquivPanicExtend
import PQ.Model.SrcCap
import PQ.Lemmas.SrcEquivIter
import PQ.Lemmas.SrcEquivSmall
import PQ.Lemmas.SrcEquivCap
import PQ.Props.SrcTie
import PQ.Props.C12_more
import PQ.Props.C05_more
import PQ.Props.C18_exec
import PQ.Lemmas.TablesOnly
import PQ.Lemmas.TablesOnlyPQ
import PQ.Lemmas.TablesOnlyDQ
import PQ.Props.C10_retain
import PQ.Props.C10_append_other
import PQ.Props.C04_more
import PQ.Props.C05_iter
import PQ.Props.C15_more
import PQ.Props.C03_iter
import PQ.Props.C03_frame
import PQ.Props.C01_more2
import PQ.Props.C06_more
import PQ.Props.C02_more2
