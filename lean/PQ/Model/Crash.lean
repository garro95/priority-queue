import PQ.Model.Ops
/-!
# Fused twins: the model of property C10's crash points

A *crash* is a panic raised by the user's `Ord::cmp` in the middle of an operation of the crate, caught by the caller with
`catch_unwind`.  Every function of `PQ.lean` / `DPQ.lean` / `Ops.lean` that compares priorities gets a *fused twin* here
(suffix `F`, namespaces `PQ.Crash.MaxQ` / `PQ.Crash.DQ` / `PQ.Crash`): the same algorithm, statement for statement, but every
comparison goes through `cmpF` (or `cmpHoleF`).  The comparison whose ordinal equals `fuse` panics; the twin then stops with
`Stop.crashed s'` where `s'` is the store **as the real code leaves it after unwinding**.

## Conventions

* Ordinals are *absolute* values of the ghost counter `Store.ticks`: the comparison performed while the current store is `s`
  has ordinal `s.ticks + 1`.  To make the `k`-th comparison of an operation panic the driver passes `fuse := s.ticks + k`.
  `fuse = 0` means "never" (`s.ticks + 1 ≠ 0`).  The panicking comparison is *not* counted: a crashed store carries the number of
  comparisons that completed.
  - the constructors (`fromVecF`, `fromIterF`, `deserializeF`) start from a fresh store whose counter is `0`: there `fuse = k`;
  - `Store.append` may exchange receiver and argument (`mem::swap`), the ghost counter travels with the store, so the rebuild of
    `appendF` counts from the counter of whichever store became the receiver (this is how the plain model behaves).
* Unwinding runs exactly one piece of crate code that writes to the store: `Drop for Hole` (store.rs), the guard of the sift-up
  functions.  It writes the travelling element into the position the hole has reached: `heap[position] := map_position;
  qp[map_position] := position` (`fillHole`; these are unchecked writes, hence a `Fault` if out of range).  All other comparison
  sites are between complete statements (`Store::swap` contains no user code), so the store is left as it is at that moment.
* Twins take `fuse` as first argument; the sift-up loops additionally take `mapPosition` (the guard needs it); otherwise the
  signatures and bodies are those of the plain originals with `R` replaced by `CR P` (plain sub-computations are lifted with `liftR`).
  The `min_by_key` / `max_by_key` folds thread the store through the fold so that each of their `length - 1` comparisons has its
  own ordinal (the plain model ticks `length - 1` at once).
* `pushF` follows the *current* statement order of `push` (since the F6 fix): `size += 1` happens *before* the sift-up; the plain
  model `push` bumps `size` after `bubbleUp` (equivalent when nothing panics, because `bubbleUp` does not read `size`).
* Operations that build a *new* queue (`From<Vec>`, `FromIterator`, `Deserialize`) drop it when the rebuild panics: they stop
  with `Stop.crashedNew` (no store survives; whatever queue the caller had is untouched).
* `stepF` works on queues (`Q P` = kind + store) and stops with `StopQ`: `StopQ.crashed q'` carries the *kind* too, because
  `From<other kind>` (`Op.convert`) consumes the old queue and rebuilds its store in place as a queue of the *target* kind.

No imports outside core Lean: this file links into the native driver.
-/
namespace PQ.Crash
open PQ PQ.Arith

/-- why a fused computation stopped -/
inductive Stop (P : Type) where
  /-- an ordinary model fault (never happens on well-formed stores) -/
  | fault (f : Fault)
  /-- the fuse fired: `s` is the store after unwinding -/
  | crashed (s : Store P)
  /-- the fuse fired while a *fresh* queue was being built: that queue is dropped, nothing of it survives -/
  | crashedNew

abbrev CR (P : Type) (α : Type) := Except (Stop P) α

/-- lift a plain model computation -/
def liftR {P α : Type} : R α → CR P α
  | .ok a => .ok a
  | .error f => .error (.fault f)

/-- a crash while building a fresh queue: the partially rebuilt store is dropped -/
def asNew {P α : Type} : CR P α → CR P α
  | .error (.crashed _) => .error .crashedNew
  | x => x

variable {P : Type} [LT P] [DecidableLT P]

/-- the fused comparison `a < b` performed while the current store is `s`: the comparison whose ordinal (the ghost counter
`s.ticks + 1`) equals `fuse` panics.  `fuse = 0` means "never".  `onCrash` says what unwinding leaves behind (default: `s` itself,
i.e. the store at that moment with the panicking comparison not counted). -/
def cmpF (fuse : Nat) (s : Store P) (a b : P) (onCrash : Store P := s) : CR P (Store P × Bool) :=
  if s.ticks + 1 = fuse then .error (.crashed onCrash) else .ok (s.tick, decide (a < b))

/-- `Drop for Hole`: `*heap.get_unchecked_mut(position) = map_position; *qp.get_unchecked_mut(map_position) = position`.
The sites are those of the same two writes at the end of the plain `bubbleUp` (205/206 in the PQ, 316/317 in the DPQ). -/
def fillHole (s : Store P) (position mapPosition : Nat) (siteH siteQ : Nat) : R (Store P) := do
  let heap ← setU s.heap position mapPosition siteH
  let qp ← setU s.qp mapPosition position siteQ
  pure { s with heap := heap, qp := qp }

/-- the fused comparison `a < b` performed while a `Hole` guard is alive with the hole at `position`: on a crash the guard fills
the hole (a fault of these writes is reported as `.fault`) -/
def cmpHoleF (fuse : Nat) (s : Store P) (a b : P) (position mapPosition : Nat) (siteH siteQ : Nat) :
    CR P (Store P × Bool) :=
  if s.ticks + 1 = fuse then
    match fillHole s position mapPosition siteH siteQ with
    | .ok s' => .error (.crashed s')
    | .error f => .error (.fault f)
  else .ok (s.tick, decide (a < b))

/-! Unfolding facts (all by computation) for whoever proves things about the twins. -/
omit [LT P] [DecidableLT P] in
@[simp] theorem liftR_ok {α : Type} (a : α) : (liftR (.ok a : R α) : CR P α) = .ok a := rfl
omit [LT P] [DecidableLT P] in
@[simp] theorem liftR_error {α : Type} (f : Fault) : (liftR (.error f : R α) : CR P α) = .error (.fault f) := rfl
omit [LT P] [DecidableLT P] in
@[simp] theorem liftR_pure {α : Type} (a : α) : (liftR (pure a : R α) : CR P α) = pure a := rfl
omit [LT P] [DecidableLT P] in
theorem liftR_bind {α β : Type} (x : R α) (f : α → R β) :
    (liftR (x >>= f) : CR P β) = liftR x >>= fun a => liftR (f a) := by
  cases x <;> rfl
/-- with the fuse off a fused comparison is the plain one: tick, then `decide (a < b)` -/
@[simp] theorem cmpF_zero (s : Store P) (a b : P) (oc : Store P) : cmpF 0 s a b oc = .ok (s.tick, decide (a < b)) := by
  simp [cmpF]
@[simp] theorem cmpHoleF_zero (s : Store P) (a b : P) (pos mp h q : Nat) :
    cmpHoleF 0 s a b pos mp h q = .ok (s.tick, decide (a < b)) := by
  simp [cmpHoleF]
/-- `cmpHoleF` is `cmpF` whenever the guard's writes succeed -/
theorem cmpHoleF_eq_cmpF (fuse : Nat) (s s' : Store P) (a b : P) (pos mp h q : Nat)
    (hf : fillHole s pos mp h q = .ok s') : cmpHoleF fuse s a b pos mp h q = cmpF fuse s a b s' := by
  simp [cmpHoleF, cmpF, hf]

/-! ## `priority_queue/mod.rs` -/
namespace MaxQ
open PQ.MaxQ

/-- twin of `MaxQ.pickLargest`: two comparison sites, nothing is written in between: crash ⇒ the store at that moment -/
def pickLargestF (fuse : Nat) (s : Store P) (i : Nat) : CR P (Store P × Nat) := do
  let l := left i
  let ip ← liftR (s.prioAt i)
  if l < s.size then do
    let childp ← liftR (s.prioAt l)
    let (s, lt) ← cmpF fuse s ip childp
    let largest := if lt then l else i
    let largestp := if lt then childp else ip
    let r := right i
    if r < s.size then do
      let rp ← liftR (s.prioAt r)
      let (s, lt) ← cmpF fuse s largestp rp
      pure (s, if lt then r else largest)
    else pure (s, largest)
  else pure (s, i)

/-- twin of `MaxQ.heapifyLoop`: swap-based, a crash leaves every swap done so far complete -/
def heapifyLoopF (fuse : Nat) : Nat → Store P → Nat → CR P (Store P)
  | 0, _, _ => .error (.fault .fuel)
  | fuel + 1, s, i => do
    let (s, largest) ← pickLargestF fuse s i
    if largest = i then pure s
    else do
      let s ← liftR (s.swap i largest)
      heapifyLoopF fuse fuel s largest

/-- twin of `MaxQ.heapify` -/
def heapifyF (fuse : Nat) (s : Store P) (i : Nat) : CR P (Store P) :=
  if s.size ≤ 1 then pure s else heapifyLoopF fuse s.size s i

/-- twin of `MaxQ.bubbleUpLoop`; the `Hole` guard is alive: a crash at the comparison made with the hole at `position`
returns the store with the hole filled there (`heap[position] := mapPosition; qp[mapPosition] := position`) -/
def bubbleUpLoopF (fuse mapPosition : Nat) : Nat → Store P → Nat → P → CR P (Store P × Nat)
  | 0, _, _, _ => .error (.fault .fuel)
  | fuel + 1, s, position, priority =>
    if position > 0 then do
      let parentPos := parent position
      let pp ← liftR (s.prioAt parentPos)
      let (s, lt) ← cmpHoleF fuse s pp priority position mapPosition 205 206
      if lt then do
        let parentIndex ← liftR (getU s.heap parentPos 201)
        let heap ← liftR (setU s.heap position parentIndex 202)
        let qp ← liftR (setU s.qp parentIndex position 203)
        bubbleUpLoopF fuse mapPosition fuel { s with heap := heap, qp := qp } parentPos priority
      else pure (s, position)
    else pure (s, position)

/-- twin of `MaxQ.bubbleUp` (the final two writes are the guard's `Drop` on the normal path) -/
def bubbleUpF (fuse : Nat) (s : Store P) (position mapPosition : Nat) : CR P (Store P × Nat) := do
  let e ← liftR (unwrapO (s.map.getIndex mapPosition) 204)
  let (s, position) ← bubbleUpLoopF fuse mapPosition (position + 1) s position e.2
  let heap ← liftR (setU s.heap position mapPosition 205)
  let qp ← liftR (setU s.qp mapPosition position 206)
  pure ({ s with heap := heap, qp := qp }, position)

/-- twin of `MaxQ.upHeapify`: crash in the sift-up ⇒ hole filled where it was; crash in the sift-down ⇒ store at that moment -/
def upHeapifyF (fuse : Nat) (s : Store P) (i : Nat) : CR P (Store P) := do
  let tmp ← liftR (getU s.heap i 207)
  let (s, pos) ← bubbleUpF fuse s i tmp
  heapifyF fuse s pos

/-- twin of `MaxQ.heapBuildLoop` -/
def heapBuildLoopF (fuse : Nat) (s : Store P) : Nat → CR P (Store P)
  | 0 => heapifyF fuse s 0
  | k + 1 => do
    let s ← heapifyF fuse s (k + 1)
    heapBuildLoopF fuse s k

/-- twin of `MaxQ.heapBuild`: a crash leaves the partially rebuilt store (sift-downs done so far complete) -/
def heapBuildF (fuse : Nat) (s : Store P) : CR P (Store P) :=
  if s.size = 0 then pure s
  else do
    let top ← liftR (parentC s.size 208)
    heapBuildLoopF fuse s top

/-! ### public operations -/

/-- twin of `MaxQ.pop`: the removal is complete (the entry is gone, and lost to the caller) when the sift-down can crash -/
def popF (fuse : Nat) (s : Store P) : CR P (Store P × Option (Item × P)) :=
  match s.size with
  | 0 => pure (s, none)
  | 1 => liftR (s.swapRemove 0)
  | _ => do
    let (s, r) ← liftR (s.swapRemove 0)
    let s ← heapifyF fuse s 0
    pure (s, r)

/-- twin of `MaxQ.popIf`: predicate (it may rewrite the entry), removal if it said so, then the fused sift-down -/
def popIfF (fuse : Nat) (s : Store P) (f : Item → P → Bool × Item × P) : CR P (Store P × Option (Item × P)) :=
  match s.size with
  | 0 => pure (s, none)
  | 1 => liftR (s.swapRemoveIf 0 f)
  | _ => do
    let (s, r) ← liftR (s.swapRemoveIf 0 f)
    let s ← heapifyF fuse s 0
    pure (s, r)

/-- twin of `MaxQ.push` in the statement order of the current crate: present item: priority replaced, then `upHeapifyF`;
new item: map insert, `qp.push`, `heap.push`, `size += 1`, *then* the fused sift-up (so a crashed store already counts the
new element and the guard has put it where the hole was) -/
def pushF (fuse : Nat) (s : Store P) (it : Item) (p : P) : CR P (Store P × Option P) :=
  let (map, idx, old) := s.map.insertFull it p
  let s := { s with map := map }
  match old with
  | some oldp => do
    let pos ← liftR (getU s.qp idx 210)
    let s ← upHeapifyF fuse s pos
    pure (s, some oldp)
  | none => do
    let i := s.size
    let s := { s with qp := s.qp.push i, heap := s.heap.push i, size := s.size + 1 }
    let (s, _) ← bubbleUpF fuse s i i
    pure (s, none)

/-- twin of `MaxQ.pushIncrease`: the first comparison is the pre-check against the stored priority; a crash there returns the
store untouched (`push` has not started) -/
def pushIncreaseF (fuse : Nat) (s : Store P) (it : Item) (p : P) : CR P (Store P × Option P) :=
  match s.getPriority it.key with
  | none => pushF fuse s it p
  | some q => do
    let (s, lt) ← cmpF fuse s q p
    if lt then pushF fuse s it p else pure (s, some p)

/-- twin of `MaxQ.pushDecrease` -/
def pushDecreaseF (fuse : Nat) (s : Store P) (it : Item) (p : P) : CR P (Store P × Option P) :=
  match s.getPriority it.key with
  | none => pushF fuse s it p
  | some q => do
    let (s, lt) ← cmpF fuse s p q
    if lt then pushF fuse s it p else pure (s, some p)

/-- twin of `MaxQ.changePriority`: the new priority is stored before the fused `upHeapifyF` -/
def changePriorityF (fuse : Nat) (s : Store P) (k : Nat) (p : P) : CR P (Store P × Option P) := do
  let (s, r) ← liftR (s.changePriority k p)
  match r with
  | some (old, pos) => do
    let s ← upHeapifyF fuse s pos
    pure (s, some old)
  | none => pure (s, none)

/-- twin of `MaxQ.changePriorityBy` -/
def changePriorityByF (fuse : Nat) (s : Store P) (k : Nat) (setter : P → P) : CR P (Store P × Bool) := do
  let (s, r) ← liftR (s.changePriorityBy k setter)
  match r with
  | some pos => do
    let s ← upHeapifyF fuse s pos
    pure (s, true)
  | none => pure (s, false)

/-- twin of `MaxQ.remove`: the store-level removal is complete before the fused `upHeapifyF` of the element that took the place -/
def removeF (fuse : Nat) (s : Store P) (k : Nat) : CR P (Store P × Option (Item × P)) := do
  let (s, r) ← liftR (s.remove k)
  match r with
  | some (it, p, pos) =>
    if pos < s.size then do
      let s ← upHeapifyF fuse s pos
      pure (s, some (it, p))
    else pure (s, some (it, p))
  | none => pure (s, none)

/-- twin of `MaxQ.retainMut`: store-level retain (complete), then the fused rebuild -/
def retainMutF (fuse : Nat) (s : Store P) (f : Item → P → Bool × Item × P) : CR P (Store P) :=
  heapBuildF fuse (s.retainMut f)

/-- twin of `MaxQ.append`: store-level append (complete: `other` is already drained), then the fused rebuild; on a crash only the
receiver's store is reported -/
def appendF (fuse : Nat) (s o : Store P) : CR P (Store P × Store P) := do
  let (s, o) := s.append o
  let s ← heapBuildF fuse s
  pure (s, o)

/-- twin of `MaxQ.ofStore` (`From<DoublePriorityQueue>`): the consumed queue's store is rebuilt in place -/
def ofStoreF (fuse : Nat) (s : Store P) : CR P (Store P) := heapBuildF fuse s

/-- twins of the constructors: a crash of the rebuild drops the new queue (`Stop.crashedNew`) -/
def fromVecF (fuse : Nat) (v : Array (Item × P)) : CR P (Store P) := asNew (heapBuildF fuse (Store.fromVec v))
/-- the capacity request comes first (no comparison yet): an announced lower bound `≥ capLimit` is the capacity panic -/
def fromIterF (fuse : Nat) (lo : Nat) (xs : Array (Item × P)) : CR P (Store P) := do
  liftR (reserveC lo)
  asNew (heapBuildF fuse (Store.fromIter xs))
/-- the (capped) pre-allocation comes first: it never fails -/
def deserializeF (fuse : Nat) (hint : Option Nat) (xs : Array (Item × P)) : CR P (Store P) := do
  liftR (match hint with | some h => reserveC (min h 4096) | none => pure ())
  asNew (heapBuildF fuse (Store.visitSeq xs))

/-- twin of `MaxQ.pushAll`: the `j`-th push crashes ⇒ the store after `j - 1` pushes with the crashed `j`-th push as per `pushF` -/
def pushAllF (fuse : Nat) : List (Item × P) → Store P → CR P (Store P)
  | [], s => pure s
  | e :: es, s => do
    let (s, _) ← pushF fuse s e.1 e.2
    pushAllF fuse es s

/-- twin of `MaxQ.extend`: rebuild strategy = store-level extend of *all* pairs, then the fused rebuild; push strategy = `pushAllF` -/
def extendF (fuse : Nat) (s : Store P) (lo : Nat) (xs : Array (Item × P)) : CR P (Store P) := do
  liftR (reserveC lo)
  let rebuild := if lo ≠ 0 then betterToRebuild s.size lo else false
  if rebuild then heapBuildF fuse (s.extend xs) else pushAllF fuse xs.toList s

/-- `iter_mut` whose guard is dropped normally: the writes of the program have been applied, then `Drop for IterMut` runs the
fused rebuild -/
def iterMutDropF (fuse : Nat) (s : Store P) (prog : List (ICall × IMWrite P)) : CR P (Store P × List IOut) := do
  let n := s.map.size
  let (outs, m) ← liftR (iterMutRun .pq n prog PIterMut.new (DIterMut.new n) s.map)
  let s ← heapBuildF fuse { s with map := m }
  pure (s, outs)

end MaxQ

/-! ## `double_priority_queue/mod.rs` -/
namespace DQ
open PQ.DQ

/-- the fold of `Iterator::min_by_key`, one fused comparison per remaining candidate, in list order -/
def minFoldF (fuse : Nat) : List (Nat × P) → Store P → Nat × P → CR P (Store P × (Nat × P))
  | [], s, acc => pure (s, acc)
  | y :: ys, s, acc => do
    let (s, lt) ← cmpF fuse s y.2 acc.2
    minFoldF fuse ys s (if lt then y else acc)

/-- the fold of `Iterator::max_by_key` -/
def maxFoldF (fuse : Nat) : List (Nat × P) → Store P → Nat × P → CR P (Store P × (Nat × P))
  | [], s, acc => pure (s, acc)
  | y :: ys, s, acc => do
    let (s, lt) ← cmpF fuse s y.2 acc.2
    maxFoldF fuse ys s (if lt then acc else y)

/-- twin of `DQ.minByKey`: `length - 1` fused comparisons; returns the store with the counter advanced by the comparisons made;
a crash in the middle of the fold leaves the store unchanged apart from the counter -/
def minByKeyF (fuse : Nat) (s : Store P) : List (Nat × P) → CR P (Store P × Option (Nat × P))
  | [] => pure (s, none)
  | x :: xs => do
    let (s, r) ← minFoldF fuse xs s x
    pure (s, some r)

/-- twin of `DQ.maxByKey` -/
def maxByKeyF (fuse : Nat) (s : Store P) : List (Nat × P) → CR P (Store P × Option (Nat × P))
  | [] => pure (s, none)
  | x :: xs => do
    let (s, r) ← maxFoldF fuse xs s x
    pure (s, some r)

/-- twin of `DQ.heapifyMinLoop`: three comparison sites per iteration (the fold, `pc < pm`, grandchild against its parent), all
between complete statements: crash ⇒ the store at that moment (a crash at the third site leaves the first swap done) -/
def heapifyMinLoopF (fuse : Nat) : Nat → Store P → Nat → CR P (Store P)
  | 0, _, _ => .error (.fault .fuel)
  | fuel + 1, s, i => do
    let last ← liftR (decC s.size 301)
    let bound ← liftR (parentC last 302)
    if i ≤ bound then do
      let m := i
      let cs ← liftR (candidates s i)
      let (s, c) ← minByKeyF fuse s cs
      let c ← liftR (unwrapO c 304)
      let c := c.1
      let pc ← liftR (s.prioAt c)
      let pm ← liftR (s.prioAt m)
      let (s, lt) ← cmpF fuse s pc pm
      if lt then do
        let s ← liftR (s.swap c m)
        if c > right m then do
          let p ← liftR (parentC c 305)
          let pc ← liftR (s.prioAt c)
          let pp ← liftR (s.prioAt p)
          let (s, lt) ← cmpF fuse s pp pc
          let s ← if lt then liftR (s.swap c p) else pure s
          heapifyMinLoopF fuse fuel s c
        else pure s
      else pure s
    else pure s

/-- twin of `DQ.heapifyMaxLoop` -/
def heapifyMaxLoopF (fuse : Nat) : Nat → Store P → Nat → CR P (Store P)
  | 0, _, _ => .error (.fault .fuel)
  | fuel + 1, s, i => do
    let last ← liftR (decC s.size 306)
    let bound ← liftR (parentC last 307)
    if i ≤ bound then do
      let m := i
      let cs ← liftR (candidates s i)
      let (s, c) ← maxByKeyF fuse s cs
      let c ← liftR (unwrapO c 308)
      let c := c.1
      let pc ← liftR (s.prioAt c)
      let pm ← liftR (s.prioAt m)
      let (s, lt) ← cmpF fuse s pm pc
      if lt then do
        let s ← liftR (s.swap c m)
        if c > right m then do
          let p ← liftR (parentC c 309)
          let pc ← liftR (s.prioAt c)
          let pp ← liftR (s.prioAt p)
          let (s, lt) ← cmpF fuse s pc pp
          let s ← if lt then liftR (s.swap c p) else pure s
          heapifyMaxLoopF fuse fuel s c
        else pure s
      else pure s
    else pure s

/-- twin of `DQ.heapify` -/
def heapifyF (fuse : Nat) (s : Store P) (i : Nat) : CR P (Store P) :=
  if s.size ≤ 1 then pure s
  else if level i % 2 = 0 then heapifyMinLoopF fuse s.size s i
  else heapifyMaxLoopF fuse s.size s i

/-- twin of `DQ.bubbleUpMinLoop`; `Hole` guard alive: crash ⇒ the hole is filled at the current `position` -/
def bubbleUpMinLoopF (fuse mapPosition : Nat) : Nat → Store P → Nat → P → CR P (Store P × Nat)
  | 0, _, _, _ => .error (.fault .fuel)
  | fuel + 1, s, position, priority =>
    if position > 0 ∧ parent position > 0 then do
      let gp := parent (parent position)
      let gpp ← liftR (s.prioAt gp)
      let (s, lt) ← cmpHoleF fuse s priority gpp position mapPosition 316 317
      if lt then do
        let gpi ← liftR (getU s.heap gp 320)
        let heap ← liftR (setU s.heap position gpi 321)
        let qp ← liftR (setU s.qp gpi position 322)
        bubbleUpMinLoopF fuse mapPosition fuel { s with heap := heap, qp := qp } gp priority
      else pure (s, position)
    else pure (s, position)

/-- twin of `DQ.bubbleUpMaxLoop` -/
def bubbleUpMaxLoopF (fuse mapPosition : Nat) : Nat → Store P → Nat → P → CR P (Store P × Nat)
  | 0, _, _, _ => .error (.fault .fuel)
  | fuel + 1, s, position, priority =>
    if position > 0 ∧ parent position > 0 then do
      let gp := parent (parent position)
      let gpp ← liftR (s.prioAt gp)
      let (s, lt) ← cmpHoleF fuse s gpp priority position mapPosition 316 317
      if lt then do
        let gpi ← liftR (getU s.heap gp 323)
        let heap ← liftR (setU s.heap position gpi 324)
        let qp ← liftR (setU s.qp gpi position 325)
        bubbleUpMaxLoopF fuse mapPosition fuel { s with heap := heap, qp := qp } gp priority
      else pure (s, position)
    else pure (s, position)

/-- twin of `DQ.bubbleUpMin` -/
def bubbleUpMinF (fuse : Nat) (s : Store P) (position mapPosition : Nat) : CR P (Store P × Nat) := do
  let e ← liftR (unwrapO (s.map.getIndex mapPosition) 318)
  bubbleUpMinLoopF fuse mapPosition (position + 1) s position e.2

/-- twin of `DQ.bubbleUpMax` -/
def bubbleUpMaxF (fuse : Nat) (s : Store P) (position mapPosition : Nat) : CR P (Store P × Nat) := do
  let e ← liftR (unwrapO (s.map.getIndex mapPosition) 319)
  bubbleUpMaxLoopF fuse mapPosition (position + 1) s position e.2

/-- twin of `DQ.bubbleUp`.  The `Hole` guard is created before the comparison with the parent and that comparison happens before
any write: a crash there fills the hole at the original `position` (on a well-formed store: the tables as they were).  In the two
"crossing" cases the parent's slot is moved into the hole first, the hole is then at the parent's position, and the grandparent
loop runs (and crashes) from there. -/
def bubbleUpF (fuse : Nat) (s : Store P) (position mapPosition : Nat) : CR P (Store P × Nat) := do
  let e ← liftR (unwrapO (s.map.getIndex mapPosition) 310)
  let priority := e.2
  let (s, position) ←
    if position > 0 then do
      let par := parent position
      let pp ← liftR (s.prioAt par)
      let parentIndex ← liftR (getU s.heap par 311)
      let (s, lt) ← cmpHoleF fuse s pp priority position mapPosition 316 317
      match decide (level position % 2 = 0), lt with
      | true, true => do
        let heap ← liftR (setU s.heap position parentIndex 312)
        let qp ← liftR (setU s.qp parentIndex position 313)
        bubbleUpMaxF fuse { s with heap := heap, qp := qp } par mapPosition
      | true, false => bubbleUpMinF fuse s position mapPosition
      | false, true => bubbleUpMaxF fuse s position mapPosition
      | false, false => do
        let heap ← liftR (setU s.heap position parentIndex 314)
        let qp ← liftR (setU s.qp parentIndex position 315)
        bubbleUpMinF fuse { s with heap := heap, qp := qp } par mapPosition
    else pure (s, position)
  let heap ← liftR (setU s.heap position mapPosition 316)
  let qp ← liftR (setU s.qp mapPosition position 317)
  pure ({ s with heap := heap, qp := qp }, position)

/-- twin of `DQ.upHeapify`: fused sift-up (hole filled on a crash), then the fused sift-downs of the vacated and the final position -/
def upHeapifyF (fuse : Nat) (s : Store P) (i : Nat) : CR P (Store P) :=
  match s.heap[i]? with
  | none => pure s
  | some tmp => do
    let (s, pos) ← bubbleUpF fuse s i tmp
    let s ← if i ≠ pos then heapifyF fuse s i else pure s
    heapifyF fuse s pos

/-- twin of `DQ.heapBuildLoop` -/
def heapBuildLoopF (fuse : Nat) (s : Store P) : Nat → CR P (Store P)
  | 0 => heapifyF fuse s 0
  | k + 1 => do
    let s ← heapifyF fuse s (k + 1)
    heapBuildLoopF fuse s k

/-- twin of `DQ.heapBuild` -/
def heapBuildF (fuse : Nat) (s : Store P) : CR P (Store P) :=
  if s.size = 0 then pure s
  else do
    let top ← liftR (parentC s.size 326)
    heapBuildLoopF fuse s top

/-- twin of `DQ.findMax`: one comparison (`max_by_key` over positions 1 and 2), `&self`: crash ⇒ the store unchanged -/
def findMaxF (fuse : Nat) (s : Store P) : CR P (Store P × Option Nat) :=
  match s.size with
  | 0 => pure (s, none)
  | 1 => pure (s, some 0)
  | 2 => pure (s, some 1)
  | _ => do
    let p1 ← liftR (s.prioAt 1)
    let p2 ← liftR (s.prioAt 2)
    let (s, lt) ← cmpF fuse s p2 p1
    pure (s, some (if lt then 1 else 2))

/-! ### public operations -/

/-- twin of `DQ.peekMax` -/
def peekMaxF (fuse : Nat) (s : Store P) : CR P (Store P × Option (Item × P)) := do
  let (s, r) ← findMaxF fuse s
  match r with
  | none => pure (s, none)
  | some i => do
    let e ← liftR (entryAt s i 328)
    pure (s, e)

/-- twin of `DQ.peekMaxMutWrite` (needed by `stepF`): `find_max` runs before the reference is handed out: crash ⇒ the caller's
write never happens, the store is unchanged -/
def peekMaxMutWriteF (fuse : Nat) (s : Store P) (w : Item → Item) : CR P (Store P × Option (Item × P)) := do
  let (s, r) ← findMaxF fuse s
  match r with
  | none => pure (s, none)
  | some pos => do
    let i ← liftR (getU s.heap pos 330)
    match s.map.getIndex i with
    | some e => pure ({ s with map := s.map.setItem i (w e.1) }, some e)
    | none => pure (s, none)

/-- twin of `DQ.popMin`: the removal is complete when the sift-down can crash -/
def popMinF (fuse : Nat) (s : Store P) : CR P (Store P × Option (Item × P)) :=
  match findMin s with
  | none => pure (s, none)
  | some i => do
    let (s, r) ← liftR (s.swapRemove i)
    let s ← heapifyF fuse s i
    pure (s, r)

/-- twin of `DQ.popMax`: crash in `find_max` ⇒ unchanged; afterwards as `popMinF` -/
def popMaxF (fuse : Nat) (s : Store P) : CR P (Store P × Option (Item × P)) := do
  let (s, r) ← findMaxF fuse s
  match r with
  | none => pure (s, none)
  | some i => do
    let (s, r) ← liftR (s.swapRemove i)
    let s ← heapifyF fuse s i
    pure (s, r)

/-- twin of `DQ.popMinIf` -/
def popMinIfF (fuse : Nat) (s : Store P) (f : Item → P → Bool × Item × P) : CR P (Store P × Option (Item × P)) :=
  match findMin s with
  | none => pure (s, none)
  | some i => do
    let (s, r) ← liftR (s.swapRemoveIf i f)
    let s ← heapifyF fuse s i
    pure (s, r)

/-- twin of `DQ.popMaxIf`: `find_max` (crash ⇒ predicate not called, unchanged), predicate and removal, then the fused `upHeapifyF` -/
def popMaxIfF (fuse : Nat) (s : Store P) (f : Item → P → Bool × Item × P) : CR P (Store P × Option (Item × P)) := do
  let (s, r) ← findMaxF fuse s
  match r with
  | none => pure (s, none)
  | some i => do
    let (s, r) ← liftR (s.swapRemoveIf i f)
    let s ← upHeapifyF fuse s i
    pure (s, r)

/-- twin of `DQ.push` in the statement order of the current crate (see `MaxQ.pushF`) -/
def pushF (fuse : Nat) (s : Store P) (it : Item) (p : P) : CR P (Store P × Option P) :=
  let (map, idx, old) := s.map.insertFull it p
  let s := { s with map := map }
  match old with
  | some oldp => do
    let pos ← liftR (getU s.qp idx 331)
    let s ← upHeapifyF fuse s pos
    pure (s, some oldp)
  | none => do
    let i := s.size
    let s := { s with qp := s.qp.push i, heap := s.heap.push i, size := s.size + 1 }
    let (s, _) ← bubbleUpF fuse s i i
    pure (s, none)

/-- twin of `DQ.pushIncrease`: crash in the pre-check ⇒ the store untouched -/
def pushIncreaseF (fuse : Nat) (s : Store P) (it : Item) (p : P) : CR P (Store P × Option P) :=
  match s.getPriority it.key with
  | none => pushF fuse s it p
  | some q => do
    let (s, lt) ← cmpF fuse s q p
    if lt then pushF fuse s it p else pure (s, some p)

/-- twin of `DQ.pushDecrease` -/
def pushDecreaseF (fuse : Nat) (s : Store P) (it : Item) (p : P) : CR P (Store P × Option P) :=
  match s.getPriority it.key with
  | none => pushF fuse s it p
  | some q => do
    let (s, lt) ← cmpF fuse s p q
    if lt then pushF fuse s it p else pure (s, some p)

/-- twin of `DQ.changePriority` -/
def changePriorityF (fuse : Nat) (s : Store P) (k : Nat) (p : P) : CR P (Store P × Option P) := do
  let (s, r) ← liftR (s.changePriority k p)
  match r with
  | some (old, pos) => do
    let s ← upHeapifyF fuse s pos
    pure (s, some old)
  | none => pure (s, none)

/-- twin of `DQ.changePriorityBy` -/
def changePriorityByF (fuse : Nat) (s : Store P) (k : Nat) (setter : P → P) : CR P (Store P × Bool) := do
  let (s, r) ← liftR (s.changePriorityBy k setter)
  match r with
  | some pos => do
    let s ← upHeapifyF fuse s pos
    pure (s, true)
  | none => pure (s, false)

/-- twin of `DQ.remove` -/
def removeF (fuse : Nat) (s : Store P) (k : Nat) : CR P (Store P × Option (Item × P)) := do
  let (s, r) ← liftR (s.remove k)
  match r with
  | some (it, p, pos) =>
    if pos < s.size then do
      let s ← upHeapifyF fuse s pos
      pure (s, some (it, p))
    else pure (s, some (it, p))
  | none => pure (s, none)

/-- twin of `DQ.retainMut` -/
def retainMutF (fuse : Nat) (s : Store P) (f : Item → P → Bool × Item × P) : CR P (Store P) :=
  heapBuildF fuse (s.retainMut f)

/-- twin of `DQ.append` (on a crash only the receiver's store is reported) -/
def appendF (fuse : Nat) (s o : Store P) : CR P (Store P × Store P) := do
  let (s, o) := s.append o
  let s ← heapBuildF fuse s
  pure (s, o)

/-- twin of `DQ.ofStore` (`From<PriorityQueue>`): the consumed queue's store is rebuilt in place -/
def ofStoreF (fuse : Nat) (s : Store P) : CR P (Store P) := heapBuildF fuse s

/-- twins of the constructors: a crash of the rebuild drops the new queue (`Stop.crashedNew`) -/
def fromVecF (fuse : Nat) (v : Array (Item × P)) : CR P (Store P) := asNew (heapBuildF fuse (Store.fromVec v))
/-- the capacity request comes first (no comparison yet): an announced lower bound `≥ capLimit` is the capacity panic -/
def fromIterF (fuse : Nat) (lo : Nat) (xs : Array (Item × P)) : CR P (Store P) := do
  liftR (reserveC lo)
  asNew (heapBuildF fuse (Store.fromIter xs))
/-- the (capped) pre-allocation comes first: it never fails -/
def deserializeF (fuse : Nat) (hint : Option Nat) (xs : Array (Item × P)) : CR P (Store P) := do
  liftR (match hint with | some h => reserveC (min h 4096) | none => pure ())
  asNew (heapBuildF fuse (Store.visitSeq xs))

/-- twin of `DQ.pushAll` -/
def pushAllF (fuse : Nat) : List (Item × P) → Store P → CR P (Store P)
  | [], s => pure s
  | e :: es, s => do
    let (s, _) ← pushF fuse s e.1 e.2
    pushAllF fuse es s

/-- twin of `DQ.extend` -/
def extendF (fuse : Nat) (s : Store P) (lo : Nat) (xs : Array (Item × P)) : CR P (Store P) := do
  liftR (reserveC lo)
  let rebuild := if lo ≠ 0 then betterToRebuild s.size lo else false
  if rebuild then heapBuildF fuse (s.extend xs) else pushAllF fuse xs.toList s

/-- `iter_mut` whose guard is dropped normally (see `MaxQ.iterMutDropF`) -/
def iterMutDropF (fuse : Nat) (s : Store P) (prog : List (ICall × IMWrite P)) : CR P (Store P × List IOut) := do
  let n := s.map.size
  let (outs, m) ← liftR (iterMutRun .dpq n prog PIterMut.new (DIterMut.new n) s.map)
  let s ← heapBuildF fuse { s with map := m }
  pure (s, outs)

end DQ

/-! ## Histories -/

/-- why a fused *operation on a queue* stopped.  Like `Stop`, but the crashed state carries its kind: `From<other kind>` leaves a
partially rebuilt queue of the *target* kind. -/
inductive StopQ (P : Type) where
  | fault (f : Fault)
  /-- the fuse fired: `q` is the queue (kind and store) that exists after unwinding -/
  | crashed (q : Q P)
  /-- the fuse fired while a fresh queue was being built: it is dropped; the queue the history had before is untouched -/
  | crashedNew

abbrev CRQ (P : Type) (α : Type) := Except (StopQ P) α

/-- tag the crashed store of a `CR` computation with the kind of queue it belongs to -/
def liftQ {P α : Type} (kind : Kind) : CR P α → CRQ P α
  | .ok a => .ok a
  | .error (.fault f) => .error (.fault f)
  | .error (.crashed s) => .error (.crashed { kind := kind, s := s })
  | .error .crashedNew => .error .crashedNew

/-- the queue a caller holds after an operation on `q` stopped (none after a fault) -/
def StopQ.survivor {P : Type} (q : Q P) : StopQ P → Option (Q P)
  | .fault _ => none
  | .crashed q' => some q'
  | .crashedNew => some q

/-- twin of `heapBuildK` -/
def heapBuildKF (fuse : Nat) (kind : Kind) (s : Store P) : CR P (Store P) :=
  match kind with
  | .pq => MaxQ.heapBuildF fuse s
  | .dpq => DQ.heapBuildF fuse s

/-- twin of `Ops.step`.  Operations that compare no priorities are lifted (`liftR`).  `.convert` reports the partially rebuilt
queue with the *target* kind; `.fromVec/.fromIter/.deserialize` report `StopQ.crashedNew`. -/
def stepF (fuse : Nat) (q : Q P) : Op P → CRQ P (Q P × Out P)
  | .push it p => do
    let (s, r) ← liftQ q.kind (match q.kind with | .pq => MaxQ.pushF fuse q.s it p | .dpq => DQ.pushF fuse q.s it p)
    pure ({ q with s := s }, .prio r)
  | .pushIncrease it p => do
    let (s, r) ← liftQ q.kind
      (match q.kind with | .pq => MaxQ.pushIncreaseF fuse q.s it p | .dpq => DQ.pushIncreaseF fuse q.s it p)
    pure ({ q with s := s }, .prio r)
  | .pushDecrease it p => do
    let (s, r) ← liftQ q.kind
      (match q.kind with | .pq => MaxQ.pushDecreaseF fuse q.s it p | .dpq => DQ.pushDecreaseF fuse q.s it p)
    pure ({ q with s := s }, .prio r)
  | .changePriority k p => do
    let (s, r) ← liftQ q.kind
      (match q.kind with | .pq => MaxQ.changePriorityF fuse q.s k p | .dpq => DQ.changePriorityF fuse q.s k p)
    pure ({ q with s := s }, .prio r)
  | .changePriorityBy k g => do
    let (s, r) ← liftQ q.kind
      (match q.kind with | .pq => MaxQ.changePriorityByF fuse q.s k g | .dpq => DQ.changePriorityByF fuse q.s k g)
    pure ({ q with s := s }, .bool r)
  | .remove k => do
    let (s, r) ← liftQ q.kind (match q.kind with | .pq => MaxQ.removeF fuse q.s k | .dpq => DQ.removeF fuse q.s k)
    pure ({ q with s := s }, .entry r)
  | .getMut k w =>
    let (s, r) := q.s.getMutWrite k w
    pure ({ q with s := s }, .entry r)
  | .popFront => do
    let (s, r) ← liftQ q.kind (match q.kind with | .pq => MaxQ.popF fuse q.s | .dpq => DQ.popMinF fuse q.s)
    pure ({ q with s := s }, .entry r)
  | .popBack =>
    match q.kind with
    | .pq => pure (q, .unit)
    | .dpq => do
      let (s, r) ← liftQ q.kind (DQ.popMaxF fuse q.s)
      pure ({ q with s := s }, .entry r)
  | .popFrontIf f => do
    let (s, r) ← liftQ q.kind (match q.kind with | .pq => MaxQ.popIfF fuse q.s f | .dpq => DQ.popMinIfF fuse q.s f)
    pure ({ q with s := s }, .entry r)
  | .popBackIf f =>
    match q.kind with
    | .pq => pure (q, .unit)
    | .dpq => do
      let (s, r) ← liftQ q.kind (DQ.popMaxIfF fuse q.s f)
      pure ({ q with s := s }, .entry r)
  | .peekFrontMut w => do
    let (s, r) ← liftQ q.kind
      (liftR (match q.kind with | .pq => PQ.MaxQ.peekMutWrite q.s w | .dpq => PQ.DQ.peekMinMutWrite q.s w))
    pure ({ q with s := s }, .entry r)
  | .peekBackMut w =>
    match q.kind with
    | .pq => pure (q, .unit)
    | .dpq => do
      let (s, r) ← liftQ q.kind (DQ.peekMaxMutWriteF fuse q.s w)
      pure ({ q with s := s }, .entry r)
  | .retainMut f => do
    let s ← liftQ q.kind (match q.kind with | .pq => MaxQ.retainMutF fuse q.s f | .dpq => DQ.retainMutF fuse q.s f)
    pure ({ q with s := s }, .unit)
  | .iterMut leak prog => do
    let n := q.s.map.size
    let (outs, m) ← liftQ q.kind (liftR (iterMutRun q.kind n prog PIterMut.new (DIterMut.new n) q.s.map))
    let s1 := { q.s with map := m }
    let s ← if leak then pure s1 else liftQ q.kind (heapBuildKF fuse q.kind s1)
    pure ({ q with s := s }, .outs outs)
  | .extend lo xs => do
    let s ← liftQ q.kind (match q.kind with | .pq => MaxQ.extendF fuse q.s lo xs | .dpq => DQ.extendF fuse q.s lo xs)
    pure ({ q with s := s }, .unit)
  | .append o => do
    let (s, o') ← liftQ q.kind
      (match q.kind with
       | .pq => MaxQ.appendF fuse q.s o
       | .dpq => DQ.appendF fuse q.s o)
    pure ({ q with s := s }, .other o'.size o'.map.size o'.heap.size o'.qp.size)
  | .fromVec xs => do
    let s ← liftQ q.kind (match q.kind with | .pq => MaxQ.fromVecF fuse xs | .dpq => DQ.fromVecF fuse xs)
    pure ({ q with s := s }, .unit)
  | .fromIter lo xs => do
    let s ← liftQ q.kind (match q.kind with | .pq => MaxQ.fromIterF fuse lo xs | .dpq => DQ.fromIterF fuse lo xs)
    pure ({ q with s := s }, .unit)
  | .deserialize hint xs => do
    let s ← liftQ q.kind
      (match q.kind with | .pq => MaxQ.deserializeF fuse hint xs | .dpq => DQ.deserializeF fuse hint xs)
    pure ({ q with s := s }, .unit)
  | .convert =>
    match q.kind with
    | .pq => do
      let s ← liftQ .dpq (DQ.ofStoreF fuse q.s)
      pure ({ kind := .dpq, s := s }, .unit)
    | .dpq => do
      let s ← liftQ .pq (MaxQ.ofStoreF fuse q.s)
      pure ({ kind := .pq, s := s }, .unit)
  | .clear => pure ({ q with s := q.s.clear }, .unit)
  | .drain =>
    let (es, s) := q.s.drain
    pure ({ q with s := s }, .entries es.toList)
  | .capacityOp => pure (q, .unit)

/-! ## Executable checkers (used by the sanity examples below) -/

/-- every key of the map occurs once -/
def noDupKeysB (m : IMap P) : Bool :=
  (List.range m.size).all fun i => (List.range i).all fun j =>
    match m[i]?, m[j]? with
    | some a, some b => a.1.key != b.1.key
    | _, _ => false

/-- the Bool form of `Store.WF`: all lengths equal `size`, `heap` and `qp` are mutually inverse permutations of `0..size`, keys
are unique -/
def wfB (s : Store P) : Bool :=
  s.map.size == s.size && s.heap.size == s.size && s.qp.size == s.size &&
  ((List.range s.size).all fun p =>
    match s.heap[p]? with
    | some i => s.qp[i]? == some p
    | none => false) &&
  ((List.range s.size).all fun i =>
    match s.qp[i]? with
    | some p => s.heap[p]? == some i
    | none => false) &&
  noDupKeysB s.map

/-- equality of stores, ghost counter included -/
def Store.eqB [DecidableEq P] (a b : Store P) : Bool :=
  a.map == b.map && a.heap == b.heap && a.qp == b.qp && a.size == b.size && a.ticks == b.ticks

/-- a fused result agrees with a plain one: both `.ok` with `eqv`-equal values, or the same fault -/
def agreeB {α : Type} (eqv : α → α → Bool) : CR P α → R α → Bool
  | .ok a, .ok b => eqv a b
  | .error (.fault f), .error g => f == g
  | _, _ => false

/-- the store a crashed computation leaves, if it crashed (with a surviving store) -/
def crashedStore? {α : Type} : CR P α → Option (Store P)
  | .error (.crashed s) => some s
  | _ => none

end PQ.Crash

/-! ## Sanity checks (scratch) -/
namespace PQ.Crash.Sanity
open PQ PQ.Crash

private def eS : Store Nat → Store Nat → Bool := Store.eqB
private def eSO {α : Type} [DecidableEq α] : Store Nat × α → Store Nat × α → Bool :=
  fun a b => Store.eqB a.1 b.1 && decide (a.2 = b.2)
private def eSS : Store Nat × Store Nat → Store Nat × Store Nat → Bool :=
  fun a b => Store.eqB a.1 b.1 && Store.eqB a.2 b.2
private def eQO (a b : Q Nat × Out Nat) : Bool :=
  decide (a.1.kind = b.1.kind) && Store.eqB a.1.s b.1.s &&
  (match a.2, b.2 with
   | .unit, .unit => true
   | .prio x, .prio y => decide (x = y)
   | .entry x, .entry y => decide (x = y)
   | .bool x, .bool y => x == y
   | .entries x, .entries y => decide (x = y)
   | .outs x, .outs y => decide (x = y)
   | .other a b c d, .other a' b' c' d' => decide (a = a' ∧ b = b' ∧ c = c' ∧ d = d')
   | _, _ => false)

private def it (k : Nat) : Item := ⟨k, 100 + k⟩
/-- seven distinct keys, priorities in no particular order -/
private def v7 : Array (Item × Nat) := #[(it 1, 30), (it 2, 10), (it 3, 70), (it 4, 20), (it 5, 60), (it 6, 50), (it 7, 40)]
private def v3 : Array (Item × Nat) := #[(it 8, 65), (it 2, 99), (it 9, 5)]
private def get (r : R (Store Nat)) : Store Nat := match r with | .ok s => s | .error _ => Store.empty
/-- a 7-element max-heap / min-max heap, counter left where the construction put it (non-zero) -/
private def m7 : Store Nat := get (PQ.MaxQ.fromVec v7)
private def d7 : Store Nat := get (PQ.DQ.fromVec v7)
/-- nine elements: large enough for `betterToRebuild` to choose the rebuild strategy of `extend` -/
private def m9 : Store Nat := get (PQ.MaxQ.fromVec (v7 ++ v3))
private def d9 : Store Nat := get (PQ.DQ.fromVec (v7 ++ v3))
private def w3 : Array (Item × Nat) := #[(it 10, 77), (it 3, 2), (it 11, 1)]
private def keepOdd (i : Item) (p : Nat) : Bool × Item × Nat := (i.key % 2 == 1, { i with payload := 7 }, p + 1)
private def popYes (i : Item) (p : Nat) : Bool × Item × Nat := (true, i, p + 5)
private def popNo (i : Item) (p : Nat) : Bool × Item × Nat := (false, i, p - 25)
private def prog : List (ICall × IMWrite Nat) :=
  [(.next, ⟨some 5, none⟩), (.next, ⟨some 90, some 1⟩), (.next, ⟨none, none⟩), (.next, ⟨some 45, none⟩)]

private theorem eq_mk {s : Store Nat} {m : IMap Nat} {h q : Array Nat} {n t : Nat}
    (e : s.map = m ∧ s.heap = h ∧ s.qp = q ∧ s.size = n ∧ s.ticks = t) : s = ⟨m, h, q, n, t⟩ := by
  obtain ⟨rfl, rfl, rfl, rfl, rfl⟩ := e
  rfl

/-! The four start stores, evaluated once; the checks below rewrite with these equations and evaluate the operation only. -/
private theorem m7_eq : m7 = ⟨v7, #[2, 4, 5, 3, 1, 0, 6], #[5, 4, 0, 3, 1, 2, 6], 7, 8⟩ := eq_mk (by decide +kernel)
private theorem d7_eq : d7 = ⟨v7, #[1, 4, 2, 3, 0, 5, 6], #[4, 0, 2, 3, 1, 5, 6], 7, 11⟩ := eq_mk (by decide +kernel)
private theorem m9_eq :
    m9 = ⟨v7 ++ #[(it 8, 65), (it 9, 5)], #[2, 7, 5, 3, 4, 0, 6, 1, 8], #[5, 7, 0, 3, 4, 2, 6, 1, 8], 9, 12⟩ :=
  eq_mk (by decide +kernel)
private theorem d9_eq :
    d9 = ⟨v7 ++ #[(it 8, 65), (it 9, 5)], #[8, 7, 2, 1, 4, 5, 6, 0, 3], #[7, 3, 2, 8, 4, 5, 6, 1, 0], 9, 18⟩ :=
  eq_mk (by decide +kernel)

example : wfB m7 = true ∧ m7.size = 7 ∧ m7.ticks ≠ 0 := by
  rw [m7_eq]
  decide +kernel
example : wfB d7 = true ∧ d7.size = 7 ∧ d7.ticks ≠ 0 := by
  rw [d7_eq]
  decide +kernel

/-! ### (1) with the fuse off each twin returns exactly the plain result -/
section fuseOff
-- max-heap
example : agreeB eSO (MaxQ.pickLargestF 0 m7 0) (PQ.MaxQ.pickLargest m7 0) = true := by
  rw [m7_eq]
  decide +kernel
example : agreeB eS (MaxQ.heapifyF 0 m7 0) (PQ.MaxQ.heapify m7 0) = true := by
  rw [m7_eq]
  decide +kernel
example : agreeB eSO (MaxQ.bubbleUpF 0 m7 6 (m7.heap[6]!)) (PQ.MaxQ.bubbleUp m7 6 (m7.heap[6]!)) = true := by
  rw [m7_eq]
  decide +kernel
example : agreeB eS (MaxQ.upHeapifyF 0 m7 5) (PQ.MaxQ.upHeapify m7 5) = true := by
  rw [m7_eq]
  decide +kernel
example : agreeB eS (MaxQ.heapBuildF 0 (Store.fromVec v7)) (PQ.MaxQ.heapBuild (Store.fromVec v7)) = true := by decide +kernel
example : agreeB eSO (MaxQ.popF 0 m7) (PQ.MaxQ.pop m7) = true := by
  rw [m7_eq]
  decide +kernel
example : agreeB eSO (MaxQ.popIfF 0 m7 popYes) (PQ.MaxQ.popIf m7 popYes) = true := by
  rw [m7_eq]
  decide +kernel
example : agreeB eSO (MaxQ.popIfF 0 m7 popNo) (PQ.MaxQ.popIf m7 popNo) = true := by
  rw [m7_eq]
  decide +kernel
example : agreeB eSO (MaxQ.pushF 0 m7 (it 8) 99) (PQ.MaxQ.push m7 (it 8) 99) = true := by
  rw [m7_eq]
  decide +kernel
example : agreeB eSO (MaxQ.pushF 0 m7 (it 2) 99) (PQ.MaxQ.push m7 (it 2) 99) = true := by
  rw [m7_eq]
  decide +kernel
example : agreeB eSO (MaxQ.pushF 0 m7 (it 3) 1) (PQ.MaxQ.push m7 (it 3) 1) = true := by
  rw [m7_eq]
  decide +kernel
example : agreeB eSO (MaxQ.pushIncreaseF 0 m7 (it 2) 99) (PQ.MaxQ.pushIncrease m7 (it 2) 99) = true := by
  rw [m7_eq]
  decide +kernel
example : agreeB eSO (MaxQ.pushIncreaseF 0 m7 (it 2) 1) (PQ.MaxQ.pushIncrease m7 (it 2) 1) = true := by
  rw [m7_eq]
  decide +kernel
example : agreeB eSO (MaxQ.pushDecreaseF 0 m7 (it 3) 1) (PQ.MaxQ.pushDecrease m7 (it 3) 1) = true := by
  rw [m7_eq]
  decide +kernel
example : agreeB eSO (MaxQ.pushDecreaseF 0 m7 (it 9) 1) (PQ.MaxQ.pushDecrease m7 (it 9) 1) = true := by
  rw [m7_eq]
  decide +kernel
example : agreeB eSO (MaxQ.changePriorityF 0 m7 3 1) (PQ.MaxQ.changePriority m7 3 1) = true := by
  rw [m7_eq]
  decide +kernel
example : agreeB eSO (MaxQ.changePriorityByF 0 m7 2 (· + 80)) (PQ.MaxQ.changePriorityBy m7 2 (· + 80)) = true := by
  rw [m7_eq]
  decide +kernel
example : agreeB eSO (MaxQ.removeF 0 m7 3) (PQ.MaxQ.remove m7 3) = true := by
  rw [m7_eq]
  decide +kernel
example : agreeB eSO (MaxQ.removeF 0 m7 5) (PQ.MaxQ.remove m7 5) = true := by
  rw [m7_eq]
  decide +kernel
example : agreeB eS (MaxQ.retainMutF 0 m7 keepOdd) (PQ.MaxQ.retainMut m7 keepOdd) = true := by
  rw [m7_eq]
  decide +kernel
example : agreeB eSS (MaxQ.appendF 0 m7 (Store.fromVec v3)) (PQ.MaxQ.append m7 (Store.fromVec v3)) = true := by
  rw [m7_eq]
  decide +kernel
example : agreeB eSS (MaxQ.appendF 0 (Store.fromVec v3) m7) (PQ.MaxQ.append (Store.fromVec v3) m7) = true := by
  rw [m7_eq]
  decide +kernel
example : agreeB eS (MaxQ.extendF 0 m7 0 v3) (PQ.MaxQ.extend m7 0 v3) = true := by
  rw [m7_eq]
  decide +kernel
example : agreeB eS (MaxQ.extendF 0 m9 100 w3) (PQ.MaxQ.extend m9 100 w3) = true ∧ PQ.Arith.betterToRebuild 9 100 = true := by
  rw [m9_eq]
  decide +kernel
example : agreeB eS (MaxQ.ofStoreF 0 d7) (PQ.MaxQ.ofStore d7) = true := by
  rw [d7_eq]
  decide +kernel
example : agreeB eS (MaxQ.fromVecF 0 v7) (PQ.MaxQ.fromVec v7) = true := by decide +kernel
example : agreeB eS (MaxQ.fromIterF 0 10 (v7 ++ v3)) (PQ.MaxQ.fromIter 10 (v7 ++ v3)) = true := by decide +kernel
example : agreeB eS (MaxQ.deserializeF 0 (some (2 ^ 64 - 1)) (v7 ++ v3)) (PQ.MaxQ.deserialize (some (2 ^ 64 - 1)) (v7 ++ v3)) = true := by decide +kernel
-- min-max heap
example : agreeB eS (DQ.heapifyF 0 d7 0) (PQ.DQ.heapify d7 0) = true := by
  rw [d7_eq]
  decide +kernel
example : agreeB eS (DQ.heapifyF 0 d7 1) (PQ.DQ.heapify d7 1) = true := by
  rw [d7_eq]
  decide +kernel
example : agreeB eSO (DQ.bubbleUpF 0 d7 6 (d7.heap[6]!)) (PQ.DQ.bubbleUp d7 6 (d7.heap[6]!)) = true := by
  rw [d7_eq]
  decide +kernel
example : agreeB eS (DQ.upHeapifyF 0 d7 4) (PQ.DQ.upHeapify d7 4) = true := by
  rw [d7_eq]
  decide +kernel
example : agreeB eS (DQ.heapBuildF 0 (Store.fromVec v7)) (PQ.DQ.heapBuild (Store.fromVec v7)) = true := by decide +kernel
example : agreeB eSO (DQ.findMaxF 0 d7) (PQ.DQ.findMax d7) = true := by
  rw [d7_eq]
  decide +kernel
example : agreeB eSO (DQ.peekMaxF 0 d7) (PQ.DQ.peekMax d7) = true := by
  rw [d7_eq]
  decide +kernel
example : agreeB eSO (DQ.peekMaxMutWriteF 0 d7 (fun i => { i with payload := 3 }))
    (PQ.DQ.peekMaxMutWrite d7 (fun i => { i with payload := 3 })) = true := by
  rw [d7_eq]
  decide +kernel
example : agreeB eSO (DQ.popMinF 0 d7) (PQ.DQ.popMin d7) = true := by
  rw [d7_eq]
  decide +kernel
example : agreeB eSO (DQ.popMaxF 0 d7) (PQ.DQ.popMax d7) = true := by
  rw [d7_eq]
  decide +kernel
example : agreeB eSO (DQ.popMinIfF 0 d7 popYes) (PQ.DQ.popMinIf d7 popYes) = true := by
  rw [d7_eq]
  decide +kernel
example : agreeB eSO (DQ.popMinIfF 0 d7 (fun i p => (false, i, p + 100))) (PQ.DQ.popMinIf d7 (fun i p => (false, i, p + 100))) = true := by
  rw [d7_eq]
  decide +kernel
example : agreeB eSO (DQ.popMaxIfF 0 d7 popYes) (PQ.DQ.popMaxIf d7 popYes) = true := by
  rw [d7_eq]
  decide +kernel
example : agreeB eSO (DQ.popMaxIfF 0 d7 popNo) (PQ.DQ.popMaxIf d7 popNo) = true := by
  rw [d7_eq]
  decide +kernel
example : agreeB eSO (DQ.pushF 0 d7 (it 8) 99) (PQ.DQ.push d7 (it 8) 99) = true := by
  rw [d7_eq]
  decide +kernel
example : agreeB eSO (DQ.pushF 0 d7 (it 8) 1) (PQ.DQ.push d7 (it 8) 1) = true := by
  rw [d7_eq]
  decide +kernel
example : agreeB eSO (DQ.pushF 0 d7 (it 2) 99) (PQ.DQ.push d7 (it 2) 99) = true := by
  rw [d7_eq]
  decide +kernel
example : agreeB eSO (DQ.pushIncreaseF 0 d7 (it 2) 99) (PQ.DQ.pushIncrease d7 (it 2) 99) = true := by
  rw [d7_eq]
  decide +kernel
example : agreeB eSO (DQ.pushDecreaseF 0 d7 (it 3) 1) (PQ.DQ.pushDecrease d7 (it 3) 1) = true := by
  rw [d7_eq]
  decide +kernel
example : agreeB eSO (DQ.changePriorityF 0 d7 3 1) (PQ.DQ.changePriority d7 3 1) = true := by
  rw [d7_eq]
  decide +kernel
example : agreeB eSO (DQ.changePriorityByF 0 d7 2 (· + 80)) (PQ.DQ.changePriorityBy d7 2 (· + 80)) = true := by
  rw [d7_eq]
  decide +kernel
example : agreeB eSO (DQ.removeF 0 d7 2) (PQ.DQ.remove d7 2) = true := by
  rw [d7_eq]
  decide +kernel
example : agreeB eS (DQ.retainMutF 0 d7 keepOdd) (PQ.DQ.retainMut d7 keepOdd) = true := by
  rw [d7_eq]
  decide +kernel
example : agreeB eSS (DQ.appendF 0 d7 (Store.fromVec v3)) (PQ.DQ.append d7 (Store.fromVec v3)) = true := by
  rw [d7_eq]
  decide +kernel
example : agreeB eS (DQ.extendF 0 d7 0 v3) (PQ.DQ.extend d7 0 v3) = true := by
  rw [d7_eq]
  decide +kernel
example : agreeB eS (DQ.extendF 0 d9 100 w3) (PQ.DQ.extend d9 100 w3) = true := by
  rw [d9_eq]
  decide +kernel
example : agreeB eS (DQ.ofStoreF 0 m7) (PQ.DQ.ofStore m7) = true := by
  rw [m7_eq]
  decide +kernel
example : agreeB eS (DQ.fromVecF 0 v7) (PQ.DQ.fromVec v7) = true := by decide +kernel
example : agreeB eS (DQ.fromIterF 0 10 (v7 ++ v3)) (PQ.DQ.fromIter 10 (v7 ++ v3)) = true := by decide +kernel
example : agreeB eS (DQ.deserializeF 0 none (v7 ++ v3)) (PQ.DQ.deserialize none (v7 ++ v3)) = true := by decide +kernel
-- histories
private def qm7 : Q Nat := ⟨.pq, m7⟩
private def qd7 : Q Nat := ⟨.dpq, d7⟩
private def agreeQ (a : CRQ Nat (Q Nat × Out Nat)) (b : R (Q Nat × Out Nat)) : Bool :=
  match a, b with
  | .ok x, .ok y => eQO x y
  | .error (.fault f), .error g => f == g
  | _, _ => false
private def ops : List (Op Nat) :=
  [.push (it 8) 99, .push (it 2) 1, .pushIncrease (it 2) 99, .pushDecrease (it 3) 1, .changePriority 3 1,
   .changePriorityBy 2 (· + 80), .remove 3, .getMut 4 (fun i => { i with payload := 0 }), .popFront, .popBack,
   .popFrontIf popYes, .popBackIf popNo, .peekFrontMut (fun i => { i with payload := 1 }),
   .peekBackMut (fun i => { i with payload := 2 }), .retainMut keepOdd, .iterMut false prog, .iterMut true prog,
   .extend 0 v3, .extend 100 w3, .append (Store.fromVec v3), .append m9, .fromVec v3, .fromIter 0 (v3 ++ w3),
   .fromIter 6 (v3 ++ w3), .fromIter (2 ^ 61) (v3 ++ w3), .extend (2 ^ 61) v3, .deserialize none (v3 ++ w3),
   .deserialize (some (2 ^ 64 - 1)) (v3 ++ w3), .convert, .clear,
   .drain, .capacityOp]
example : (ops.all fun op => agreeQ (stepF 0 qm7 op) (step qm7 op)) = true := by
  rw [qm7, m7_eq]
  decide +kernel
example : (ops.all fun op => agreeQ (stepF 0 qd7 op) (step qd7 op)) = true := by
  rw [qd7, d7_eq]
  decide +kernel
example : agreeB eSO (MaxQ.iterMutDropF 0 m7 prog)
    ((step qm7 (.iterMut false prog)).map fun r => (r.1.s, match r.2 with | .outs l => l | _ => [])) = true := by
  rw [qm7, m7_eq]
  decide +kernel
example : agreeB eSO (DQ.iterMutDropF 0 d7 prog)
    ((step qd7 (.iterMut false prog)).map fun r => (r.1.s, match r.2 with | .outs l => l | _ => [])) = true := by
  rw [qd7, d7_eq]
  decide +kernel
end fuseOff

/-! ### (2) crash states -/
section crash

/-- `push` of a new maximum into the 7-element max-heap makes exactly 3 comparisons (hole at 7, 3, 1) -/
private def pushCrash (k : Nat) : Option (Store Nat) := crashedStore? (MaxQ.pushF (m7.ticks + k) m7 (it 8) 99)
/-- crashing at the `k`-th returns a store of size 8, all tables of length 8, `heap`/`qp` inverse permutations, the new element
sitting where the hole was (`hole`), and the counter showing the `k - 1` completed comparisons -/
private def okAt (k hole : Nat) : Bool :=
  match pushCrash k with
  | some s' => s'.size == 8 && s'.map.size == 8 && s'.heap.size == 8 && s'.qp.size == 8 && wfB s' &&
      s'.qp[7]? == some hole && s'.heap[hole]? == some 7 && s'.ticks == m7.ticks + (k - 1)
  | none => false
example : okAt 1 7 = true := by decide +kernel
example : okAt 2 3 = true := by decide +kernel
example : okAt 3 1 = true := by decide +kernel
example : (pushCrash 4).isNone = true ∧ (pushCrash 0).isNone = true := by decide +kernel
example : agreeB eSO (MaxQ.pushF (m7.ticks + 4) m7 (it 8) 99) (PQ.MaxQ.push m7 (it 8) 99) = true := by
  rw [m7_eq]
  decide +kernel

/-- sweep the fuse over the next `n` comparisons: every outcome is `.ok`, `.crashedNew`, or `.crashed s'` with `chk s'`; returns
the verdict and the number of `.crashed` outcomes (to see that crashes did happen) -/
private def sweep {α : Type} (n base : Nat) (run : Nat → CR Nat α) (chk : Store Nat → Bool) : Bool × Nat :=
  (List.range n).foldl (init := (true, 0)) fun acc k =>
    match run (base + k + 1) with
    | .ok _ => acc
    | .error (.crashed s') => (acc.1 && chk s', acc.2 + 1)
    | .error .crashedNew => acc
    | .error (.fault _) => (false, acc.2)

-- every crash point of every operation on the sample stores leaves well-formed tables of the expected size
example : sweep 20 m7.ticks (fun z => MaxQ.popF z m7) (fun s => wfB s && s.size == 6) = (true, 4) := by
  rw [m7_eq]
  decide +kernel
example : sweep 20 m7.ticks (fun z => MaxQ.popIfF z m7 popNo) (fun s => wfB s && s.size == 7) = (true, 4) := by
  rw [m7_eq]
  decide +kernel
example : sweep 20 m7.ticks (fun z => MaxQ.pushF z m7 (it 8) 99) (fun s => wfB s && s.size == 8) = (true, 3) := by
  rw [m7_eq]
  decide +kernel
example : sweep 20 m7.ticks (fun z => MaxQ.pushF z m7 (it 3) 1) (fun s => wfB s && s.size == 7) = (true, 4) := by
  rw [m7_eq]
  decide +kernel
example : sweep 20 m7.ticks (fun z => MaxQ.pushIncreaseF z m7 (it 2) 99) (fun s => wfB s && s.size == 7) = (true, 5) := by
  rw [m7_eq]
  decide +kernel
-- the pre-check of `push_increase` is comparison 1: the store is returned untouched
example : (crashedStore? (MaxQ.pushIncreaseF (m7.ticks + 1) m7 (it 2) 99)).map (Store.eqB m7) = some true := by
  rw [m7_eq]
  decide +kernel
example : (crashedStore? (MaxQ.pushDecreaseF (m7.ticks + 1) m7 (it 3) 1)).map (Store.eqB m7) = some true := by
  rw [m7_eq]
  decide +kernel
example : sweep 20 m7.ticks (fun z => MaxQ.changePriorityF z m7 2 99) (fun s => wfB s && s.size == 7) = (true, 4) := by
  rw [m7_eq]
  decide +kernel
example : sweep 20 m7.ticks (fun z => MaxQ.removeF z m7 3) (fun s => wfB s && s.size == 6) = (true, 4) := by
  rw [m7_eq]
  decide +kernel
example : (sweep 30 m7.ticks (fun z => MaxQ.retainMutF z m7 keepOdd) (fun s => wfB s && s.size == 4)).1 = true := by
  rw [m7_eq]
  decide +kernel
example : (sweep 40 m7.ticks (fun z => MaxQ.appendF z m7 (Store.fromVec v3)) (fun s => wfB s && s.size == 9)).1 = true := by
  rw [m7_eq]
  decide +kernel
example : (sweep 40 m7.ticks (fun z => MaxQ.extendF z m7 0 v3) wfB).1 = true := by
  rw [m7_eq]
  decide +kernel
example : (sweep 40 m9.ticks (fun z => MaxQ.extendF z m9 100 w3) (fun s => wfB s && s.size == 11)).1 = true := by
  rw [m9_eq]
  decide +kernel
example : (sweep 40 d7.ticks (fun z => MaxQ.ofStoreF z d7) (fun s => wfB s && s.size == 7)).1 = true := by
  rw [d7_eq]
  decide +kernel
example : (sweep 40 m7.ticks (fun z => MaxQ.iterMutDropF z m7 prog) (fun s => wfB s && s.size == 7)).1 = true := by
  rw [m7_eq]
  decide +kernel
-- a constructor that crashes drops the queue it was building
example : (match MaxQ.fromVecF 1 v7 with | .error .crashedNew => true | _ => false) = true := by decide +kernel
example : (match DQ.fromIterF 3 7 v7 with | .error .crashedNew => true | _ => false) = true := by decide +kernel
example : sweep 40 0 (fun z => MaxQ.deserializeF z (some 7) v7) (fun _ => false) = (true, 0) := by decide +kernel

example : sweep 30 d7.ticks (fun z => DQ.heapifyF z d7 0) (fun s => wfB s && s.size == 7) = (true, 6) := by
  rw [d7_eq]
  decide +kernel
example : (sweep 30 d7.ticks (fun z => DQ.popMinF z d7) (fun s => wfB s && s.size == 6)).1 = true := by
  rw [d7_eq]
  decide +kernel
example : (sweep 30 d7.ticks (fun z => DQ.popMaxF z d7) (fun s => wfB s && (s.size == 6 || Store.eqB s d7))).1 = true := by
  rw [d7_eq]
  decide +kernel
-- `find_max` is comparison 1 of `pop_max`, `peek_max`, `pop_max_if`: the store is unchanged
example : (crashedStore? (DQ.popMaxF (d7.ticks + 1) d7)).map (Store.eqB d7) = some true := by
  rw [d7_eq]
  decide +kernel
example : (crashedStore? (DQ.peekMaxF (d7.ticks + 1) d7)).map (Store.eqB d7) = some true := by
  rw [d7_eq]
  decide +kernel
example : (crashedStore? (DQ.popMaxIfF (d7.ticks + 1) d7 popYes)).map (Store.eqB d7) = some true := by
  rw [d7_eq]
  decide +kernel
example : (sweep 30 d7.ticks (fun z => DQ.popMinIfF z d7 (fun i p => (false, i, p + 100))) (fun s => wfB s && s.size == 7)).1 = true := by
  rw [d7_eq]
  decide +kernel
example : (sweep 30 d7.ticks (fun z => DQ.popMaxIfF z d7 popNo) (fun s => wfB s && s.size == 7)).1 = true := by
  rw [d7_eq]
  decide +kernel
example : (sweep 30 d7.ticks (fun z => DQ.pushF z d7 (it 8) 99) (fun s => wfB s && s.size == 8)).1 = true := by
  rw [d7_eq]
  decide +kernel
example : (sweep 30 d7.ticks (fun z => DQ.pushF z d7 (it 8) 1) (fun s => wfB s && s.size == 8)).1 = true := by
  rw [d7_eq]
  decide +kernel
example : (sweep 30 d7.ticks (fun z => DQ.pushF z d7 (it 2) 99) (fun s => wfB s && s.size == 7)).1 = true := by
  rw [d7_eq]
  decide +kernel
example : (sweep 30 d7.ticks (fun z => DQ.pushF z d7 (it 3) 1) (fun s => wfB s && s.size == 7)).1 = true := by
  rw [d7_eq]
  decide +kernel
-- crash at the parent comparison of `bubble_up` (comparison 1 of a push of a new element): the hole is filled where it
-- started, i.e. the new element is the last leaf
example : (crashedStore? (DQ.pushF (d7.ticks + 1) d7 (it 8) 99)).map
    (fun s => wfB s && s.size == 8 && s.heap[7]? == some 7 && s.qp[7]? == some 7 && s.heap.extract 0 7 == d7.heap) = some true := by
  rw [d7_eq]
  decide +kernel
example : (sweep 30 d7.ticks (fun z => DQ.changePriorityF z d7 3 1) (fun s => wfB s && s.size == 7)).1 = true := by
  rw [d7_eq]
  decide +kernel
example : (sweep 30 d7.ticks (fun z => DQ.changePriorityByF z d7 2 (· + 80)) (fun s => wfB s && s.size == 7)).1 = true := by
  rw [d7_eq]
  decide +kernel
example : (sweep 30 d7.ticks (fun z => DQ.removeF z d7 2) (fun s => wfB s && s.size == 6)).1 = true := by
  rw [d7_eq]
  decide +kernel
example : (sweep 40 d7.ticks (fun z => DQ.retainMutF z d7 keepOdd) (fun s => wfB s && s.size == 4)).1 = true := by
  rw [d7_eq]
  decide +kernel
example : (sweep 60 d7.ticks (fun z => DQ.appendF z d7 (Store.fromVec v3)) (fun s => wfB s && s.size == 9)).1 = true := by
  rw [d7_eq]
  decide +kernel
example : (sweep 60 d7.ticks (fun z => DQ.extendF z d7 0 v3) wfB).1 = true := by
  rw [d7_eq]
  decide +kernel
example : (sweep 60 d9.ticks (fun z => DQ.extendF z d9 100 w3) (fun s => wfB s && s.size == 11)).1 = true := by
  rw [d9_eq]
  decide +kernel
example : (sweep 60 m7.ticks (fun z => DQ.ofStoreF z m7) (fun s => wfB s && s.size == 7)).1 = true := by
  rw [m7_eq]
  decide +kernel
example : (sweep 60 d7.ticks (fun z => DQ.iterMutDropF z d7 prog) (fun s => wfB s && s.size == 7)).1 = true := by
  rw [d7_eq]
  decide +kernel

-- a crash in the middle of a `min_by_key` fold: only the counter moves (here the 2nd of the fold's comparisons)
example : (crashedStore? (DQ.heapifyF (d7.ticks + 2) d7 0)).map
    (fun s => s.ticks == d7.ticks + 1 && Store.eqB { s with ticks := d7.ticks } d7) = some true := by
  rw [d7_eq]
  decide +kernel

-- `From<other kind>` crashes into a queue of the *target* kind; constructors crash into `crashedNew`, the old queue survives
example : (match stepF (m7.ticks + 2) qm7 .convert with
    | .error (.crashed q') => decide (q'.kind = Kind.dpq) && wfB q'.s && q'.s.size == 7
    | _ => false) = true := by
  rw [qm7, m7_eq]
  decide +kernel
example : (match stepF (d7.ticks + 2) qd7 .convert with
    | .error (.crashed q') => decide (q'.kind = Kind.pq) && wfB q'.s && q'.s.size == 7
    | _ => false) = true := by
  rw [qd7, d7_eq]
  decide +kernel
example : (match stepF 2 qm7 (.fromVec v3) with
    | .error e => (match e.survivor qm7 with | some q' => decide (q'.kind = Kind.pq) && Store.eqB q'.s m7 | none => false)
    | _ => false) = true := by
  rw [qm7, m7_eq]
  decide +kernel
example : (match stepF (m7.ticks + 2) qm7 (.push (it 8) 99) with
    | .error (.crashed q') => decide (q'.kind = Kind.pq) && wfB q'.s && q'.s.size == 8
    | _ => false) = true := by
  rw [qm7, m7_eq]
  decide +kernel
end crash

end PQ.Crash.Sanity
