import PQ.Model.Ops
import PQ.Lemmas.Spec
import PQ.Lemmas.PQOps
import PQ.Lemmas.DQOps
import PQ.Props.C14
/-!
# Helpers shared by property files (all names carry the prefix `bp_`)

The sorted iterators of both kinds call by call (`bp_popCalls`, `bp_sortedCalls_*`), equal contents ⇒ equal length, the
deserializer on a duplicate-free entry list, the closed form of `extend`, and the concrete queues the examples of the property
files are about.  (The `iter_mut` program runner `iterMutRun` is treated in `PQ/Lemmas/History.lean`: `hist_iterMutRun_spec`.)
-/
namespace PQ
open Arith Store

section Size
variable {P : Type}

theorem bp_size_eq_of_abs_eq {s t : Store P} (hs : s.WF) (ht : t.WF) (h : ∀ k, (s.abs k).isSome = (t.abs k).isSome) :
    s.size = t.size := by
  rw [← hs.map_size, ← ht.map_size, ← IMap.length_keys, ← IMap.length_keys]
  apply List.Perm.length_eq
  have e1 : (IMap.keys s.map).Nodup := IMap.noDupKeys_iff_nodup.1 hs.nodup
  have e2 : (IMap.keys t.map).Nodup := IMap.noDupKeys_iff_nodup.1 ht.nodup
  rw [List.perm_ext_iff_of_nodup e1 e2]
  intro k
  rw [IMap.mem_keys_iff_lookup, IMap.mem_keys_iff_lookup]
  have := h k
  simp only [Store.abs] at this
  rw [this]

theorem bp_perm_of_mem {s : Store P} (hs : s.WF) {l : List (Item × P)} (hnd : (l.map (·.1.key)).Nodup)
    (hmem : ∀ e, e ∈ l ↔ s.Mem e) : l.Perm s.map.toList := by
  have h1 : l.Nodup := List.Pairwise.of_map (·.1.key) (fun a b h hab => h (hab ▸ rfl)) hnd
  have h2 : s.map.toList.Nodup :=
    List.Pairwise.of_map (·.1.key) (fun a b h hab => h (hab ▸ rfl)) (IMap.noDupKeys_iff_nodup.1 hs.nodup)
  rw [List.perm_ext_iff_of_nodup h1 h2]
  intro e
  rw [hmem e, Array.mem_toList_iff, Array.mem_iff_getElem?]
  rfl

end Size

section VisitSeq
variable {P : Type}

theorem bp_foldl_visitSeqStep (l : List (Item × P)) : ∀ (s : Store P),
    (s.map.toList ++ l).Pairwise (fun a b => a.1.key ≠ b.1.key) →
    (l.foldl visitSeqStep s).map = s.map ++ l.toArray := by
  induction l with
  | nil => intro s _; simp
  | cons e l ih =>
    intro s hp
    have hf : IMap.find? s.map e.1.key = none := by
      rw [IMap.find?_eq_none_iff]
      intro i e' he' hk
      have hmem : e' ∈ s.map.toList := by
        rw [Array.mem_toList_iff, Array.mem_iff_getElem?]; exact ⟨i, he'⟩
      exact (List.pairwise_append.1 hp).2.2 e' hmem e (List.mem_cons_self ..) hk
    rw [List.foldl_cons, visitSeqStep_eq_extendStep, extendStep_of_find?_none hf, ih]
    · simp [pushTail_map]
    · simp only [pushTail_map, Array.toList_push, List.append_assoc, List.singleton_append]
      exact hp

theorem bp_visitSeq_map {m : IMap P} (hm : IMap.NoDupKeys m) : (visitSeq m).map = m := by
  have := bp_foldl_visitSeqStep m.toList (empty : Store P)
    (by simpa [empty] using IMap.noDupKeys_iff_pairwise.1 hm)
  unfold visitSeq
  rw [← Array.foldl_toList, this]
  simp [empty]

end VisitSeq

section PopCalls
variable {P : Type} [LT P] [DecidableLT P]

/-- `n` calls of `next` on `into_sorted_iter()` of a `PriorityQueue` (`next` is `pop`); returns the answers and the
queue still held by the iterator -/
def bp_popCalls : Nat → Store P → R (List (Option (Item × P)) × Store P)
  | 0, s => pure ([], s)
  | n + 1, s => do
    let (s, r) ← MaxQ.pop s
    let (rest, s) ← bp_popCalls n s
    pure (r :: rest, s)

variable [LE P] [Std.IsLinearPreorder P] [Std.LawfulOrderLT P]

/-- for any invariant `I` of the held queue that implies well-formedness and that a successful `pop` keeps: `WF` itself and
`MaxQ.Inv` are the two instances used -/
theorem bp_popCalls_inv {I : Store P → Prop} (hwf : ∀ {s}, I s → s.WF)
    (hstep : ∀ {s}, I s → 0 < s.size → ∃ s' e, MaxQ.pop s = .ok (s', some e) ∧ I s' ∧ s'.size = s.size - 1) (n : Nat) :
    ∀ {s : Store P}, I s →
    ∃ l s', MaxQ.intoSortedVec s = .ok l ∧
      bp_popCalls n s = .ok ((l.take n).map some ++ List.replicate (n - l.length) none, s') ∧
      I s' ∧ s'.size = s.size - n ∧ MaxQ.intoSortedVec s' = .ok (l.drop n) := by
  induction n with
  | zero =>
    intro s h
    obtain ⟨l, hl, _⟩ := MaxQ.intoSortedVec_safe (hwf h)
    exact ⟨l, s, hl, by rw [Nat.zero_sub]; rfl, h, rfl, hl⟩
  | succ n ih =>
    intro s h
    rcases Nat.eq_zero_or_pos s.size with hz | hpos
    · obtain ⟨l, s', hl, hrun, hinv, hsz, hrest⟩ := ih h
      have hnil : MaxQ.intoSortedVec s = .ok [] := by
        unfold MaxQ.intoSortedVec; rw [hz]; exact MaxQ.drainSorted_nil 0 hz
      rw [hnil] at hl; cases hl
      rw [List.drop_nil] at hrest
      refine ⟨[], s', hnil, ?_, hinv, by omega, hrest⟩
      simp only [bp_popCalls, (MaxQ.pop_safe (hwf h)).1 hz, bind, Except.bind, hrun, pure, Except.pure]
      simp only [List.take_nil, List.map_nil, List.nil_append, List.length_nil, Nat.sub_zero, List.replicate_succ]
    · obtain ⟨s1, e, hpop, hinv1, hsz1⟩ := hstep h hpos
      obtain ⟨l, s', hl, hrun, hinv, hsz, hrest⟩ := ih hinv1
      have hcons : MaxQ.intoSortedVec s = .ok (e :: l) := by
        unfold MaxQ.intoSortedVec at hl ⊢
        have : s.size = s1.size + 1 := by omega
        rw [this]
        exact MaxQ.drainSorted_cons hpop hl
      refine ⟨e :: l, s', hcons, ?_, hinv, by omega, hrest⟩
      simp only [bp_popCalls, hpop, bind, Except.bind, hrun, pure, Except.pure]
      simp only [List.take_succ_cons, List.map_cons, List.cons_append, List.length_cons, Nat.add_sub_add_right]

theorem bp_popCalls_spec (n : Nat) : ∀ {s : Store P}, MaxQ.Inv s →
    ∃ l s', MaxQ.intoSortedVec s = .ok l ∧
      bp_popCalls n s = .ok ((l.take n).map some ++ List.replicate (n - l.length) none, s') ∧
      MaxQ.Inv s' ∧ s'.size = s.size - n ∧ MaxQ.intoSortedVec s' = .ok (l.drop n) :=
  bp_popCalls_inv (fun h => h.1)
    (fun h hp => let ⟨s', e, a, _, _, b, _, c⟩ := (MaxQ.pop_spec h).2 hp; ⟨s', e, a, b, c⟩) n

end PopCalls

section SortedCalls
variable {P : Type} [LT P] [DecidableLT P] [LE P] [Std.IsLinearPreorder P] [Std.LawfulOrderLT P]

omit [LE P] [Std.IsLinearPreorder P] [Std.LawfulOrderLT P] in
theorem bp_sortedCalls_cons_inv {x : Bool} {xs : List Bool} {s s' : Store P} {o : List (Option (Item × P))}
    (h : DQ.sortedCalls (x :: xs) s = .ok (o, s')) :
    ∃ s1 r rest, (if x = true then DQ.popMax s else DQ.popMin s) = .ok (s1, r) ∧
      DQ.sortedCalls xs s1 = .ok (rest, s') ∧ o = r :: rest := by
  unfold DQ.sortedCalls at h
  extract_lets cont at h
  have h' : (if x = true then DQ.popMax s else DQ.popMin s) >>= cont = .ok (o, s') := by
    cases x
    · exact h
    · exact h
  obtain ⟨⟨s1, r⟩, hstep, h2⟩ := bind_eq_ok.1 h'
  obtain ⟨⟨rest, s2⟩, hrest, h3⟩ := bind_eq_ok.1 h2
  cases h3
  exact ⟨s1, r, rest, hstep, hrest, rfl⟩

theorem bp_sortedCalls_append (a : List Bool) : ∀ (b : List Bool) (s s1 s2 : Store P) (o1 o2 : List (Option (Item × P))),
    DQ.sortedCalls a s = .ok (o1, s1) → DQ.sortedCalls b s1 = .ok (o2, s2) →
    DQ.sortedCalls (a ++ b) s = .ok (o1 ++ o2, s2) := by
  induction a with
  | nil =>
    intro b s s1 s2 o1 o2 h1 h2
    simp only [DQ.sortedCalls, pure, Except.pure, Except.ok.injEq, Prod.mk.injEq] at h1
    obtain ⟨rfl, rfl⟩ := h1
    simpa using h2
  | cons x xs ih =>
    intro b s s1 s2 o1 o2 h1 h2
    obtain ⟨sa, r, rest, hstep, hrest, rfl⟩ := bp_sortedCalls_cons_inv h1
    exact DQ.sortedCalls_cons_ok hstep (ih b sa s1 s2 rest o2 hrest h2)

theorem bp_sortedCalls_count (calls : List Bool) : ∀ {s s' : Store P} {outs : List (Option (Item × P))}, s.WF →
    DQ.sortedCalls calls s = .ok (outs, s') → s'.size + (outs.filterMap id).length = s.size := by
  induction calls with
  | nil =>
    intro s s' outs _ h
    simp only [DQ.sortedCalls, pure, Except.pure, Except.ok.injEq, Prod.mk.injEq] at h
    obtain ⟨rfl, rfl⟩ := h
    simp
  | cons b bs ih =>
    intro s s' outs h hrun
    obtain ⟨s1, r, rest, hstep, hrest, rfl⟩ := bp_sortedCalls_cons_inv hrun
    obtain ⟨h0, h1⟩ := DQ.sortedStep_core h b
    rcases Nat.eq_zero_or_pos s.size with hz | hn
    · rw [h0 hz] at hstep
      cases hstep
      simpa using ih h hrest
    · obtain ⟨s1', e, hrun1, _, hwf1, _, hsz1, _⟩ := h1 hn
      rw [hrun1] at hstep
      cases hstep
      have := ih hwf1 hrest
      simp only [id_eq, List.filterMap_cons, List.length_cons]
      omega

theorem bp_sortedCalls_zero (calls : List Bool) : ∀ {s : Store P}, s.WF → s.size = 0 →
    DQ.sortedCalls calls s = .ok (List.replicate calls.length none, s) := by
  induction calls with
  | nil => intro s _ _; rfl
  | cons b bs ih =>
    intro s h hz
    exact DQ.sortedCalls_cons_ok ((DQ.sortedStep_core h b).1 hz) (ih h hz)

/-- the state of the double-ended sorted iterator before call `j`.  The order clauses are conditional on `MinMaxHeap`, so that
the form for a well-formed queue and the form for a correctly ordered one are both instances -/
theorem bp_sortedCalls_at_wf {s s' : Store P} (h : s.WF) {calls : List Bool} {outs : List (Option (Item × P))}
    (hrun : DQ.sortedCalls calls s = .ok (outs, s')) (j : Nat) (hj : j < calls.length) :
    ∃ sj, DQ.sortedCalls (calls.take j) s = .ok (outs.take j, sj) ∧ sj.WF ∧ (s.MinMaxHeap → sj.MinMaxHeap) ∧
      sj.size + ((outs.take j).filterMap id).length = s.size ∧
      (sj.size = 0 → ∀ j', j ≤ j' → j' < calls.length → outs[j']? = some none) ∧
      (0 < sj.size → ∃ e, outs[j]? = some (some e) ∧ sj.Mem e ∧
        (sj.MinMaxHeap → if calls[j]? = some true then sj.IsMax e else sj.IsMin e)) := by
  obtain ⟨o1, sj, hr1, hwf1, hlen1, _, _, hmm⟩ := DQ.sortedCalls_core (calls.take j) h
  obtain ⟨o2, s2, hr2, _⟩ := DQ.sortedCalls_safe hwf1 (calls.drop j)
  have happ := bp_sortedCalls_append _ _ _ _ _ _ _ hr1 hr2
  rw [List.take_append_drop, hrun] at happ
  simp only [Except.ok.injEq, Prod.mk.injEq] at happ
  obtain ⟨houts, _⟩ := happ
  have hl1 : o1.length = j := by rw [hlen1, List.length_take]; omega
  have htake : outs.take j = o1 := by rw [houts, List.take_left' hl1]
  have hget : ∀ j', j ≤ j' → outs[j']? = o2[j' - j]? := by
    intro j' hjj
    rw [houts, List.getElem?_append_right (by omega), hl1]
  refine ⟨sj, by rw [htake]; exact hr1, hwf1, fun hm => (hmm hm).1,
    by rw [htake]; exact bp_sortedCalls_count _ h hr1, ?_, ?_⟩
  · intro hz j' hjj hj'
    have := bp_sortedCalls_zero (calls.drop j) hwf1 hz
    rw [hr2] at this
    simp only [Except.ok.injEq, Prod.mk.injEq] at this
    rw [hget j' hjj, this.1, List.getElem?_replicate, if_pos (by rw [List.length_drop]; omega)]
  · intro hpos
    have hdrop : calls.drop j = calls[j] :: calls.drop (j + 1) := List.drop_eq_getElem_cons hj
    rw [hdrop] at hr2
    obtain ⟨s1, r, rest, hstep, _, rfl⟩ := bp_sortedCalls_cons_inv hr2
    obtain ⟨s1', e, hstep', hheld, _, _, _, hord⟩ := (DQ.sortedStep_core hwf1 calls[j]).2 hpos
    rw [hstep] at hstep'
    simp only [Except.ok.injEq, Prod.mk.injEq] at hstep'
    obtain ⟨_, rfl⟩ := hstep'
    refine ⟨e, by rw [hget j (Nat.le_refl _)]; simp, (DQ.mem_iff_abs hwf1).2 hheld, fun hm => ?_⟩
    have hq := (hord hm).2
    rw [List.getElem?_eq_getElem hj]
    unfold DQ.ExtremeQ at hq
    by_cases hc : calls[j] = true
    · rw [if_pos hc] at hq
      rw [if_pos (by rw [hc]), DQ.isMax_iff_abs hwf1]; exact hq
    · rw [if_neg hc] at hq
      rw [if_neg (by simpa using hc), DQ.isMin_iff_abs hwf1]; exact hq

theorem bp_sortedCalls_at {s s' : Store P} (h : DQ.Inv s) {calls : List Bool} {outs : List (Option (Item × P))}
    (hrun : DQ.sortedCalls calls s = .ok (outs, s')) (j : Nat) (hj : j < calls.length) :
    ∃ sj, DQ.sortedCalls (calls.take j) s = .ok (outs.take j, sj) ∧ DQ.Inv sj ∧
      sj.size + ((outs.take j).filterMap id).length = s.size ∧
      (sj.size = 0 → ∀ j', j ≤ j' → j' < calls.length → outs[j']? = some none) ∧
      (0 < sj.size → ∃ e, outs[j]? = some (some e) ∧
        if calls[j]? = some true then sj.IsMax e else sj.IsMin e) :=
  have ⟨sj, h1, h2, h3, h4, h5, h6⟩ := bp_sortedCalls_at_wf h.1 hrun j hj
  ⟨sj, h1, ⟨h2, h3 h.2⟩, h4, h5, fun hp => have ⟨e, he, _, hord⟩ := h6 hp; ⟨e, he, hord (h3 h.2)⟩⟩

end SortedCalls

section Extend
variable {P : Type}

/-- any well-formed store whose contents are the abstract `extend` fold has the closed-form contents (priority of the
LAST pair given for the key; the item that was stored, else the item of the FIRST pair given) and the length of
`Store.extend` (old length plus the number of distinct new keys) -/
theorem bp_extend_common {s s' : Store P} (hs : s.WF) (hs' : s'.WF) (xs : Array (Item × P))
    (habs : s'.abs = xs.foldl Store.absStep s.abs) :
    (∀ k, s'.abs k =
      match xs.toList.reverse.find? (fun e => e.1.key == k) with
      | none => s.abs k
      | some b => some ((((s.abs k).or (xs.toList.find? (fun e => e.1.key == k))).map (·.1)).getD b.1, b.2)) ∧
    s'.size = s.size + ((xs.toList.map (·.1.key)).filter (fun k => !IMap.contains s.map k)).eraseDups.length := by
  constructor
  · intro k
    rw [habs, ← Array.foldl_toList, foldl_absStep_apply]
    cases List.find? (fun e : Item × P => e.1.key == k) xs.toList.reverse <;> rfl
  · rw [← size_extend s xs]
    apply bp_size_eq_of_abs_eq hs' (wf_extend hs xs)
    intro k
    have : (Store.extend s xs).abs = xs.foldl Store.absStep s.abs := lookup_extend s xs
    rw [habs, this]

end Extend

section Examples

/-- a five-element `PriorityQueue`; priorities by heap position: 9 / 5 7 / 1 3 -/
def bp_exP : Store Nat :=
  { map := #[(⟨1, 10⟩, 5), (⟨2, 20⟩, 9), (⟨3, 30⟩, 7), (⟨4, 40⟩, 1), (⟨5, 50⟩, 3)],
    heap := #[1, 0, 2, 3, 4], qp := #[1, 0, 2, 3, 4], size := 5 }

theorem bp_exP_inv : MaxQ.Inv bp_exP := by decide +kernel

/-- well-formed but NOT ordered as a max-heap (it happens to be a valid min-max heap; for a store that is neither see
`swf_exU` in `SortedWF.lean`) -/
def bp_exW : Store Nat :=
  { map := #[(⟨1, 10⟩, 5), (⟨2, 20⟩, 0), (⟨3, 30⟩, 7), (⟨4, 40⟩, 1), (⟨5, 50⟩, 3)],
    heap := #[1, 0, 2, 3, 4], qp := #[1, 0, 2, 3, 4], size := 5 }

theorem bp_exW_wf : bp_exW.WF := by decide +kernel

/-- a two-element store sharing key `1` with `bp_exP` / `bp_exW` -/
def bp_exO : Store Nat :=
  { map := #[(⟨1, 11⟩, 8), (⟨9, 90⟩, 2)], heap := #[1, 0], qp := #[1, 0], size := 2 }

theorem bp_exO_wf : bp_exO.WF := by decide +kernel

/-- a key-preserving predicate that rewrites payload and priority -/
def bp_fDrop : Item → Nat → Bool × Item × Nat := fun it p => (p != 7, ⟨it.key, it.payload + 1⟩, 10 - p)
theorem bp_fDrop_legal : ∀ it p, (bp_fDrop it p).2.1.key = it.key := fun _ _ => rfl

def bp_fYes : Item → Nat → Bool × Item × Nat := fun it p => (true, ⟨it.key, 99⟩, p + 1)
def bp_fNo : Item → Nat → Bool × Item × Nat := fun it p => (false, ⟨it.key, 99⟩, p + 1)
theorem bp_fYes_legal : ∀ it p, (bp_fYes it p).2.1.key = it.key := fun _ _ => rfl
theorem bp_fNo_legal : ∀ it p, (bp_fNo it p).2.1.key = it.key := fun _ _ => rfl

/-- "the result is `.ok x` and `x` satisfies `q`" (decidable when `q` is) -/
def bp_okR {α : Type} (r : R α) (q : α → Prop) : Prop :=
  match r with
  | .ok x => q x
  | .error _ => False

instance {α : Type} (r : R α) (q : α → Prop) [DecidablePred q] : Decidable (bp_okR r q) := by
  unfold bp_okR; split <;> infer_instance

end Examples

end PQ
