import PQ.Lemmas.SrcEquivPush
/-!
# Source-translated tie: the remaining public wrappers

`change_priority`, `change_priority_by`, `push_increase`, `push_decrease`, the `pop_if` family, the `peek` family and the
`peek_mut` family of both queues.  User closures and items are opaque values (`Val.pred`, `Val.setter`, `Val.item`).
`peek_mut` hands out a `&mut I`: the IR function returns the slot and its entry (`Val.optSlot`), the theorem applies the
caller's write `w` to it (`applyWrite`) and compares with the model's `peekMutWrite s w`.
-/
set_option linter.unusedSimpArgs false
set_option linter.unusedSectionVars false
namespace PQ.SrcEquiv
open PQ PQ.Src PQ.SrcGen
variable {P : Type} [LT P] [DecidableLT P]

/-! ## `change_priority`, `change_priority_by` -/

theorem call_storeChangePriority (s : Store P) (k : Nat) (p : P) (n : Nat) :
    callWith (exec prog (n + 1)) prog .storeChangePriority s [k] [p] []
      = (fun r => (r.1, Val.optPPos r.2)) <$> s.changePriority k p :=
  storeChangePriority s k p (n + 1) (by omega)

theorem call_storeChangePriorityBy (s : Store P) (k : Nat) (g : P → P) (n : Nat) :
    callWith (exec prog (n + 1)) prog .storeChangePriorityBy s [k] [] [Val.setter g]
      = (fun r => (r.1, Val.optNat r.2)) <$> s.changePriorityBy k g :=
  storeChangePriorityBy s k g (n + 1) (by omega)

theorem changePriority_post (s : Store P) (k : Nat) (p : P) :
    Post (s.changePriority k p) (fun r => r.1.size = s.size ∧ r.1.heap = s.heap) := by
  unfold Store.changePriority
  split
  · exact Post.bind (Post.triv _) fun _ _ => Post.pure ⟨rfl, rfl⟩
  · exact Post.pure ⟨rfl, rfl⟩

theorem changePriorityBy_post (s : Store P) (k : Nat) (g : P → P) :
    Post (s.changePriorityBy k g) (fun r => r.1.size = s.size ∧ r.1.heap = s.heap) := by
  unfold Store.changePriorityBy
  split
  · exact Post.bind (Post.triv _) fun _ _ => Post.pure ⟨rfl, rfl⟩
  · exact Post.pure ⟨rfl, rfl⟩

/-- `PriorityQueue::change_priority` = `MaxQ.changePriority` -/
theorem pqChangePriority (s : Store P) (k : Nat) (p : P) (fuel : Nat) (h : fuel ≥ s.size + s.heap.size + 5) :
    Src.run SrcGen.prog fuel .pqChangePriority s [k] [p]
      = (fun r => (r.1, Val.optP r.2)) <$> MaxQ.changePriority s k p := by
  obtain ⟨n, rfl⟩ : ∃ n, fuel = n + 2 := ⟨fuel - 2, by omega⟩
  src_enter
  unfold MaxQ.changePriority
  src_eval [pqChangePriority_body, call_storeChangePriority]
  refine bind_congr_ok fun r hr => ?_
  obtain ⟨hsz, hhp⟩ := changePriority_post s k p r hr
  obtain ⟨s', res⟩ := r
  cases res with
  | none => src_eval
  | some x =>
    obtain ⟨old, pos⟩ := x
    simp only at hsz hhp
    src_eval
    rw [call_pqUpHeapify _ _ _ (by rw [hsz, hhp]; omega)]
    src_eval

/-- `DoublePriorityQueue::change_priority` = `DQ.changePriority` -/
theorem dqChangePriority (s : Store P) (k : Nat) (p : P) (fuel : Nat) (h : fuel ≥ s.size + s.heap.size + 6) :
    Src.run SrcGen.prog fuel .dqChangePriority s [k] [p]
      = (fun r => (r.1, Val.optP r.2)) <$> DQ.changePriority s k p := by
  obtain ⟨n, rfl⟩ : ∃ n, fuel = n + 2 := ⟨fuel - 2, by omega⟩
  src_enter
  unfold DQ.changePriority
  src_eval [dqChangePriority_body, call_storeChangePriority]
  refine bind_congr_ok fun r hr => ?_
  obtain ⟨hsz, hhp⟩ := changePriority_post s k p r hr
  obtain ⟨s', res⟩ := r
  cases res with
  | none => src_eval
  | some x =>
    obtain ⟨old, pos⟩ := x
    simp only at hsz hhp
    src_eval
    rw [call_dqUpHeapify _ _ _ (by rw [hsz, hhp]; omega)]
    src_eval

/-- `PriorityQueue::change_priority_by` = `MaxQ.changePriorityBy` -/
theorem pqChangePriorityBy (s : Store P) (k : Nat) (g : P → P) (fuel : Nat) (h : fuel ≥ s.size + s.heap.size + 5) :
    Src.run SrcGen.prog fuel .pqChangePriorityBy s [k] [] [Val.setter g]
      = (fun r => (r.1, Val.bool r.2)) <$> MaxQ.changePriorityBy s k g := by
  obtain ⟨n, rfl⟩ : ∃ n, fuel = n + 2 := ⟨fuel - 2, by omega⟩
  src_enter
  unfold MaxQ.changePriorityBy
  src_eval [pqChangePriorityBy_body, call_storeChangePriorityBy]
  refine bind_congr_ok fun r hr => ?_
  obtain ⟨hsz, hhp⟩ := changePriorityBy_post s k g r hr
  obtain ⟨s', res⟩ := r
  cases res with
  | none => src_eval
  | some pos =>
    simp only at hsz hhp
    src_eval
    rw [call_pqUpHeapify _ _ _ (by rw [hsz, hhp]; omega)]
    src_eval

/-- `DoublePriorityQueue::change_priority_by` = `DQ.changePriorityBy` -/
theorem dqChangePriorityBy (s : Store P) (k : Nat) (g : P → P) (fuel : Nat) (h : fuel ≥ s.size + s.heap.size + 6) :
    Src.run SrcGen.prog fuel .dqChangePriorityBy s [k] [] [Val.setter g]
      = (fun r => (r.1, Val.bool r.2)) <$> DQ.changePriorityBy s k g := by
  obtain ⟨n, rfl⟩ : ∃ n, fuel = n + 2 := ⟨fuel - 2, by omega⟩
  src_enter
  unfold DQ.changePriorityBy
  src_eval [dqChangePriorityBy_body, call_storeChangePriorityBy]
  refine bind_congr_ok fun r hr => ?_
  obtain ⟨hsz, hhp⟩ := changePriorityBy_post s k g r hr
  obtain ⟨s', res⟩ := r
  cases res with
  | none => src_eval
  | some pos =>
    simp only at hsz hhp
    src_eval
    rw [call_dqUpHeapify _ _ _ (by rw [hsz, hhp]; omega)]
    src_eval

/-! ## `push_increase`, `push_decrease` -/

theorem call_pqPush (s : Store P) (it : Item) (p : P) (n : Nat) (h : n ≥ s.size + s.heap.size + 5) :
    callWith (exec prog n) prog .pqPush s [] [p] [Val.item it] = (fun r => (r.1, Val.optP r.2)) <$> MaxQ.push s it p :=
  pqPush s it p n h

theorem call_dqPush (s : Store P) (it : Item) (p : P) (n : Nat) (h : n ≥ s.size + s.heap.size + 6) :
    callWith (exec prog n) prog .dqPush s [] [p] [Val.item it] = (fun r => (r.1, Val.optP r.2)) <$> DQ.push s it p :=
  dqPush s it p n h

/-- `PriorityQueue::push_increase` = `MaxQ.pushIncrease` -/
theorem pqPushIncrease (s : Store P) (it : Item) (p : P) (fuel : Nat) (h : fuel ≥ s.size + s.heap.size + 6) :
    Src.run SrcGen.prog fuel .pqPushIncrease s [] [p] [Val.item it]
      = (fun r => (r.1, Val.optP r.2)) <$> MaxQ.pushIncrease s it p := by
  rw [run_eq_pos rfl (by omega)]
  unfold MaxQ.pushIncrease
  src_eval [pqPushIncrease_body]
  cases hq : s.getPriority it.key with
  | none =>
    src_eval
    rw [call_pqPush _ _ _ _ (by omega)]
    src_eval
  | some q =>
    src_eval
    by_cases hlt : q < p
    · simp only [hlt, ↓reduceIte]
      rw [call_pqPush _ _ _ _ (by simp only [size_tick, heap_tick]; omega)]
      src_eval
    · simp only [hlt, ↓reduceIte]

/-- `PriorityQueue::push_decrease` = `MaxQ.pushDecrease` -/
theorem pqPushDecrease (s : Store P) (it : Item) (p : P) (fuel : Nat) (h : fuel ≥ s.size + s.heap.size + 6) :
    Src.run SrcGen.prog fuel .pqPushDecrease s [] [p] [Val.item it]
      = (fun r => (r.1, Val.optP r.2)) <$> MaxQ.pushDecrease s it p := by
  rw [run_eq_pos rfl (by omega)]
  unfold MaxQ.pushDecrease
  src_eval [pqPushDecrease_body]
  cases hq : s.getPriority it.key with
  | none =>
    src_eval
    rw [call_pqPush _ _ _ _ (by omega)]
    src_eval
  | some q =>
    src_eval
    by_cases hlt : p < q
    · simp only [hlt, ↓reduceIte]
      rw [call_pqPush _ _ _ _ (by simp only [size_tick, heap_tick]; omega)]
      src_eval
    · simp only [hlt, ↓reduceIte]

/-- `DoublePriorityQueue::push_increase` = `DQ.pushIncrease` -/
theorem dqPushIncrease (s : Store P) (it : Item) (p : P) (fuel : Nat) (h : fuel ≥ s.size + s.heap.size + 7) :
    Src.run SrcGen.prog fuel .dqPushIncrease s [] [p] [Val.item it]
      = (fun r => (r.1, Val.optP r.2)) <$> DQ.pushIncrease s it p := by
  rw [run_eq_pos rfl (by omega)]
  unfold DQ.pushIncrease
  src_eval [dqPushIncrease_body]
  cases hq : s.getPriority it.key with
  | none =>
    src_eval
    rw [call_dqPush _ _ _ _ (by omega)]
    src_eval
  | some q =>
    src_eval
    by_cases hlt : q < p
    · simp only [hlt, ↓reduceIte]
      rw [call_dqPush _ _ _ _ (by simp only [size_tick, heap_tick]; omega)]
      src_eval
    · simp only [hlt, ↓reduceIte]

/-- `DoublePriorityQueue::push_decrease` = `DQ.pushDecrease` -/
theorem dqPushDecrease (s : Store P) (it : Item) (p : P) (fuel : Nat) (h : fuel ≥ s.size + s.heap.size + 7) :
    Src.run SrcGen.prog fuel .dqPushDecrease s [] [p] [Val.item it]
      = (fun r => (r.1, Val.optP r.2)) <$> DQ.pushDecrease s it p := by
  rw [run_eq_pos rfl (by omega)]
  unfold DQ.pushDecrease
  src_eval [dqPushDecrease_body]
  cases hq : s.getPriority it.key with
  | none =>
    src_eval
    rw [call_dqPush _ _ _ _ (by omega)]
    src_eval
  | some q =>
    src_eval
    by_cases hlt : p < q
    · simp only [hlt, ↓reduceIte]
      rw [call_dqPush _ _ _ _ (by simp only [size_tick, heap_tick]; omega)]
      src_eval
    · simp only [hlt, ↓reduceIte]

/-! ## `pop_if`, `pop_min_if`, `pop_max_if` -/

theorem call_storeSwapRemoveIf (s : Store P) (pos : Nat) (f : Item → P → Bool × Item × P) (n : Nat) :
    callWith (exec prog (n + 2)) prog .storeSwapRemoveIf s [pos] [] [Val.pred f]
      = (fun r => (r.1, Val.optEntry r.2)) <$> s.swapRemoveIf pos f :=
  storeSwapRemoveIf s pos f (n + 2) (by omega)

theorem swapRemoveIf_post_size (s : Store P) (pos : Nat) (f : Item → P → Bool × Item × P) :
    Post (s.swapRemoveIf pos f) (fun r => r.1.size ≤ s.size) := by
  unfold Store.swapRemoveIf
  refine Post.bind (Post.triv _) fun _ _ => Post.bind (Post.triv _) fun _ _ => Post.ite (fun _ => ?_)
    (fun _ => Post.pure (Nat.le_refl _))
  intro r hr
  have := swapRemove_post_size _ _ r hr
  simp only at this
  omega

/-- `PriorityQueue::pop_if` = `MaxQ.popIf` -/
theorem pqPopIf (s : Store P) (f : Item → P → Bool × Item × P) (fuel : Nat) (h : fuel ≥ s.size + 4) :
    Src.run SrcGen.prog fuel .pqPopIf s [] [] [Val.pred f]
      = (fun r => (r.1, Val.optEntry r.2)) <$> MaxQ.popIf s f := by
  obtain ⟨k, rfl⟩ : ∃ k, fuel = k + 3 := ⟨fuel - 3, by omega⟩
  src_enter
  unfold MaxQ.popIf
  obtain h0 | h1 | ⟨n, hn⟩ : s.size = 0 ∨ s.size = 1 ∨ ∃ n, s.size = n + 2 := by
    by_cases h0 : s.size = 0
    · exact Or.inl h0
    by_cases h1 : s.size = 1
    · exact Or.inr (Or.inl h1)
    exact Or.inr (Or.inr ⟨s.size - 2, by omega⟩)
  · src_eval [pqPopIf_body, h0]
  · src_eval [pqPopIf_body, h1, call_storeSwapRemoveIf]
  · src_eval [pqPopIf_body, hn, call_storeSwapRemoveIf]
    refine bind_congr_ok fun r hr => ?_
    have hsz := swapRemoveIf_post_size s 0 f r hr
    rw [call_pqHeapify _ _ _ (by simp only at hsz; omega)]
    src_eval

/-- `DoublePriorityQueue::pop_min_if` = `DQ.popMinIf` -/
theorem dqPopMinIf (s : Store P) (f : Item → P → Bool × Item × P) (fuel : Nat) (h : fuel ≥ s.size + 5) :
    Src.run SrcGen.prog fuel .dqPopMinIf s [] [] [Val.pred f]
      = (fun r => (r.1, Val.optEntry r.2)) <$> DQ.popMinIf s f := by
  obtain ⟨k, rfl⟩ : ∃ k, fuel = k + 3 := ⟨fuel - 3, by omega⟩
  src_enter
  unfold DQ.popMinIf
  src_eval [dqPopMinIf_body, call_dqFindMin]
  cases hf : DQ.findMin s with
  | none => src_eval
  | some i =>
    src_eval [call_storeSwapRemoveIf]
    refine bind_congr_ok fun r hr => ?_
    have hsz := swapRemoveIf_post_size s i f r hr
    rw [call_dqHeapify _ _ _ (by simp only at hsz; omega)]
    src_eval

/-- `DoublePriorityQueue::pop_max_if` = `DQ.popMaxIf` -/
theorem dqPopMaxIf (s : Store P) (f : Item → P → Bool × Item × P) (fuel : Nat) (h : fuel ≥ s.size + 8) :
    Src.run SrcGen.prog fuel .dqPopMaxIf s [] [] [Val.pred f]
      = (fun r => (r.1, Val.optEntry r.2)) <$> DQ.popMaxIf s f := by
  obtain ⟨k, rfl⟩ : ∃ k, fuel = k + 3 := ⟨fuel - 3, by omega⟩
  src_enter
  unfold DQ.popMaxIf
  src_eval [dqPopMaxIf_body, call_dqFindMax]
  refine bind_congr_ok fun fm hfm => ?_
  obtain ⟨hs1, hi2⟩ := findMax_post s fm hfm
  obtain ⟨s1, res⟩ := fm
  cases res with
  | none => src_eval
  | some i =>
    have := hi2 i rfl
    src_eval [call_storeSwapRemoveIf]
    refine bind_congr_ok fun r hr => ?_
    have hsz := swapRemoveIf_post_size s1 i f r hr
    rw [call_dqUpHeapify _ _ _ (by simp only at hsz hs1; omega)]
    src_eval

/-! ## `peek`, `peek_min`, `peek_max` -/

/-- `PriorityQueue::peek` = `MaxQ.peek` -/
theorem pqPeek (s : Store P) (fuel : Nat) (h : fuel ≥ 1) :
    Src.run SrcGen.prog fuel .pqPeek s [] = pure (s, Val.optEntry (MaxQ.peek s)) := by
  rw [run_eq_pos rfl h]
  unfold MaxQ.peek
  src_eval [pqPeek_body]
  cases s.heap[0]? <;> src_eval

/-- `DoublePriorityQueue::peek_min` = `DQ.peekMin` -/
theorem dqPeekMin (s : Store P) (fuel : Nat) (h : fuel ≥ 2) :
    Src.run SrcGen.prog fuel .dqPeekMin s [] = (fun r => (s, Val.optEntry r)) <$> DQ.peekMin s := by
  obtain ⟨k, rfl⟩ : ∃ k, fuel = k + 2 := ⟨fuel - 2, by omega⟩
  src_enter
  unfold DQ.peekMin
  src_eval [dqPeekMin_body, call_dqFindMin]
  cases hf : DQ.findMin s with
  | none => src_eval
  | some i => src_eval [DQ.entryAt]

/-- `DoublePriorityQueue::peek_max` = `DQ.peekMax` -/
theorem dqPeekMax (s : Store P) (fuel : Nat) (h : fuel ≥ 3) :
    Src.run SrcGen.prog fuel .dqPeekMax s [] = (fun r => (r.1, Val.optEntry r.2)) <$> DQ.peekMax s := by
  obtain ⟨k, rfl⟩ : ∃ k, fuel = k + 3 := ⟨fuel - 3, by omega⟩
  src_enter
  unfold DQ.peekMax
  src_eval [dqPeekMax_body, call_dqFindMax]
  refine bind_congr_ok fun fm _ => ?_
  obtain ⟨s1, res⟩ := fm
  cases res with
  | none => src_eval
  | some i => src_eval [DQ.entryAt]

/-! ## `peek_mut`, `peek_min_mut`, `peek_max_mut` -/

/-- what the caller does with the `&mut I` that `peek_mut` hands out: `w` is the caller's write -/
def applyWrite (w : Item → Item) (r : Store P × Val P) : Store P × Option (Item × P) :=
  match r.2 with
  | .optSlot (some (i, it, p)) => ({ r.1 with map := r.1.map.setItem i (w it) }, some (it, p))
  | _ => (r.1, none)

/-- `PriorityQueue::peek_mut` followed by the caller's write = `MaxQ.peekMutWrite` -/
theorem pqPeekMut (s : Store P) (w : Item → Item) (fuel : Nat) (h : fuel ≥ 1) :
    applyWrite w <$> Src.run SrcGen.prog fuel .pqPeekMut s [] = MaxQ.peekMutWrite s w := by
  rw [run_eq_pos rfl h]
  unfold MaxQ.peekMutWrite
  by_cases h0 : s.size = 0
  · src_eval [pqPeekMut_body, h0, applyWrite]
  · src_eval [pqPeekMut_body, h0, applyWrite]
    refine bind_congr_ok fun i _ => ?_
    cases s.map.getIndex i <;> rfl

/-- `DoublePriorityQueue::peek_min_mut` followed by the caller's write = `DQ.peekMinMutWrite` -/
theorem dqPeekMinMut (s : Store P) (w : Item → Item) (fuel : Nat) (h : fuel ≥ 2) :
    applyWrite w <$> Src.run SrcGen.prog fuel .dqPeekMinMut s [] = DQ.peekMinMutWrite s w := by
  obtain ⟨k, rfl⟩ : ∃ k, fuel = k + 2 := ⟨fuel - 2, by omega⟩
  src_enter
  unfold DQ.peekMinMutWrite
  src_eval [dqPeekMinMut_body, call_dqFindMin]
  cases hf : DQ.findMin s with
  | none => src_eval [applyWrite]
  | some pos =>
    src_eval [applyWrite]
    refine bind_congr_ok fun i _ => ?_
    cases s.map.getIndex i <;> rfl

/-- `DoublePriorityQueue::peek_max_mut` followed by the caller's write = `DQ.peekMaxMutWrite` -/
theorem dqPeekMaxMut (s : Store P) (w : Item → Item) (fuel : Nat) (h : fuel ≥ 3) :
    applyWrite w <$> Src.run SrcGen.prog fuel .dqPeekMaxMut s [] = DQ.peekMaxMutWrite s w := by
  obtain ⟨k, rfl⟩ : ∃ k, fuel = k + 3 := ⟨fuel - 3, by omega⟩
  src_enter
  unfold DQ.peekMaxMutWrite
  src_eval [dqPeekMaxMut_body, call_dqFindMax]
  refine bind_congr_ok fun fm _ => ?_
  obtain ⟨s1, res⟩ := fm
  cases res with
  | none => src_eval [applyWrite]
  | some pos =>
    src_eval [applyWrite]
    refine bind_congr_ok fun i _ => ?_
    cases s1.map.getIndex i <;> rfl
end PQ.SrcEquiv
