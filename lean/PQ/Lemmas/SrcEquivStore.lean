import PQ.Lemmas.SrcEquivBase
/-!
# Source-translated tie: `Store::swap_remove`, `Store::remove`

The map operations `IndexMap::swap_remove_index` / `swap_remove_full` are primitives of the IR (`IMap.swapRemoveIndex`,
`IMap.swapRemoveFull`: IndexMap is trusted base); everything the crate itself does to its two index tables and its size
counter — the order of the accesses, the four-case repair — is translated from the source text.
-/
set_option linter.unusedSimpArgs false
set_option linter.unusedSectionVars false
namespace PQ.SrcEquiv
open PQ PQ.Src PQ.SrcGen

variable {P : Type} [LT P] [DecidableLT P]

/-- `Store::swap_remove` = `Store.swapRemove` -/
theorem storeSwapRemove (s : Store P) (position : Nat) (fuel : Nat) (h : fuel ≥ 1) :
    Src.run SrcGen.prog fuel .storeSwapRemove s [position]
      = (fun r => (r.1, Val.optEntry r.2)) <$> s.swapRemove position := by
  rw [run_eq_pos rfl h]
  src_eval [storeSwapRemove_body, Store.swapRemove]
  refine bind_congr fun x => bind_congr fun x1 => ?_
  refine ite_congr_same (fun _ => bind_congr fun _ => bind_congr fun _ => bind_congr fun x4 => ?_)
    (fun _ => bind_congr fun x2 => ?_)
  all_goals
    refine ite_congr_same (fun _ => bind_congr fun _ => bind_congr fun _ => ?_) (fun _ => ?_)
  all_goals
    cases s.map.swapRemoveIndex x.1 <;> rfl

/-- `Store::remove` = `Store.remove` -/
theorem storeRemove (s : Store P) (k : Nat) (fuel : Nat) (h : fuel ≥ 1) :
    Src.run SrcGen.prog fuel .storeRemove s [k]
      = (fun r => (r.1, Val.optRemoved r.2)) <$> s.remove k := by
  rw [run_eq_pos rfl h]
  unfold Store.remove
  cases hm : s.map.swapRemoveFull k with
  | none => src_eval [storeRemove_body, hm]
  | some r =>
    obtain ⟨i, e, map⟩ := r
    src_eval [storeRemove_body, hm]
    src_close

end PQ.SrcEquiv
