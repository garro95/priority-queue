import PQ.Lemmas.IMapLemmas
import PQ.Lemmas.WF
/-!
# The store-level bulk operations

None of the functions treated here looks at the order of priorities.  For each of them we prove
(1) that it produces a well-formed store (`WF`) and (2) exactly which entries the result holds, as a statement
about `IMap.lookup` of the result's map (stored item payloads included).

Sections: identity tables, `empty`/`clear`/`drain`, the shared "tail push" step (`pushTail`), `pushIfAbsent`
and its fold, `fromVec`, `extend`, `fromIter`, `visitSeq`, `retainMut`, `append`.
-/
namespace PQ.Store
variable {P : Type}
open IMap

/-! ## Identity tables -/

/-- the identity tables over any duplicate-free map are well-formed -/
theorem wf_identity {m : IMap P} (hm : NoDupKeys m) (t : Nat) :
    WF ({ map := m, heap := Array.range m.size, qp := Array.range m.size, size := m.size, ticks := t } : Store P) := by
  refine ⟨rfl, Array.size_range, Array.size_range, ?_, ?_, hm⟩
  · intro p hp
    exact ⟨p, by simp only [Array.getElem?_range, if_pos hp], by simp only [Array.getElem?_range, if_pos hp]⟩
  · intro i hi
    exact ⟨i, by simp only [Array.getElem?_range, if_pos hi], by simp only [Array.getElem?_range, if_pos hi]⟩

/-- a store whose three tables are empty and whose size is `0` is well-formed -/
theorem wf_of_tables_empty {s : Store P} (hm : s.map = #[]) (hh : s.heap = #[]) (hq : s.qp = #[])
    (hs : s.size = 0) : s.WF := by
  unfold WF
  rw [hs]
  refine ⟨by rw [hm]; rfl, by rw [hh]; rfl, by rw [hq]; rfl, ?_, ?_, by rw [hm]; exact NoDupKeys.empty⟩
  · intro p hp; omega
  · intro i hi; omega

/-- under `WF`, size `0` means all three tables are empty -/
theorem WF.tables_empty_of_size_zero {s : Store P} (h : s.WF) (hs : s.size = 0) :
    s.map = #[] ∧ s.heap = #[] ∧ s.qp = #[] := by
  refine ⟨Array.eq_empty_of_size_eq_zero ?_, Array.eq_empty_of_size_eq_zero ?_, Array.eq_empty_of_size_eq_zero ?_⟩
  · rw [h.map_size, hs]
  · rw [h.heap_size, hs]
  · rw [h.qp_size, hs]

theorem WF.size_eq_map_size {s : Store P} (h : s.WF) : s.size = s.map.size := h.map_size.symm

/-! ## `empty`, `clear`, `drain` -/

theorem wf_empty : (empty : Store P).WF := wf_of_tables_empty rfl rfl rfl rfl

@[simp] theorem lookup_empty (k : Nat) : lookup (empty : Store P).map k = none := rfl

@[simp] theorem size_empty : (empty : Store P).size = 0 := rfl

/-- `clear` resets everything but the ghost counter -/
theorem clear_eq (s : Store P) : clear s = { (empty : Store P) with ticks := s.ticks } := rfl

theorem clear_tables (s : Store P) :
    (clear s).map = #[] ∧ (clear s).heap = #[] ∧ (clear s).qp = #[] ∧ (clear s).size = 0 ∧
      (clear s).ticks = s.ticks := ⟨rfl, rfl, rfl, rfl, rfl⟩

theorem wf_clear (s : Store P) : (clear s).WF := wf_of_tables_empty rfl rfl rfl rfl

@[simp] theorem lookup_clear (s : Store P) (k : Nat) : lookup (clear s).map k = none := rfl

/-- `drain` hands out the entries in slot order … -/
@[simp] theorem drain_fst (s : Store P) : (drain s).1 = s.map := rfl

/-- … and leaves the cleared store behind -/
theorem drain_snd (s : Store P) : (drain s).2 = { (empty : Store P) with ticks := s.ticks } := rfl

theorem drain_snd_eq_clear (s : Store P) : (drain s).2 = clear s := rfl

theorem drain_tables (s : Store P) :
    (drain s).2.map = #[] ∧ (drain s).2.heap = #[] ∧ (drain s).2.qp = #[] ∧ (drain s).2.size = 0 ∧
      (drain s).2.ticks = s.ticks := ⟨rfl, rfl, rfl, rfl, rfl⟩

theorem wf_drain (s : Store P) : (drain s).2.WF := wf_of_tables_empty rfl rfl rfl rfl

@[simp] theorem lookup_drain (s : Store P) (k : Nat) : lookup (drain s).2.map k = none := rfl

/-! ## The "tail push" step shared by `pushIfAbsent`, `extendStep`, `fromIterStep`, `visitSeqStep` -/

/-- append a new entry in the last slot and the last heap position (no sifting: the store level does not order) -/
def pushTail (s : Store P) (e : Item × P) : Store P :=
  { s with map := s.map.push e, heap := s.heap.push s.size, qp := s.qp.push s.size, size := s.size + 1 }

theorem pushTail_eq (s : Store P) (e : Item × P) :
    pushTail s e =
      { s with map := s.map.push e, heap := s.heap.push s.size, qp := s.qp.push s.size, size := s.size + 1 } := rfl

@[simp] theorem pushTail_map (s : Store P) (e : Item × P) : (pushTail s e).map = s.map.push e := rfl
@[simp] theorem pushTail_heap (s : Store P) (e : Item × P) : (pushTail s e).heap = s.heap.push s.size := rfl
@[simp] theorem pushTail_qp (s : Store P) (e : Item × P) : (pushTail s e).qp = s.qp.push s.size := rfl
@[simp] theorem pushTail_size (s : Store P) (e : Item × P) : (pushTail s e).size = s.size + 1 := rfl
@[simp] theorem pushTail_ticks (s : Store P) (e : Item × P) : (pushTail s e).ticks = s.ticks := rfl

/-- **tail push keeps `WF`** when the key is new -/
theorem wf_pushTail {s : Store P} (h : s.WF) {e : Item × P} (he : find? s.map e.1.key = none) :
    (pushTail s e).WF := 
  .of_inv (by simp [h.map_size]) h.inv.push (h.nodup.push he)

/-- **entries after a tail push** of a new key -/
theorem lookup_pushTail {s : Store P} {e : Item × P} (he : find? s.map e.1.key = none) (k : Nat) :
    lookup (pushTail s e).map k = if k = e.1.key then some e else lookup s.map k :=
  lookup_push he k

/-- the same without the freshness hypothesis: an older entry of the key shadows the pushed one -/
theorem lookup_pushTail' (s : Store P) (e : Item × P) (k : Nat) :
    lookup (pushTail s e).map k = (lookup s.map k).or (if e.1.key = k then some e else none) :=
  lookup_push' s.map e k

/-- frame: heap positions below the old size are unchanged -/
theorem heap_pushTail_of_lt {s : Store P} (h : s.WF) (e : Item × P) {p : Nat} (hp : p < s.size) :
    (pushTail s e).heap[p]? = s.heap[p]? := by
  have := h.heap_size
  rw [pushTail_heap, Array.getElem?_push, if_neg (by omega)]

/-- frame: slots below the old size keep their heap position -/
theorem qp_pushTail_of_lt {s : Store P} (h : s.WF) (e : Item × P) {i : Nat} (hi : i < s.size) :
    (pushTail s e).qp[i]? = s.qp[i]? := by
  have := h.qp_size
  rw [pushTail_qp, Array.getElem?_push, if_neg (by omega)]

/-- frame: slots below the old size keep their entry -/
theorem map_pushTail_of_lt {s : Store P} (h : s.WF) (e : Item × P) {i : Nat} (hi : i < s.size) :
    (pushTail s e).map[i]? = s.map[i]? := by
  have := h.map_size
  rw [pushTail_map, Array.getElem?_push, if_neg (by omega)]

/-- the new last heap position holds the new last slot … -/
theorem heap_pushTail_last {s : Store P} (h : s.WF) (e : Item × P) :
    (pushTail s e).heap[s.size]? = some s.size := by
  rw [pushTail_heap, Array.getElem?_push, if_pos h.heap_size.symm]

/-- … and the new last slot points back to the new last heap position … -/
theorem qp_pushTail_last {s : Store P} (h : s.WF) (e : Item × P) :
    (pushTail s e).qp[s.size]? = some s.size := by
  rw [pushTail_qp, Array.getElem?_push, if_pos h.qp_size.symm]

/-- … and holds the pushed entry -/
theorem map_pushTail_last {s : Store P} (h : s.WF) (e : Item × P) :
    (pushTail s e).map[s.size]? = some e := by
  rw [pushTail_map, Array.getElem?_push, if_pos h.map_size.symm]

/-- the entry at the new last heap position is the pushed one; entries at older positions are unchanged -/
theorem entryAt_pushTail {s : Store P} (h : s.WF) (e : Item × P) (p : Nat) :
    (pushTail s e).entryAt p = if p = s.size then some e else s.entryAt p := by
  unfold entryAt
  by_cases hp : p = s.size
  · subst hp
    rw [heap_pushTail_last h, if_pos rfl]
    exact map_pushTail_last h e
  · rw [if_neg hp]
    by_cases hlt : p < s.size
    · rw [heap_pushTail_of_lt h e hlt]
      obtain ⟨i, hi, hil⟩ := TWF.heap_some h hlt
      rw [hi]
      exact map_pushTail_of_lt h e hil
    · have h1 : (pushTail s e).heap[p]? = none := by
        apply Array.getElem?_eq_none
        rw [pushTail_heap, Array.size_push, h.heap_size]; omega
      have h2 : s.heap[p]? = none := by
        apply Array.getElem?_eq_none
        rw [h.heap_size]; omega
      rw [h1, h2]

/-! ## `pushIfAbsent` -/

theorem pushIfAbsent_of_contains {s : Store P} {e : Item × P} (h : contains s.map e.1.key = true) :
    pushIfAbsent s e = s := by
  unfold pushIfAbsent; rw [if_pos h]

theorem pushIfAbsent_of_not_contains {s : Store P} {e : Item × P} (h : contains s.map e.1.key = false) :
    pushIfAbsent s e = pushTail s e := by
  unfold pushIfAbsent; rw [h]; rfl

theorem pushIfAbsent_of_find?_none {s : Store P} {e : Item × P} (h : find? s.map e.1.key = none) :
    pushIfAbsent s e = pushTail s e :=
  pushIfAbsent_of_not_contains (by rw [contains_eq, h]; rfl)

/-- **`pushIfAbsent` keeps `WF`** -/
theorem wf_pushIfAbsent {s : Store P} (h : s.WF) (e : Item × P) : (pushIfAbsent s e).WF := by
  cases hf : find? s.map e.1.key with
  | none => rw [pushIfAbsent_of_find?_none hf]; exact wf_pushTail h hf
  | some i => rw [pushIfAbsent_of_contains (by rw [contains_eq, hf]; rfl)]; exact h

/-- entries after `pushIfAbsent`, `Option.or` form: what was stored stays, the new pair fills a gap only -/
theorem lookup_pushIfAbsent' (s : Store P) (e : Item × P) (k : Nat) :
    lookup (pushIfAbsent s e).map k = (lookup s.map k).or (if e.1.key = k then some e else none) := by
  cases hf : find? s.map e.1.key with
  | none => rw [pushIfAbsent_of_find?_none hf]; exact lookup_pushTail' s e k
  | some i =>
    rw [pushIfAbsent_of_contains (by rw [contains_eq, hf]; rfl)]
    by_cases hk : e.1.key = k
    · subst hk
      cases hl : lookup s.map e.1.key with
      | none => rw [lookup_eq_none_iff_find?.1 hl] at hf; cases hf
      | some x => rfl
    · rw [if_neg hk, Option.or_none]

/-- **entries after `pushIfAbsent`** (first one wins) -/
theorem lookup_pushIfAbsent (s : Store P) (e : Item × P) (k : Nat) :
    lookup (pushIfAbsent s e).map k =
      if (lookup s.map e.1.key).isNone = true ∧ k = e.1.key then some e else lookup s.map k := by
  rw [lookup_pushIfAbsent']
  by_cases hk : k = e.1.key
  · subst hk
    cases hl : lookup s.map e.1.key <;> simp
  · have : ¬ e.1.key = k := fun h => hk h.symm
    simp [hk, this]

theorem size_pushIfAbsent (s : Store P) (e : Item × P) :
    (pushIfAbsent s e).size = if contains s.map e.1.key then s.size else s.size + 1 := by
  cases hc : contains s.map e.1.key with
  | true => rw [pushIfAbsent_of_contains hc]; rfl
  | false => rw [pushIfAbsent_of_not_contains hc]; rfl

@[simp] theorem ticks_pushIfAbsent (s : Store P) (e : Item × P) : (pushIfAbsent s e).ticks = s.ticks := by
  unfold pushIfAbsent; split <;> rfl

/-! ### folding `pushIfAbsent` over a list of pairs -/

theorem wf_foldl_pushIfAbsent (l : List (Item × P)) {s : Store P} (h : s.WF) :
    (l.foldl pushIfAbsent s).WF := by
  induction l generalizing s with
  | nil => exact h
  | cons e l ih => exact ih (wf_pushIfAbsent h e)

/-- what was stored stays; every other key gets the FIRST pair given for it -/
theorem lookup_foldl_pushIfAbsent (l : List (Item × P)) (s : Store P) (k : Nat) :
    lookup (l.foldl pushIfAbsent s).map k = (lookup s.map k).or (l.find? (fun e => e.1.key == k)) := by
  induction l generalizing s with
  | nil => simp
  | cons e l ih =>
    rw [List.foldl_cons, ih, lookup_pushIfAbsent']
    by_cases hk : e.1.key = k
    · rw [if_pos hk, List.find?_cons_of_pos (by simpa using hk), Option.or_assoc, Option.some_or]
    · rw [if_neg hk, List.find?_cons_of_neg (by simpa using hk), Option.or_none]

@[simp] theorem ticks_foldl_pushIfAbsent (l : List (Item × P)) (s : Store P) :
    (l.foldl pushIfAbsent s).ticks = s.ticks := by
  induction l generalizing s with
  | nil => rfl
  | cons e l ih => rw [List.foldl_cons, ih, ticks_pushIfAbsent]

theorem contains_pushTail_map {s : Store P} {e : Item × P} (he : contains s.map e.1.key = false) (k : Nat) :
    contains (pushTail s e).map k = (k == e.1.key || contains s.map k) := by
  have hf : find? s.map e.1.key = none := by
    rw [contains_eq] at he; cases hf : find? s.map e.1.key <;> simp_all
  have := contains_insertFull s.map e.1 e.2 k
  rw [insertFull_of_find?_none hf] at this
  exact this

/-- size bookkeeping shared by all four loops: a step that leaves size and key set alone on a present key and
tail-pushes an absent one makes the size grow by the number of distinct new keys -/
theorem size_foldl_of_step {step : Store P → Item × P → Store P}
    (hpres : ∀ s e, contains s.map e.1.key = true →
      (step s e).size = s.size ∧ ∀ k, contains (step s e).map k = contains s.map k)
    (habs : ∀ s e, contains s.map e.1.key = false → step s e = pushTail s e)
    (l : List (Item × P)) (s : Store P) :
    (l.foldl step s).size =
      s.size + ((l.map (·.1.key)).filter (fun k => !contains s.map k)).eraseDups.length := by
  induction l generalizing s with
  | nil => simp
  | cons e l ih =>
    rw [List.foldl_cons, ih, List.map_cons, List.filter_cons]
    cases hc : contains s.map e.1.key with
    | true =>
      obtain ⟨h1, h2⟩ := hpres s e hc
      simp only [h1, h2]
      simp
    | false =>
      rw [habs s e hc]
      simp only [Bool.not_false, if_true, List.eraseDups_cons, List.length_cons, pushTail_size,
        List.filter_filter, contains_pushTail_map hc, Bool.not_or]
      omega

/-- the size grows by the number of distinct new keys -/
theorem size_foldl_pushIfAbsent (l : List (Item × P)) (s : Store P) :
    (l.foldl pushIfAbsent s).size =
      s.size + ((l.map (·.1.key)).filter (fun k => !contains s.map k)).eraseDups.length :=
  size_foldl_of_step (fun s e hc => by rw [pushIfAbsent_of_contains hc]; exact ⟨rfl, fun _ => rfl⟩)
    (fun s e hc => pushIfAbsent_of_not_contains hc) l s

@[simp] theorem contains_empty_map (k : Nat) : contains (empty : Store P).map k = false := by
  rw [← lookup_isSome_eq_contains]; rfl

theorem filter_not_contains_empty (l : List Nat) :
    l.filter (fun k => !contains (empty : Store P).map k) = l := by
  simp

/-- membership in a list of pairs, seen through `find?` on the key -/
theorem find?_key_isSome_iff {l : List (Item × P)} {k : Nat} :
    (l.find? (fun e => e.1.key == k)).isSome = true ↔ ∃ e, e ∈ l ∧ e.1.key = k := by
  rw [List.find?_isSome]; simp

theorem find?_key_reverse_isSome (l : List (Item × P)) (k : Nat) :
    (l.reverse.find? (fun e => e.1.key == k)).isSome = (l.find? (fun e => e.1.key == k)).isSome := by
  rw [Bool.eq_iff_iff, find?_key_isSome_iff, find?_key_isSome_iff]
  simp only [List.mem_reverse]

/-! ## `fromVec` -/

theorem fromVec_eq (v : Array (Item × P)) : fromVec v = v.toList.foldl pushIfAbsent empty := by
  unfold fromVec; rw [Array.foldl_toList]

/-- **`From<Vec>` builds a well-formed store** from any vector -/
theorem wf_fromVec (v : Array (Item × P)) : (fromVec v).WF := by
  rw [fromVec_eq]; exact wf_foldl_pushIfAbsent _ wf_empty

/-- **`From<Vec>` keeps the FIRST pair given for each key** (item payload included) -/
theorem lookup_fromVec (v : Array (Item × P)) (k : Nat) :
    lookup (fromVec v).map k = v.toList.find? (fun e => e.1.key == k) := by
  rw [fromVec_eq, lookup_foldl_pushIfAbsent, lookup_empty, Option.none_or]

theorem contains_fromVec_iff (v : Array (Item × P)) (k : Nat) :
    contains (fromVec v).map k = true ↔ ∃ e, e ∈ v ∧ e.1.key = k := by
  rw [← lookup_isSome_eq_contains, lookup_fromVec, find?_key_isSome_iff]
  simp only [Array.mem_toList_iff]

/-- **`From<Vec>`: the size is the number of distinct keys** -/
theorem size_fromVec (v : Array (Item × P)) :
    (fromVec v).size = (v.toList.map (·.1.key)).eraseDups.length := by
  rw [fromVec_eq, size_foldl_pushIfAbsent, filter_not_contains_empty, size_empty, Nat.zero_add]

@[simp] theorem ticks_fromVec (v : Array (Item × P)) : (fromVec v).ticks = 0 := by
  rw [fromVec_eq, ticks_foldl_pushIfAbsent]; rfl

/-! ## `extendStep`, `extend` -/

/-- abstract effect of one `extend` / `visit_seq` step on the item→entry function: the key of `e` gets the
priority of `e`; the stored item stays if there is one, otherwise the item of `e` is stored -/
def absStep (f : Nat → Option (Item × P)) (e : Item × P) : Nat → Option (Item × P) :=
  fun k => if k = e.1.key then some (((f k).map (·.1)).getD e.1, e.2) else f k

/-- replacing the map by one of the same size without duplicate keys keeps `WF` -/
theorem wf_of_map_update {s : Store P} (h : s.WF) {m' : IMap P} (hs : m'.size = s.map.size)
    (hn : NoDupKeys m') : WF { s with map := m' } :=
  ⟨hs.trans h.map_size, h.heap_size, h.qp_size, h.heap_qp, h.qp_heap, hn⟩

theorem extendStep_of_find?_none {s : Store P} {e : Item × P} (h : find? s.map e.1.key = none) :
    extendStep s e = pushTail s e := by
  unfold extendStep; rw [h]; rfl

theorem extendStep_of_find?_some {s : Store P} {e : Item × P} {i : Nat} (h : find? s.map e.1.key = some i) :
    extendStep s e = { s with map := s.map.setPrio i e.2 } := by
  unfold extendStep; rw [h]

/-- **one `extend` step keeps `WF`** -/
theorem wf_extendStep {s : Store P} (h : s.WF) (e : Item × P) : (extendStep s e).WF := by
  cases hf : find? s.map e.1.key with
  | none => rw [extendStep_of_find?_none hf]; exact wf_pushTail h hf
  | some i =>
    rw [extendStep_of_find?_some hf]
    exact wf_of_map_update h (size_setPrio _ _ _) (h.nodup.setPrio i e.2)

/-- **entries after one `extend` step** (no hypothesis needed) -/
theorem lookup_extendStep (s : Store P) (e : Item × P) :
    lookup (extendStep s e).map = absStep (lookup s.map) e := by
  funext k
  unfold absStep
  cases hf : find? s.map e.1.key with
  | none =>
    rw [extendStep_of_find?_none hf, lookup_pushTail hf]
    by_cases hk : k = e.1.key
    · subst hk; rw [if_pos rfl, if_pos rfl, lookup_eq_none_iff_find?.2 hf]; rfl
    · rw [if_neg hk, if_neg hk]
  | some i =>
    obtain ⟨e0, he0, hk0⟩ := find?_getElem? hf
    rw [extendStep_of_find?_some hf]
    show lookup (setPrio s.map i e.2) k = _
    rw [setPrio_of_getElem? he0, lookup_setIfInBounds' he0 (e' := (e0.1, e.2)) rfl]
    by_cases hk : k = e.1.key
    · subst hk
      rw [if_pos hf, if_pos rfl, lookup_eq_find?, hf]
      simp [he0]
    · rw [if_neg hk, if_neg]
      intro hf'
      obtain ⟨e', he', hk'⟩ := find?_getElem? hf'
      rw [he0] at he'; cases he'
      exact hk (hk'.symm.trans hk0)

theorem size_extendStep (s : Store P) (e : Item × P) :
    (extendStep s e).size = if contains s.map e.1.key then s.size else s.size + 1 := by
  rw [contains_eq]
  cases hf : find? s.map e.1.key with
  | none => rw [extendStep_of_find?_none hf]; rfl
  | some i => rw [extendStep_of_find?_some hf]; rfl

@[simp] theorem ticks_extendStep (s : Store P) (e : Item × P) : (extendStep s e).ticks = s.ticks := by
  unfold extendStep; split <;> rfl

theorem wf_foldl_extendStep (l : List (Item × P)) {s : Store P} (h : s.WF) :
    (l.foldl extendStep s).WF := by
  induction l generalizing s with
  | nil => exact h
  | cons e l ih => exact ih (wf_extendStep h e)

theorem lookup_foldl_extendStep (l : List (Item × P)) (s : Store P) :
    lookup (l.foldl extendStep s).map = l.foldl absStep (lookup s.map) := by
  induction l generalizing s with
  | nil => rfl
  | cons e l ih => rw [List.foldl_cons, ih, lookup_extendStep, List.foldl_cons]

theorem size_foldl_extendStep (l : List (Item × P)) (s : Store P) :
    (l.foldl extendStep s).size =
      s.size + ((l.map (·.1.key)).filter (fun k => !contains s.map k)).eraseDups.length := by
  refine size_foldl_of_step ?_ ?_ l s
  · intro s e hc
    rw [contains_eq] at hc
    cases hf : find? s.map e.1.key with
    | none => rw [hf] at hc; cases hc
    | some i =>
      rw [extendStep_of_find?_some hf]
      exact ⟨rfl, fun k => contains_setPrio _ _ _ _⟩
  · intro s e hc
    apply extendStep_of_find?_none
    rw [contains_eq] at hc
    cases hf : find? s.map e.1.key <;> simp_all

/-- closed form of the abstract fold: a key that occurs in `l` gets the priority of its LAST pair and the item
that `f` already had, else the item of its FIRST pair; a key that does not occur is left alone -/
theorem foldl_absStep_apply (l : List (Item × P)) (f : Nat → Option (Item × P)) (k : Nat) :
    l.foldl absStep f k =
      match l.reverse.find? (fun e => e.1.key == k) with
      | none => f k
      | some b => some ((((f k).or (l.find? (fun e => e.1.key == k))).map (·.1)).getD b.1, b.2) := by
  induction l generalizing f with
  | nil => rfl
  | cons e l ih =>
    rw [List.foldl_cons, ih, List.reverse_cons, List.find?_append]
    by_cases hk : e.1.key = k
    · have hk' : k = e.1.key := hk.symm
      rw [List.find?_cons_of_pos (l := l) (by simpa using hk), List.find?_cons_of_pos (l := []) (by simpa using hk)]
      have hf : absStep f e k = some (((f k).map (·.1)).getD e.1, e.2) := by unfold absStep; rw [if_pos hk']
      rw [hf]
      cases l.reverse.find? (fun e => e.1.key == k) with
      | none => cases f k <;> rfl
      | some b => cases f k <;> rfl
    · have hk' : ¬ k = e.1.key := fun h => hk h.symm
      rw [List.find?_cons_of_neg (l := l) (by simpa using hk), List.find?_cons_of_neg (l := []) (by simpa using hk)]
      have hf : absStep f e k = f k := by unfold absStep; rw [if_neg hk']
      rw [hf, List.find?_nil, Option.or_none]

theorem extend_eq (s : Store P) (xs : Array (Item × P)) : extend s xs = xs.toList.foldl extendStep s := by
  unfold extend; rw [Array.foldl_toList]

/-- **`extend` keeps `WF`** -/
theorem wf_extend {s : Store P} (h : s.WF) (xs : Array (Item × P)) : (extend s xs).WF := by
  rw [extend_eq]; exact wf_foldl_extendStep _ h

/-- **entries after `extend`**, as a fold of the abstract step -/
theorem lookup_extend (s : Store P) (xs : Array (Item × P)) :
    lookup (extend s xs).map = xs.foldl absStep (lookup s.map) := by
  rw [extend_eq, lookup_foldl_extendStep, Array.foldl_toList]

/-- **entries after `extend`**, closed form: priority of the LAST pair with the key; item already stored in `s`,
else the item of the FIRST pair with the key; keys not mentioned are unchanged -/
theorem lookup_extend_apply (s : Store P) (xs : Array (Item × P)) (k : Nat) :
    lookup (extend s xs).map k =
      match xs.toList.reverse.find? (fun e => e.1.key == k) with
      | none => lookup s.map k
      | some b =>
        some ((((lookup s.map k).or (xs.toList.find? (fun e => e.1.key == k))).map (·.1)).getD b.1, b.2) := by
  rw [extend_eq, lookup_foldl_extendStep, foldl_absStep_apply]

/-- a key no pair mentions is unchanged -/
theorem lookup_extend_of_not_mem (s : Store P) (xs : Array (Item × P)) (k : Nat)
    (h : ∀ e, e ∈ xs → e.1.key ≠ k) : lookup (extend s xs).map k = lookup s.map k := by
  rw [lookup_extend_apply]
  have : xs.toList.reverse.find? (fun e => e.1.key == k) = none := by
    rw [List.find?_eq_none]
    intro x hx
    simpa using h x (by simpa using hx)
  rw [this]

/-- a key already stored keeps its stored item and gets the priority of the LAST pair mentioning it -/
theorem lookup_extend_of_present {s : Store P} {xs : Array (Item × P)} {k : Nat} {it : Item} {p : P}
    {b : Item × P} (hs : lookup s.map k = some (it, p))
    (hb : xs.toList.reverse.find? (fun e => e.1.key == k) = some b) :
    lookup (extend s xs).map k = some (it, b.2) := by
  rw [lookup_extend_apply, hb, hs]; rfl

/-- a new key gets the item of the FIRST pair and the priority of the LAST pair mentioning it -/
theorem lookup_extend_of_absent {s : Store P} {xs : Array (Item × P)} {k : Nat} {a b : Item × P}
    (hs : lookup s.map k = none)
    (ha : xs.toList.find? (fun e => e.1.key == k) = some a)
    (hb : xs.toList.reverse.find? (fun e => e.1.key == k) = some b) :
    lookup (extend s xs).map k = some (a.1, b.2) := by
  rw [lookup_extend_apply, hb, hs, ha]; rfl

theorem size_extend (s : Store P) (xs : Array (Item × P)) :
    (extend s xs).size =
      s.size + ((xs.toList.map (·.1.key)).filter (fun k => !contains s.map k)).eraseDups.length := by
  rw [extend_eq, size_foldl_extendStep]

@[simp] theorem ticks_extend (s : Store P) (xs : Array (Item × P)) : (extend s xs).ticks = s.ticks := by
  rw [extend_eq]
  generalize xs.toList = l
  induction l generalizing s with
  | nil => rfl
  | cons e l ih => rw [List.foldl_cons, ih, ticks_extendStep]

/-! ## `fromIterStep`, `fromIter` -/

/-- abstract effect of one `from_iter` step: the incoming pair replaces whatever was there -/
def absStep' (f : Nat → Option (Item × P)) (e : Item × P) : Nat → Option (Item × P) :=
  fun k => if k = e.1.key then some e else f k

theorem fromIterStep_of_find?_none {s : Store P} {e : Item × P} (h : find? s.map e.1.key = none) :
    fromIterStep s e = pushTail s e := by
  unfold fromIterStep; rw [h]; rfl

theorem fromIterStep_of_find?_some {s : Store P} {e : Item × P} {i : Nat} (h : find? s.map e.1.key = some i) :
    fromIterStep s e = { s with map := s.map.setIfInBounds i e } := by
  unfold fromIterStep; rw [h]

/-- **one `from_iter` step keeps `WF`** -/
theorem wf_fromIterStep {s : Store P} (h : s.WF) (e : Item × P) : (fromIterStep s e).WF := by
  cases hf : find? s.map e.1.key with
  | none => rw [fromIterStep_of_find?_none hf]; exact wf_pushTail h hf
  | some i =>
    obtain ⟨e0, he0, hk0⟩ := find?_getElem? hf
    rw [fromIterStep_of_find?_some hf]
    exact wf_of_map_update h (Array.size_setIfInBounds ..) (h.nodup.setIfInBounds he0 hk0.symm)

/-- **entries after one `from_iter` step** (no hypothesis needed) -/
theorem lookup_fromIterStep (s : Store P) (e : Item × P) :
    lookup (fromIterStep s e).map = absStep' (lookup s.map) e := by
  funext k
  unfold absStep'
  cases hf : find? s.map e.1.key with
  | none => rw [fromIterStep_of_find?_none hf, lookup_pushTail hf]
  | some i =>
    obtain ⟨e0, he0, hk0⟩ := find?_getElem? hf
    rw [fromIterStep_of_find?_some hf]
    show lookup (s.map.setIfInBounds i e) k = _
    rw [lookup_setIfInBounds' he0 hk0.symm]
    by_cases hk : k = e.1.key
    · subst hk; rw [if_pos hf, if_pos rfl]
    · rw [if_neg hk, if_neg]
      intro hf'
      obtain ⟨e', he', hk'⟩ := find?_getElem? hf'
      rw [he0] at he'; cases he'
      exact hk (hk'.symm.trans hk0)

theorem wf_foldl_fromIterStep (l : List (Item × P)) {s : Store P} (h : s.WF) :
    (l.foldl fromIterStep s).WF := by
  induction l generalizing s with
  | nil => exact h
  | cons e l ih => exact ih (wf_fromIterStep h e)

theorem lookup_foldl_fromIterStep (l : List (Item × P)) (s : Store P) :
    lookup (l.foldl fromIterStep s).map = l.foldl absStep' (lookup s.map) := by
  induction l generalizing s with
  | nil => rfl
  | cons e l ih => rw [List.foldl_cons, ih, lookup_fromIterStep, List.foldl_cons]

theorem size_foldl_fromIterStep (l : List (Item × P)) (s : Store P) :
    (l.foldl fromIterStep s).size =
      s.size + ((l.map (·.1.key)).filter (fun k => !contains s.map k)).eraseDups.length := by
  refine size_foldl_of_step ?_ ?_ l s
  · intro s e hc
    rw [contains_eq] at hc
    cases hf : find? s.map e.1.key with
    | none => rw [hf] at hc; cases hc
    | some i =>
      obtain ⟨e0, he0, hk0⟩ := find?_getElem? hf
      rw [fromIterStep_of_find?_some hf]
      refine ⟨rfl, fun k => ?_⟩
      show contains (s.map.setIfInBounds i e) k = _
      rw [contains_eq, contains_eq, find?_setIfInBounds he0 hk0.symm]
  · intro s e hc
    apply fromIterStep_of_find?_none
    rw [contains_eq] at hc
    cases hf : find? s.map e.1.key <;> simp_all

/-- closed form of the abstract fold: the LAST pair of each key wins -/
theorem foldl_absStep'_apply (l : List (Item × P)) (f : Nat → Option (Item × P)) (k : Nat) :
    l.foldl absStep' f k = (l.reverse.find? (fun e => e.1.key == k)).or (f k) := by
  induction l generalizing f with
  | nil => rfl
  | cons e l ih =>
    rw [List.foldl_cons, ih, List.reverse_cons, List.find?_append, Option.or_assoc]
    congr 1
    unfold absStep'
    by_cases hk : e.1.key = k
    · rw [if_pos hk.symm, List.find?_cons_of_pos (by simpa using hk), Option.some_or]
    · rw [if_neg (fun h => hk h.symm), List.find?_cons_of_neg (by simpa using hk), List.find?_nil, Option.none_or]

theorem fromIter_eq (xs : Array (Item × P)) : fromIter xs = xs.toList.foldl fromIterStep empty := by
  unfold fromIter; rw [Array.foldl_toList]

/-- **`from_iter` builds a well-formed store** from any sequence -/
theorem wf_fromIter (xs : Array (Item × P)) : (fromIter xs).WF := by
  rw [fromIter_eq]; exact wf_foldl_fromIterStep _ wf_empty

/-- **entries after `from_iter`**, as a fold of the abstract step -/
theorem lookup_fromIter_fold (xs : Array (Item × P)) :
    lookup (fromIter xs).map = xs.foldl absStep' (fun _ => none) := by
  rw [fromIter_eq, lookup_foldl_fromIterStep, Array.foldl_toList]; rfl

/-- **`from_iter` keeps the LAST pair given for each key**, with that pair's item -/
theorem lookup_fromIter (xs : Array (Item × P)) (k : Nat) :
    lookup (fromIter xs).map k = xs.toList.reverse.find? (fun e => e.1.key == k) := by
  rw [fromIter_eq, lookup_foldl_fromIterStep, foldl_absStep'_apply, lookup_empty, Option.or_none]

theorem size_fromIter (xs : Array (Item × P)) :
    (fromIter xs).size = (xs.toList.map (·.1.key)).eraseDups.length := by
  rw [fromIter_eq, size_foldl_fromIterStep, filter_not_contains_empty, size_empty, Nat.zero_add]

/-! ## `visitSeqStep`, `visitSeq` (the deserializer's loop) -/

/-- the deserializer's step is the `extend` step -/
theorem visitSeqStep_eq_extendStep (s : Store P) (e : Item × P) : visitSeqStep s e = extendStep s e := by
  unfold visitSeqStep
  rcases insertFull_cases s.map e.1 e.2 with ⟨i, e0, hf, he, hk, h⟩ | ⟨hf, h⟩
  · rw [h, extendStep_of_find?_some hf, setPrio_of_getElem? he]
  · rw [h, extendStep_of_find?_none hf]; rfl

theorem visitSeq_eq_extend (xs : Array (Item × P)) : visitSeq xs = extend empty xs := by
  have : @visitSeqStep P = extendStep := funext fun s => funext fun e => visitSeqStep_eq_extendStep s e
  unfold visitSeq extend; rw [this]

/-- one deserializer step keeps `WF` -/
theorem wf_visitSeqStep {s : Store P} (h : s.WF) (e : Item × P) : (visitSeqStep s e).WF := by
  rw [visitSeqStep_eq_extendStep]; exact wf_extendStep h e

theorem lookup_visitSeqStep (s : Store P) (e : Item × P) :
    lookup (visitSeqStep s e).map = absStep (lookup s.map) e := by
  rw [visitSeqStep_eq_extendStep]; exact lookup_extendStep s e

/-- **C15, totality half: the deserializer's loop yields a well-formed store for EVERY input sequence**
(repeated items do not corrupt the tables) -/
theorem wf_visitSeq (xs : Array (Item × P)) : (visitSeq xs).WF := by
  rw [visitSeq_eq_extend]; exact wf_extend wf_empty xs

/-- entries after `visit_seq`, as a fold of the abstract step -/
theorem lookup_visitSeq_fold (xs : Array (Item × P)) :
    lookup (visitSeq xs).map = xs.foldl absStep (fun _ => none) := by
  rw [visitSeq_eq_extend, lookup_extend]; rfl

/-- **entries after `visit_seq`**: each key gets the item of its FIRST pair and the priority of its LAST pair -/
theorem lookup_visitSeq (xs : Array (Item × P)) (k : Nat) :
    lookup (visitSeq xs).map k =
      match xs.toList.reverse.find? (fun e => e.1.key == k) with
      | none => none
      | some b => some (((xs.toList.find? (fun e => e.1.key == k)).map (·.1)).getD b.1, b.2) := by
  rw [visitSeq_eq_extend, lookup_extend_apply]
  simp only [lookup_empty, Option.none_or]

/-- exactly the keys of the sequence are held … -/
theorem lookup_visitSeq_isSome_iff (xs : Array (Item × P)) (k : Nat) :
    (∃ e, e ∈ xs ∧ e.1.key = k) ↔ (lookup (visitSeq xs).map k).isSome = true := by
  rw [lookup_visitSeq]
  have h1 := find?_key_reverse_isSome xs.toList k
  have h2 := find?_key_isSome_iff (l := xs.toList) (k := k)
  simp only [Array.mem_toList_iff] at h2
  rw [← h2, ← h1]
  cases xs.toList.reverse.find? (fun e => e.1.key == k) <;> simp

/-- … each with an item and a priority given for it in the sequence (the FIRST item, the LAST priority) -/
theorem lookup_visitSeq_some {xs : Array (Item × P)} {k : Nat} {it : Item} {p : P}
    (h : lookup (visitSeq xs).map k = some (it, p)) :
    (∃ e, e ∈ xs ∧ e.1.key = k ∧ e.2 = p) ∧ (∃ e, e ∈ xs ∧ e.1.key = k ∧ e.1 = it) := by
  rw [lookup_visitSeq] at h
  have h1 := find?_key_reverse_isSome xs.toList k
  cases hb : xs.toList.reverse.find? (fun e => e.1.key == k) with
  | none => rw [hb] at h; cases h
  | some b =>
    rw [hb] at h h1
    have hbm := List.mem_of_find?_eq_some hb
    have hbk := List.find?_some hb
    cases ha : xs.toList.find? (fun e => e.1.key == k) with
    | none => rw [ha] at h1; cases h1
    | some a =>
      rw [ha] at h
      have ham := List.mem_of_find?_eq_some ha
      have hak := List.find?_some ha
      simp only [Option.map_some, Option.getD_some, Option.some.injEq, Prod.mk.injEq] at h
      refine ⟨⟨b, by simpa using hbm, by simpa using hbk, h.2⟩, ⟨a, by simpa using ham, by simpa using hak, h.1⟩⟩

/-- the size counter agrees with the map -/
theorem size_visitSeq_eq_map_size (xs : Array (Item × P)) : (visitSeq xs).size = (visitSeq xs).map.size :=
  (wf_visitSeq xs).size_eq_map_size

/-- **`visit_seq` holds every distinct item of the sequence once** -/
theorem size_visitSeq (xs : Array (Item × P)) :
    (visitSeq xs).size = (xs.toList.map (·.1.key)).eraseDups.length := by
  rw [visitSeq_eq_extend, size_extend, filter_not_contains_empty, size_empty, Nat.zero_add]

/-! ## `retainMut` -/

@[simp] theorem retainMut_map (s : Store P) (f : Item → P → Bool × Item × P) :
    (retainMut s f).map = s.map.retain f := by
  unfold retainMut; simp only; split <;> rfl

@[simp] theorem retainMut_ticks (s : Store P) (f : Item → P → Bool × Item × P) :
    (retainMut s f).ticks = s.ticks := by
  unfold retainMut; simp only; split <;> rfl

/-- when the length changed the tables are rebuilt as identity tables -/
theorem retainMut_of_size_ne {s : Store P} {f : Item → P → Bool × Item × P}
    (h : (s.map.retain f).size ≠ s.size) :
    retainMut s f =
      { map := s.map.retain f, heap := Array.range (s.map.retain f).size,
        qp := Array.range (s.map.retain f).size, size := (s.map.retain f).size, ticks := s.ticks } := by
  unfold retainMut; simp only; rw [if_pos h]

/-- when the length did not change the tables are left alone -/
theorem retainMut_of_size_eq {s : Store P} {f : Item → P → Bool × Item × P}
    (h : (s.map.retain f).size = s.size) :
    retainMut s f = { s with map := s.map.retain f } := by
  unfold retainMut; simp only; rw [if_neg (by simpa using h)]

/-- the size counter agrees with the map afterwards (no hypothesis at all) -/
theorem size_retainMut (s : Store P) (f : Item → P → Bool × Item × P) :
    (retainMut s f).size = (s.map.retain f).size := by
  by_cases h : (s.map.retain f).size = s.size
  · rw [retainMut_of_size_eq h]; exact h.symm
  · rw [retainMut_of_size_ne h]

/-- **`retain_mut` keeps `WF`** when the closure does not change keys (both branches) -/
theorem wf_retainMut {s : Store P} (h : s.WF) {f : Item → P → Bool × Item × P}
    (hf : ∀ it p, (f it p).2.1.key = it.key) : (retainMut s f).WF := by
  by_cases hs : (s.map.retain f).size = s.size
  · rw [retainMut_of_size_eq hs]
    exact wf_of_map_update h (hs.trans h.map_size.symm) (h.nodup.retain hf)
  · rw [retainMut_of_size_ne hs]
    exact wf_identity (h.nodup.retain hf) s.ticks

/-- **entries after `retain_mut`**: each stored entry is passed through the closure -/
theorem lookup_retainMut {s : Store P} (h : s.WF) {f : Item → P → Bool × Item × P}
    (hf : ∀ it p, (f it p).2.1.key = it.key) (k : Nat) :
    lookup (retainMut s f).map k = (lookup s.map k).bind (retainStep f) := by
  rw [retainMut_map]; exact lookup_retain h.nodup hf k

/-- **call log of `retain_mut`**: the closure is applied to the entries in slot order, each exactly once; the
surviving images stay in that order (no hypothesis on the closure) -/
theorem toList_retainMut (s : Store P) (f : Item → P → Bool × Item × P) :
    (retainMut s f).map.toList = s.map.toList.filterMap (retainStep f) := by
  rw [retainMut_map]; exact toList_retain' s.map f

/-! ## `append` -/

/-- receiver and donor of `append` after the possible swap (the larger store receives) -/
def appendOrder (s o : Store P) : Store P × Store P := if o.size > s.size then (o, s) else (s, o)

theorem append_eq (s o : Store P) :
    append s o =
      if (appendOrder s o).2.size = 0 then appendOrder s o
      else ((appendOrder s o).2.map.toList.foldl pushIfAbsent (appendOrder s o).1, (drain (appendOrder s o).2).2) := by
  unfold append appendOrder
  by_cases h : o.size > s.size
  · simp only [if_pos h]
    split
    · rfl
    · simp only [drain, Array.foldl_toList]
  · simp only [if_neg h]
    split
    · rfl
    · simp only [drain, Array.foldl_toList]

theorem appendOrder_cases (s o : Store P) :
    appendOrder s o = (o, s) ∨ appendOrder s o = (s, o) := by
  unfold appendOrder; split
  · exact .inl rfl
  · exact .inr rfl

theorem wf_appendOrder {s o : Store P} (hs : s.WF) (ho : o.WF) :
    (appendOrder s o).1.WF ∧ (appendOrder s o).2.WF := by
  rcases appendOrder_cases s o with h | h <;> rw [h]
  · exact ⟨ho, hs⟩
  · exact ⟨hs, ho⟩

/-- **`append`: the receiver stays well-formed** -/
theorem wf_append_fst {s o : Store P} (hs : s.WF) (ho : o.WF) : (append s o).1.WF := by
  obtain ⟨hb, hsm⟩ := wf_appendOrder hs ho
  rw [append_eq]
  split
  · exact hb
  · exact wf_foldl_pushIfAbsent _ hb

/-- **`append`: the donor is left empty** (always: it was empty already, or it was drained) -/
theorem append_snd_tables {s o : Store P} (hs : s.WF) (ho : o.WF) :
    (append s o).2.map = #[] ∧ (append s o).2.heap = #[] ∧ (append s o).2.qp = #[] ∧ (append s o).2.size = 0 ∧
      (append s o).2.ticks = (appendOrder s o).2.ticks := by
  obtain ⟨hb, hsm⟩ := wf_appendOrder hs ho
  rw [append_eq]
  split
  · rename_i h0
    obtain ⟨h1, h2, h3⟩ := hsm.tables_empty_of_size_zero h0
    exact ⟨h1, h2, h3, h0, rfl⟩
  · exact drain_tables _

/-- **`append`: the donor stays well-formed** -/
theorem wf_append_snd {s o : Store P} (hs : s.WF) (ho : o.WF) : (append s o).2.WF := by
  obtain ⟨h1, h2, h3, h4, _⟩ := append_snd_tables hs ho
  exact wf_of_tables_empty h1 h2 h3 h4

/-- **entries after `append`**: the union; on a clash the entry of the receiver (after the possible swap) stays -/
theorem lookup_append {s o : Store P} (hs : s.WF) (ho : o.WF) (k : Nat) :
    lookup (append s o).1.map k =
      (lookup (appendOrder s o).1.map k).or (lookup (appendOrder s o).2.map k) := by
  obtain ⟨hb, hsm⟩ := wf_appendOrder hs ho
  rw [append_eq]
  split
  · rename_i h0
    rw [(hsm.tables_empty_of_size_zero h0).1]
    show _ = (lookup (appendOrder s o).1.map k).or none
    rw [Option.or_none]
  · rw [lookup_foldl_pushIfAbsent]; rfl

/-- the same with the swap spelled out -/
theorem lookup_append' {s o : Store P} (hs : s.WF) (ho : o.WF) (k : Nat) :
    lookup (append s o).1.map k =
      if o.size > s.size then (lookup o.map k).or (lookup s.map k) else (lookup s.map k).or (lookup o.map k) := by
  rw [lookup_append hs ho]
  unfold appendOrder
  split <;> rfl

theorem lookup_append_snd {s o : Store P} (hs : s.WF) (ho : o.WF) (k : Nat) :
    lookup (append s o).2.map k = none := by
  rw [(append_snd_tables hs ho).1]; rfl

theorem ticks_append_fst (s o : Store P) : (append s o).1.ticks = (appendOrder s o).1.ticks := by
  rw [append_eq]
  split
  · rfl
  · exact ticks_foldl_pushIfAbsent _ _

theorem eraseDups_of_nodup {l : List Nat} (h : l.Nodup) : l.eraseDups = l := by
  induction l with
  | nil => rfl
  | cons a l ih =>
    rw [List.nodup_cons] at h
    rw [List.eraseDups_cons]
    have : l.filter (fun b => !b == a) = l := by
      rw [List.filter_eq_self]
      intro b hb
      have : b ≠ a := fun hba => h.1 (hba ▸ hb)
      simpa using this
    rw [this, ih h.2]

/-- the receiver grows by the number of donor entries whose key it did not hold -/
theorem size_append_fst {s o : Store P} (hs : s.WF) (ho : o.WF) :
    (append s o).1.size =
      (appendOrder s o).1.size +
        ((appendOrder s o).2.map.toList.filter (fun e => !contains (appendOrder s o).1.map e.1.key)).length := by
  obtain ⟨hb, hsm⟩ := wf_appendOrder hs ho
  rw [append_eq]
  split
  · rename_i h0
    rw [(hsm.tables_empty_of_size_zero h0).1]; rfl
  · show (List.foldl pushIfAbsent _ _).size = _
    rw [size_foldl_pushIfAbsent, eraseDups_of_nodup, List.filter_map, List.length_map]
    · rfl
    · exact (noDupKeys_iff_nodup.1 hsm.nodup).filter _

/-! ## Examples: the statements above on concrete data -/

section Examples

private def v3 : Array (Item × Nat) := #[(⟨1, 0⟩, 5), (⟨1, 9⟩, 7), (⟨2, 0⟩, 1)]

-- `From<Vec>`: well-formed, keeps the FIRST pair of key 1, two distinct keys
example : (fromVec v3).WF := wf_fromVec v3
example : lookup (fromVec v3).map 1 = some (⟨1, 0⟩, 5) := by decide +kernel
example : lookup (fromVec v3).map 1 = some (⟨1, 0⟩, 5) := by rw [lookup_fromVec]; decide
example : (fromVec v3).size = 2 ∧ (fromVec v3).heap = #[0, 1] ∧ (fromVec v3).qp = #[0, 1] := by decide +kernel
example : (fromVec v3).map = #[(⟨1, 0⟩, 5), (⟨2, 0⟩, 1)] := by decide +kernel

-- `visit_seq` of the same sequence: item of the FIRST pair, priority of the LAST pair
example : (visitSeq v3).WF := wf_visitSeq v3
example : lookup (visitSeq v3).map 1 = some (⟨1, 0⟩, 7) := by decide +kernel
example : lookup (visitSeq v3).map 1 = some (⟨1, 0⟩, 7) := by rw [lookup_visitSeq]; decide
example : (visitSeq v3).size = 2 ∧ (visitSeq v3).map.size = 2 := by decide +kernel

-- `from_iter`: the LAST pair, with its own item
example : (fromIter v3).WF := wf_fromIter v3
example : lookup (fromIter v3).map 1 = some (⟨1, 9⟩, 7) := by decide +kernel
example : lookup (fromIter v3).map 1 = some (⟨1, 9⟩, 7) := by rw [lookup_fromIter]; decide

-- `extend` from a store already holding key 1: the stored payload stays, the priority is the last one given;
-- the new key 2 gets the item of its first pair and the priority of its last pair
private def s1 : Store Nat := fromVec #[(⟨1, 0⟩, 5)]
private def x3 : Array (Item × Nat) := #[(⟨1, 9⟩, 7), (⟨2, 3⟩, 1), (⟨1, 8⟩, 6), (⟨2, 4⟩, 8)]
example : s1.WF := wf_fromVec _
example : (extend s1 x3).WF := wf_extend (wf_fromVec _) x3
example : lookup (extend s1 x3).map 1 = some (⟨1, 0⟩, 6) := by decide +kernel
example : lookup (extend s1 x3).map 2 = some (⟨2, 3⟩, 8) := by decide +kernel
example : lookup (extend s1 x3).map 3 = none := by decide +kernel
example : (extend s1 x3).size = 2 := by decide +kernel

-- tail push: hypotheses of `wf_pushTail` hold for `s1` and a new key
private def e2 : Item × Nat := (⟨2, 0⟩, 4)
example : find? s1.map e2.1.key = none := by decide +kernel
example : (pushTail s1 e2).WF := wf_pushTail (wf_fromVec _) (by decide +kernel)
example : (pushTail s1 e2).heap = #[0, 1] ∧ (pushTail s1 e2).qp = #[0, 1] := by decide +kernel

-- `pushIfAbsent`: first one wins
example : lookup (pushIfAbsent s1 (⟨1, 9⟩, 7)).map 1 = some (⟨1, 0⟩, 5) := by decide +kernel
example : lookup (pushIfAbsent s1 (⟨2, 9⟩, 7)).map 2 = some (⟨2, 9⟩, 7) := by decide +kernel

-- `retain_mut` with a key-preserving closure, both branches
private def s3 : Store Nat := fromVec #[(⟨1, 0⟩, 5), (⟨2, 0⟩, 7), (⟨3, 0⟩, 6)]
private def fDrop : Item → Nat → Bool × Item × Nat := fun it p => (p != 7, ⟨it.key, it.payload + 1⟩, p + 1)
private def fKeep : Item → Nat → Bool × Item × Nat := fun it p => (true, ⟨it.key, it.payload + 1⟩, p + 1)
example : ∀ it p, (fDrop it p).2.1.key = it.key := fun _ _ => rfl
example : (retainMut s3 fDrop).WF := wf_retainMut (wf_fromVec _) (fun _ _ => rfl)
example : (retainMut s3 fKeep).WF := wf_retainMut (wf_fromVec _) (fun _ _ => rfl)
example : (retainMut s3 fDrop).map = #[(⟨1, 1⟩, 6), (⟨3, 1⟩, 7)] ∧ (retainMut s3 fDrop).size = 2 ∧
    (retainMut s3 fDrop).heap = #[0, 1] := by decide +kernel
example : (retainMut s3 fKeep).map = #[(⟨1, 1⟩, 6), (⟨2, 1⟩, 8), (⟨3, 1⟩, 7)] ∧ (retainMut s3 fKeep).size = 3 := by
  decide +kernel

-- `append`: the larger store receives and wins on a clash; the donor ends empty
private def sA : Store Nat := fromVec #[(⟨1, 0⟩, 5)]
private def sB : Store Nat := fromVec #[(⟨1, 9⟩, 7), (⟨2, 0⟩, 1)]
example : (append sA sB).1.WF ∧ (append sA sB).2.WF :=
  ⟨wf_append_fst (wf_fromVec _) (wf_fromVec _), wf_append_snd (wf_fromVec _) (wf_fromVec _)⟩
example : (append sA sB).1.map = #[(⟨1, 9⟩, 7), (⟨2, 0⟩, 1)] ∧ (append sA sB).2.map = #[] ∧
    (append sA sB).2.size = 0 := by decide +kernel
example : (append sB sA).1.map = #[(⟨1, 9⟩, 7), (⟨2, 0⟩, 1)] ∧ (append sB sA).2.map = #[] := by decide +kernel
example : (append sA (empty : Store Nat)).1.map = sA.map ∧ (append sA (empty : Store Nat)).2.map = #[] := by
  decide +kernel

-- identity tables
example : WF ({ map := v3.extract 1 3, heap := Array.range 2, qp := Array.range 2, size := 2, ticks := 0 } : Store Nat) :=
  wf_identity (m := v3.extract 1 3) (by decide) 0

end Examples

end PQ.Store
