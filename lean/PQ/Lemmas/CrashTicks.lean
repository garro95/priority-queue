import PQ.Lemmas.CrashLemmas
import PQ.Lemmas.Cost
/-!
# Comparison counts of INTERRUPTED calls (for `PQ/Props/C05_more.lean`)

For every fused twin `fF` of `PQ/Model/Crash.lean` we relate the run with an arbitrary fuse, `fF fuse …`, to the run of the
*same twin* with the fuse off, `fF 0 …` (which is the plain function: `cr_er_…`, `cr_stepF_zero`).  The relation is

  `TK fuse lo x x0`   (`lo` = the counter of the store the computation starts from):
  * (monotone) if `x0 = .ok r` then `lo ≤ ticks r`;
  * if `x = .ok a` then `x0 = .ok a` — the fuse did not fire: same result — and, if the fuse lay in the future
    (`lo < fuse`), it still does: `ticks a < fuse` (no comparison with ordinal `fuse` was performed);
  * if `x = .error (.crashed s')` then `s'.ticks + 1 = fuse` — the crash state has counted exactly the comparisons *before*
    the panicking one —, `lo ≤ s'.ticks` — the fuse lay in the future —, and `x0 = .ok r → fuse ≤ ticks r` — the completed
    run performs the panicking comparison too (and possibly more): the interrupted run has performed a *prefix* of the
    comparisons of the completed run;
  * if `x = .error .crashedNew` then `lo < fuse` and `x0 = .ok r → fuse ≤ ticks r`.

No hypothesis on the stores (well-formed or not) is needed: the statement is about the counter only.  The two comparison
primitives (`tk_cmpF`, `tk_cmpHoleF`) and the plain store functions (`tk_swap`, …) are related directly; everything else follows
the text of the twins, one rule (`TK.bind`, `TK.bind_lift`, `TK.ite`, `TK.pure`, `TK.new`, …) per line of the twin, the loops by
recursion on the fuel.
-/
namespace PQ.Crash
open PQ PQ.Arith PQ.Store

/-- the ghost counter carried by a result -/
class HasTk (α : Type) where
  tk : α → Nat

instance {P : Type} : HasTk (Store P) := ⟨fun s => s.ticks⟩
instance {P β : Type} : HasTk (Store P × β) := ⟨fun r => r.1.ticks⟩

section Rules
variable {P : Type}

/-- what the outcome `x` of a fused computation started at counter `lo` says about its counter, relative to the fuse-off
run `x0` -/
def TKPost {α : Type} [HasTk α] (fuse lo : Nat) (x x0 : CR P α) : Prop :=
  match x with
  | .ok a => x0 = .ok a ∧ (lo < fuse → HasTk.tk a < fuse)
  | .error (.crashed s') => s'.ticks + 1 = fuse ∧ lo ≤ s'.ticks ∧ ∀ r, x0 = .ok r → fuse ≤ HasTk.tk r
  | .error .crashedNew => lo < fuse ∧ ∀ r, x0 = .ok r → fuse ≤ HasTk.tk r
  | .error (.fault _) => True

def TK {α : Type} [HasTk α] (fuse lo : Nat) (x x0 : CR P α) : Prop :=
  (∀ r, x0 = .ok r → lo ≤ HasTk.tk r) ∧ TKPost fuse lo x x0

/-- the same outcome seen from an earlier starting point `lo ≤ lo1`, provided no comparison with ordinal `fuse` lies
between the two -/
theorem TKPost.rebase {α : Type} [HasTk α] {fuse lo lo1 : Nat} {x x0 : CR P α} (h : TKPost fuse lo1 x x0)
    (h1 : lo ≤ lo1) (h2 : lo < fuse → lo1 < fuse) : TKPost fuse lo x x0 := by
  cases x with
  | ok a => exact ⟨h.1, fun hl => h.2 (h2 hl)⟩
  | error e =>
    cases e with
    | fault f => trivial
    | crashed s' => exact ⟨h.1, Nat.le_trans h1 h.2.1, h.2.2⟩
    | crashedNew => exact ⟨Nat.lt_of_le_of_lt h1 h.1, h.2⟩

theorem TK.cast {α : Type} [HasTk α] {fuse lo lo' : Nat} {x x0 : CR P α} (h : TK fuse lo x x0) (hl : lo' = lo) :
    TK fuse lo' x x0 := hl ▸ h

/-- a return; that its counter is `lo` holds by computation at every use -/
theorem TK.pure {α : Type} [HasTk α] {fuse lo : Nat} {a : α} (h : HasTk.tk a = lo := by rfl) :
    TK fuse lo (Pure.pure a : CR P α) (Pure.pure a) :=
  ⟨fun r hr => (by cases hr; exact Nat.le_of_eq h.symm), rfl, fun hl => h ▸ hl⟩

theorem TK.fault {α : Type} [HasTk α] {fuse lo : Nat} {f g : Fault} :
    TK fuse lo (.error (.fault f) : CR P α) (.error (.fault g)) := ⟨fun r hr => (by cases hr), trivial⟩

/-- the same plain computation (one that does not touch the counter) on both sides -/
theorem TK.lift {α : Type} [HasTk α] {fuse lo : Nat} (y : R α) (h : ∀ a, y = .ok a → HasTk.tk a = lo) :
    TK fuse lo (liftR y : CR P α) (liftR y) := by
  cases y with
  | ok a => exact .pure (h a rfl)
  | error f => exact .fault

/-- sequencing: the continuation is numbered from the counter the first part ends with -/
theorem TK.bind {α β : Type} [HasTk α] [HasTk β] {fuse lo : Nat} {x x0 : CR P α} {f f0 : α → CR P β}
    (h : TK fuse lo x x0) (hf : ∀ a, TK fuse (HasTk.tk a) (f a) (f0 a)) : TK fuse lo (x >>= f) (x0 >>= f0) := by
  -- a lower bound on the counter `x0` ends with is one on the counter `x0 >>= f0` ends with
  have hmono : ∀ r, (x0 >>= f0) = .ok r → ∀ {n}, (∀ a, x0 = .ok a → n ≤ HasTk.tk a) → n ≤ HasTk.tk r := by
    intro r hr n hn
    cases x0 with
    | error e => cases hr
    | ok a => exact Nat.le_trans (hn a rfl) ((hf a).1 r hr)
  refine ⟨fun r hr => hmono r hr h.1, ?_⟩
  cases x with
  | ok a =>
    obtain ⟨ha, hlt⟩ : x0 = .ok a ∧ (lo < fuse → HasTk.tk a < fuse) := h.2
    subst ha
    exact (hf a).2.rebase (h.1 a rfl) hlt
  | error e =>
    cases e with
    | fault f => trivial
    | crashed s' => exact ⟨h.2.1, h.2.2.1, fun r hr => hmono r hr h.2.2.2⟩
    | crashedNew => exact ⟨h.2.1, fun r hr => hmono r hr h.2.2⟩

/-- `TK.bind` for a fused step returning a store and a value (the continuation is presented applied to a pair, so that
the destructuring `let (s, r) ← …` of the twins reduces) -/
theorem TK.bind2 {β γ : Type} [HasTk β] {fuse lo : Nat} {x x0 : CR P (Store P × γ)} {f f0 : Store P × γ → CR P β}
    (h : TK fuse lo x x0) (hf : ∀ s1 c, TK fuse s1.ticks (f (s1, c)) (f0 (s1, c))) :
    TK fuse lo (x >>= f) (x0 >>= f0) := h.bind fun a => hf a.1 a.2

/-- a lifted plain step (it carries no counter): the continuation starts from the same `lo` -/
theorem TK.bind_lift {α β : Type} [HasTk β] {fuse lo : Nat} {y : R α} {f f0 : α → CR P β}
    (hf : ∀ a, TK fuse lo (f a) (f0 a)) : TK fuse lo (liftR y >>= f) (liftR y >>= f0) := by
  cases y with
  | ok a => exact hf a
  | error e => exact .fault

/-- `TK.bind_lift` for a plain step returning a pair -/
theorem TK.bind_lift2 {α γ β : Type} [HasTk β] {fuse lo : Nat} {y : R (α × γ)} {f f0 : α × γ → CR P β}
    (hf : ∀ a c, TK fuse lo (f (a, c)) (f0 (a, c))) : TK fuse lo (liftR y >>= f) (liftR y >>= f0) :=
  .bind_lift fun a => hf a.1 a.2

/-- the same test on both sides (it never depends on the fuse) -/
theorem TK.ite {α : Type} [HasTk α] {fuse lo : Nat} {c : Prop} [Decidable c] {a b a0 b0 : CR P α}
    (h1 : TK fuse lo a a0) (h2 : TK fuse lo b b0) : TK fuse lo (if c then a else b) (if c then a0 else b0) := by
  split
  · exact h1
  · exact h2

/-- the dispatch on the kind of queue in `stepF` -/
theorem TK.kind {α : Type} [HasTk α] {fuse lo : Nat} {k : Kind} {a b a0 b0 : CR P α}
    (h1 : TK fuse lo a a0) (h2 : TK fuse lo b b0) :
    TK fuse lo (match k with | .pq => a | .dpq => b) (match k with | .pq => a0 | .dpq => b0) := by
  cases k
  · exact h1
  · exact h2

/-- a constructor: the crashed fresh store is dropped -/
theorem TK.new {α : Type} [HasTk α] {fuse lo : Nat} {x x0 : CR P α} (h : TK fuse lo x x0)
    (h0 : ∀ s', x0 ≠ .error (.crashed s')) : TK fuse lo (Crash.asNew x) (Crash.asNew x0) := by
  have e0 : Crash.asNew x0 = x0 := by
    cases x0 with
    | ok a => rfl
    | error e =>
      cases e with
      | crashed s' => exact absurd rfl (h0 s')
      | fault f => rfl
      | crashedNew => rfl
  rw [e0]
  refine ⟨h.1, ?_⟩
  cases x with
  | ok a => exact h.2
  | error e =>
    cases e with
    | fault f => trivial
    | crashed s' => exact ⟨h.2.1 ▸ Nat.lt_succ_of_le h.2.2.1, h.2.2.2⟩
    | crashedNew => exact h.2

theorem liftR_ne_crashed {α : Type} (y : R α) (s' : Store P) : (liftR y : CR P α) ≠ .error (.crashed s') := by
  cases y <;> intro h <;> cases h

theorem fillHole_ticks {s s' : Store P} {pos mp sh sq : Nat} (h : fillHole s pos mp sh sq = .ok s') :
    s'.ticks = s.ticks := by
  unfold fillHole at h
  cases h1 : setU s.heap pos mp sh with
  | error e => rw [h1] at h; cases h
  | ok heap =>
    cases h2 : setU s.qp mp pos sq with
    | error e => rw [h1, h2] at h; cases h
    | ok qp => rw [h1, h2] at h; cases h; rfl

variable [LT P] [DecidableLT P]

/-- a comparison site without a guard: the comparison with ordinal `s.ticks + 1` -/
theorem tk_cmpF {fuse : Nat} {s : Store P} {a b : P} : TK fuse s.ticks (cmpF fuse s a b) (cmpF 0 s a b) := by
  rw [cmpF_zero]
  refine ⟨fun r hr => by cases hr; exact Nat.le_succ _, ?_⟩
  unfold cmpF
  split
  · next hf => exact ⟨hf, Nat.le_refl _, fun r hr => by cases hr; exact Nat.le_of_eq hf.symm⟩
  · next hf => exact ⟨rfl, fun hl => Nat.lt_of_le_of_ne hl hf⟩

/-- a comparison site under a live `Hole` guard: the guard's writes do not touch the counter -/
theorem tk_cmpHoleF {fuse : Nat} {s : Store P} {a b : P} {pos mp sh sq : Nat} :
    TK fuse s.ticks (cmpHoleF fuse s a b pos mp sh sq) (cmpHoleF 0 s a b pos mp sh sq) := by
  rw [cmpHoleF_zero]
  refine ⟨fun r hr => by cases hr; exact Nat.le_succ _, ?_⟩
  unfold cmpHoleF
  split
  · next hf =>
    cases hfill : fillHole s pos mp sh sq with
    | error e => trivial
    | ok s' =>
      have e := fillHole_ticks hfill
      exact ⟨e ▸ hf, Nat.le_of_eq e.symm, fun r hr => by cases hr; exact Nat.le_of_eq hf.symm⟩
  · next hf => exact ⟨rfl, fun hl => Nat.lt_of_le_of_ne hl hf⟩

end Rules

/-! ### the plain store functions that return a store do not touch the counter (`PQ/Lemmas/Cost.lean`) -/
section StoreSteps
variable {P : Type} {fuse : Nat} {s : Store P}

theorem tk_swap {a b : Nat} : TK fuse s.ticks (liftR (s.swap a b) : CR P (Store P)) (liftR (s.swap a b)) :=
  .lift _ fun _ h => (Store.swap_cost h).2.1

theorem tk_swapRemove {p : Nat} : TK fuse s.ticks (liftR (s.swapRemove p) : CR P _) (liftR (s.swapRemove p)) :=
  .lift _ fun a h => (Store.swapRemove_cost (s1 := a.1) (r := a.2) h).2

theorem tk_swapRemoveIf {p : Nat} {f : Item → P → Bool × Item × P} :
    TK fuse s.ticks (liftR (s.swapRemoveIf p f) : CR P _) (liftR (s.swapRemoveIf p f)) :=
  .lift _ fun a h => (Store.swapRemoveIf_cost (s1 := a.1) (r := a.2) h).2

theorem tk_changePriority {k : Nat} {p : P} :
    TK fuse s.ticks (liftR (s.changePriority k p) : CR P _) (liftR (s.changePriority k p)) :=
  .lift _ fun a h => (Store.changePriority_cost (s1 := a.1) (r := a.2) h).2.1

theorem tk_changePriorityBy {k : Nat} {g : P → P} :
    TK fuse s.ticks (liftR (s.changePriorityBy k g) : CR P _) (liftR (s.changePriorityBy k g)) :=
  .lift _ fun a h => (Store.changePriorityBy_cost (s1 := a.1) (r := a.2) h).2.1

theorem tk_remove {k : Nat} : TK fuse s.ticks (liftR (s.remove k) : CR P _) (liftR (s.remove k)) :=
  .lift _ fun a h => (Store.remove_cost (s1 := a.1) (r := a.2) h).2

/-- the end of every sift-up, the guard's `Drop` on the normal path: two plain writes -/
theorem tk_fill {pos mp sh sq : Nat} :
    TK fuse s.ticks
      (do let heap ← liftR (setU s.heap pos mp sh)
          let qp ← liftR (setU s.qp mp pos sq)
          pure ({ s with heap := heap, qp := qp }, pos) : CR P (Store P × Nat))
      (do let heap ← liftR (setU s.heap pos mp sh)
          let qp ← liftR (setU s.qp mp pos sq)
          pure ({ s with heap := heap, qp := qp }, pos)) :=
  .bind_lift fun _ => .bind_lift fun _ => .pure

end StoreSteps

/-! ## The bulk twins, which are the same text in both kinds: a store operation that does not compare, then the kind's
fused rebuild `hb` -/
section Bulk
variable {P : Type}

/-- what the bulk twins need of `hb`: its own counter relation, and that with the fuse off it does not crash -/
abbrev TKRebuild (hb : Nat → Store P → CR P (Store P)) : Prop :=
  (∀ fuse s, TK fuse s.ticks (hb fuse s) (hb 0 s)) ∧ ∀ s s', hb 0 s ≠ .error (.crashed s')

variable {hb : Nat → Store P → CR P (Store P)} (H : TKRebuild hb)
include H

theorem tk_retainMutF (fuse : Nat) (s : Store P) (f : Item → P → Bool × Item × P) :
    TK fuse s.ticks (hb fuse (s.retainMut f)) (hb 0 (s.retainMut f)) :=
  (H.1 fuse _).cast (Store.retainMut_ticks s f).symm

/-- `append`: the counter is that of the store that became the receiver -/
theorem tk_appendF (fuse : Nat) (s o : Store P) :
    TK fuse (s.append o).1.ticks (do let s' ← hb fuse (s.append o).1; pure (s', (s.append o).2))
      (do let s' ← hb 0 (s.append o).1; pure (s', (s.append o).2)) :=
  .bind (H.1 fuse _) fun _ => .pure

theorem tk_newF (fuse : Nat) (s : Store P) : TK fuse s.ticks (asNew (hb fuse s)) (asNew (hb 0 s)) :=
  (H.1 fuse s).new (H.2 s)

/-- the constructors start from a fresh store: counter `0` -/
theorem tk_fromVecF (fuse : Nat) (v : Array (Item × P)) :
    TK fuse 0 (asNew (hb fuse (Store.fromVec v))) (asNew (hb 0 (Store.fromVec v))) :=
  (tk_newF H fuse _).cast (Store.fromVec_cost v).1.symm

theorem tk_fromIterF (fuse : Nat) (lo : Nat) (xs : Array (Item × P)) :
    TK fuse 0 (do liftR (reserveC lo); asNew (hb fuse (Store.fromIter xs)))
      (do liftR (reserveC lo); asNew (hb 0 (Store.fromIter xs))) :=
  .bind_lift fun _ => (tk_newF H fuse _).cast (Store.fromIter_cost xs).1.symm

theorem tk_deserializeF (fuse : Nat) (hint : Option Nat) (xs : Array (Item × P)) :
    TK fuse 0
      (do liftR (match hint with | some h => reserveC (min h 4096) | none => pure ())
          asNew (hb fuse (Store.visitSeq xs)))
      (do liftR (match hint with | some h => reserveC (min h 4096) | none => pure ())
          asNew (hb 0 (Store.visitSeq xs))) :=
  .bind_lift fun _ => (tk_newF H fuse _).cast (Store.visitSeq_cost xs).1.symm

end Bulk

/-- `push_increase` / `push_decrease` of either kind (`a q`, `b q`: the operands of the pre-check against the stored priority
`q`): the pre-check is the first comparison, then possibly the kind's `pushF` -/
theorem tk_pushIfF {P : Type} [LT P] [DecidableLT P] {push : Nat → Store P → Item → P → CR P (Store P × Option P)}
    (H : ∀ fuse s it p, TK fuse s.ticks (push fuse s it p) (push 0 s it p)) (a b : P → P) (fuse : Nat) (s : Store P)
    (it : Item) (p : P) (o : Option P) :
    TK fuse s.ticks
      (match o with
        | none => push fuse s it p
        | some q => do
          let (s, lt) ← cmpF fuse s (a q) (b q)
          if lt then push fuse s it p else pure (s, some p))
      (match o with
        | none => push 0 s it p
        | some q => do
          let (s, lt) ← cmpF 0 s (a q) (b q)
          if lt then push 0 s it p else pure (s, some p)) := by
  cases o with
  | none => exact H fuse s it p
  | some q => exact .bind2 tk_cmpF fun s _ => .ite (H fuse s it p) .pure

/-! ## `priority_queue/mod.rs` -/
section PQ
variable {P : Type} [LT P] [DecidableLT P]

theorem tk_pq_pickLargestF (fuse : Nat) (s : Store P) (i : Nat) :
    TK fuse s.ticks (MaxQ.pickLargestF fuse s i) (MaxQ.pickLargestF 0 s i) :=
  .bind_lift fun _ => .ite
    (.bind_lift fun _ => .bind2 tk_cmpF fun _ _ => .ite
      (.bind_lift fun _ => .bind2 tk_cmpF fun _ _ => .pure)
      .pure)
    .pure

theorem tk_pq_heapifyLoopF (fuse : Nat) : ∀ (fuel : Nat) (s : Store P) (i : Nat),
    TK fuse s.ticks (MaxQ.heapifyLoopF fuse fuel s i) (MaxQ.heapifyLoopF 0 fuel s i)
  | 0, _, _ => .fault
  | fuel + 1, s, i => .bind2 (tk_pq_pickLargestF fuse s i) fun _ largest => .ite .pure <|
    .bind tk_swap fun s => tk_pq_heapifyLoopF fuse fuel s largest

theorem tk_pq_heapifyF (fuse : Nat) (s : Store P) (i : Nat) :
    TK fuse s.ticks (MaxQ.heapifyF fuse s i) (MaxQ.heapifyF 0 s i) :=
  .ite .pure (tk_pq_heapifyLoopF fuse _ s i)

theorem tk_pq_bubbleUpLoopF (fuse mp : Nat) : ∀ (fuel : Nat) (s : Store P) (pos : Nat) (v : P),
    TK fuse s.ticks (MaxQ.bubbleUpLoopF fuse mp fuel s pos v) (MaxQ.bubbleUpLoopF 0 mp fuel s pos v)
  | 0, _, _, _ => .fault
  | fuel + 1, _, _, v => .ite
    (.bind_lift fun _ => .bind2 tk_cmpHoleF fun s _ => .ite
      (.bind_lift fun _ => .bind_lift fun heap => .bind_lift fun qp =>
        tk_pq_bubbleUpLoopF fuse mp fuel { s with heap := heap, qp := qp } _ v)
      .pure)
    .pure

theorem tk_pq_bubbleUpF (fuse : Nat) (s : Store P) (pos mp : Nat) :
    TK fuse s.ticks (MaxQ.bubbleUpF fuse s pos mp) (MaxQ.bubbleUpF 0 s pos mp) :=
  .bind_lift fun e => .bind2 (tk_pq_bubbleUpLoopF fuse mp _ s pos e.2) fun _ _ => tk_fill

theorem tk_pq_upHeapifyF (fuse : Nat) (s : Store P) (i : Nat) :
    TK fuse s.ticks (MaxQ.upHeapifyF fuse s i) (MaxQ.upHeapifyF 0 s i) :=
  .bind_lift fun tmp => .bind2 (tk_pq_bubbleUpF fuse s i tmp) fun s pos => tk_pq_heapifyF fuse s pos

theorem tk_pq_heapBuildLoopF (fuse : Nat) : ∀ (k : Nat) (s : Store P),
    TK fuse s.ticks (MaxQ.heapBuildLoopF fuse s k) (MaxQ.heapBuildLoopF 0 s k)
  | 0, s => tk_pq_heapifyF fuse s 0
  | k + 1, s => .bind (tk_pq_heapifyF fuse s (k + 1)) fun s => tk_pq_heapBuildLoopF fuse k s

theorem tk_pq_heapBuildF (fuse : Nat) (s : Store P) :
    TK fuse s.ticks (MaxQ.heapBuildF fuse s) (MaxQ.heapBuildF 0 s) :=
  .ite .pure (.bind_lift fun top => tk_pq_heapBuildLoopF fuse top s)

/-! ### public operations -/

theorem tk_pq_popF (fuse : Nat) (s : Store P) : TK fuse s.ticks (MaxQ.popF fuse s) (MaxQ.popF 0 s) := by
  unfold MaxQ.popF
  generalize s.size = n
  match n with
  | 0 => exact .pure
  | 1 => exact tk_swapRemove
  | n + 2 => exact .bind2 tk_swapRemove fun s _ => .bind (tk_pq_heapifyF fuse s 0) fun _ => .pure

theorem tk_pq_popIfF (fuse : Nat) (s : Store P) (f : Item → P → Bool × Item × P) :
    TK fuse s.ticks (MaxQ.popIfF fuse s f) (MaxQ.popIfF 0 s f) := by
  unfold MaxQ.popIfF
  generalize s.size = n
  match n with
  | 0 => exact .pure
  | 1 => exact tk_swapRemoveIf
  | n + 2 => exact .bind2 tk_swapRemoveIf fun s _ => .bind (tk_pq_heapifyF fuse s 0) fun _ => .pure

theorem tk_pq_pushF (fuse : Nat) (s : Store P) (it : Item) (p : P) :
    TK fuse s.ticks (MaxQ.pushF fuse s it p) (MaxQ.pushF 0 s it p) := by
  unfold MaxQ.pushF
  generalize s.map.insertFull it p = t
  obtain ⟨map, idx, old⟩ := t
  cases old with
  | some oldp => exact .bind_lift fun pos => .bind ((tk_pq_upHeapifyF fuse _ pos).cast rfl) fun _ => .pure
  | none => exact .bind2 ((tk_pq_bubbleUpF fuse _ _ _).cast rfl) fun _ _ => .pure

theorem tk_pq_changePriorityF (fuse : Nat) (s : Store P) (k : Nat) (p : P) :
    TK fuse s.ticks (MaxQ.changePriorityF fuse s k p) (MaxQ.changePriorityF 0 s k p) :=
  .bind2 tk_changePriority fun s r =>
    match r with
    | none => .pure
    | some (_, pos) => .bind (tk_pq_upHeapifyF fuse s pos) fun _ => .pure

theorem tk_pq_changePriorityByF (fuse : Nat) (s : Store P) (k : Nat) (g : P → P) :
    TK fuse s.ticks (MaxQ.changePriorityByF fuse s k g) (MaxQ.changePriorityByF 0 s k g) :=
  .bind2 tk_changePriorityBy fun s r =>
    match r with
    | none => .pure
    | some pos => .bind (tk_pq_upHeapifyF fuse s pos) fun _ => .pure

theorem tk_pq_removeF (fuse : Nat) (s : Store P) (k : Nat) :
    TK fuse s.ticks (MaxQ.removeF fuse s k) (MaxQ.removeF 0 s k) :=
  .bind2 tk_remove fun s r =>
    match r with
    | none => .pure
    | some (_, _, pos) => .ite (.bind (tk_pq_upHeapifyF fuse s pos) fun _ => .pure) .pure

theorem tk_pq_rebuild : TKRebuild (MaxQ.heapBuildF (P := P)) :=
  ⟨tk_pq_heapBuildF, fun s s' => by rw [cr_er_pq_heapBuildF]; exact liftR_ne_crashed _ s'⟩

theorem tk_pq_pushAllF (fuse : Nat) : ∀ (l : List (Item × P)) (s : Store P),
    TK fuse s.ticks (MaxQ.pushAllF fuse l s) (MaxQ.pushAllF 0 l s)
  | [], _ => .pure
  | e :: l, s => .bind2 (tk_pq_pushF fuse s e.1 e.2) fun s _ => tk_pq_pushAllF fuse l s

theorem tk_pq_extendF (fuse : Nat) (s : Store P) (lo : Nat) (xs : Array (Item × P)) :
    TK fuse s.ticks (MaxQ.extendF fuse s lo xs) (MaxQ.extendF 0 s lo xs) :=
  .bind_lift fun _ => .ite ((tk_pq_heapBuildF fuse (s.extend xs)).cast (Store.extend_cost s xs).1.symm)
    (tk_pq_pushAllF fuse _ s)

theorem tk_pq_iterMutDropF (fuse : Nat) (s : Store P) (prog : List (ICall × IMWrite P)) :
    TK fuse s.ticks (MaxQ.iterMutDropF fuse s prog) (MaxQ.iterMutDropF 0 s prog) :=
  .bind_lift2 fun _ m => .bind (tk_pq_heapBuildF fuse { s with map := m }) fun _ => .pure

end PQ

/-! ## `double_priority_queue/mod.rs` -/
section DQ
variable {P : Type} [LT P] [DecidableLT P]

theorem tk_dq_minFoldF (fuse : Nat) : ∀ (ys : List (Nat × P)) (s : Store P) (acc : Nat × P),
    TK fuse s.ticks (DQ.minFoldF fuse ys s acc) (DQ.minFoldF 0 ys s acc)
  | [], _, _ => .pure
  | _ :: ys, _, _ => .bind2 tk_cmpF fun s _ => tk_dq_minFoldF fuse ys s _

theorem tk_dq_maxFoldF (fuse : Nat) : ∀ (ys : List (Nat × P)) (s : Store P) (acc : Nat × P),
    TK fuse s.ticks (DQ.maxFoldF fuse ys s acc) (DQ.maxFoldF 0 ys s acc)
  | [], _, _ => .pure
  | _ :: ys, _, _ => .bind2 tk_cmpF fun s _ => tk_dq_maxFoldF fuse ys s _

theorem tk_dq_minByKeyF (fuse : Nat) (s : Store P) : ∀ cs : List (Nat × P),
    TK fuse s.ticks (DQ.minByKeyF fuse s cs) (DQ.minByKeyF 0 s cs)
  | [] => .pure
  | x :: xs => .bind2 (tk_dq_minFoldF fuse xs s x) fun _ _ => .pure

theorem tk_dq_maxByKeyF (fuse : Nat) (s : Store P) : ∀ cs : List (Nat × P),
    TK fuse s.ticks (DQ.maxByKeyF fuse s cs) (DQ.maxByKeyF 0 s cs)
  | [] => .pure
  | x :: xs => .bind2 (tk_dq_maxFoldF fuse xs s x) fun _ _ => .pure

/-- `let s ← if lt then … else pure s; k s` of the twin is elaborated with the continuation `k` inside both branches: hence
`TK.ite` comes before `TK.bind` at the last step (likewise in `tk_dq_upHeapifyF`, `tk_dq_bubbleUpF`) -/
theorem tk_dq_heapifyMinLoopF (fuse : Nat) : ∀ (fuel : Nat) (s : Store P) (i : Nat),
    TK fuse s.ticks (DQ.heapifyMinLoopF fuse fuel s i) (DQ.heapifyMinLoopF 0 fuel s i)
  | 0, _, _ => .fault
  | fuel + 1, s, _ => .bind_lift fun _ => .bind_lift fun _ => .ite
    (.bind_lift fun cs => .bind2 (tk_dq_minByKeyF fuse s cs) fun _ _ =>
      .bind_lift fun c => .bind_lift fun _ => .bind_lift fun _ => .bind2 tk_cmpF fun _ _ => .ite
        (.bind tk_swap fun _ => .ite
          (.bind_lift fun _ => .bind_lift fun _ => .bind_lift fun _ => .bind2 tk_cmpF fun _ _ => .ite
            (.bind tk_swap fun s => tk_dq_heapifyMinLoopF fuse fuel s c.1)
            (.bind .pure fun s => tk_dq_heapifyMinLoopF fuse fuel s c.1))
          .pure)
        .pure)
    .pure

theorem tk_dq_heapifyMaxLoopF (fuse : Nat) : ∀ (fuel : Nat) (s : Store P) (i : Nat),
    TK fuse s.ticks (DQ.heapifyMaxLoopF fuse fuel s i) (DQ.heapifyMaxLoopF 0 fuel s i)
  | 0, _, _ => .fault
  | fuel + 1, s, _ => .bind_lift fun _ => .bind_lift fun _ => .ite
    (.bind_lift fun cs => .bind2 (tk_dq_maxByKeyF fuse s cs) fun _ _ =>
      .bind_lift fun c => .bind_lift fun _ => .bind_lift fun _ => .bind2 tk_cmpF fun _ _ => .ite
        (.bind tk_swap fun _ => .ite
          (.bind_lift fun _ => .bind_lift fun _ => .bind_lift fun _ => .bind2 tk_cmpF fun _ _ => .ite
            (.bind tk_swap fun s => tk_dq_heapifyMaxLoopF fuse fuel s c.1)
            (.bind .pure fun s => tk_dq_heapifyMaxLoopF fuse fuel s c.1))
          .pure)
        .pure)
    .pure

theorem tk_dq_heapifyF (fuse : Nat) (s : Store P) (i : Nat) :
    TK fuse s.ticks (DQ.heapifyF fuse s i) (DQ.heapifyF 0 s i) :=
  .ite .pure (.ite (tk_dq_heapifyMinLoopF fuse _ s i) (tk_dq_heapifyMaxLoopF fuse _ s i))

theorem tk_dq_bubbleUpMinLoopF (fuse mp : Nat) : ∀ (fuel : Nat) (s : Store P) (pos : Nat) (v : P),
    TK fuse s.ticks (DQ.bubbleUpMinLoopF fuse mp fuel s pos v) (DQ.bubbleUpMinLoopF 0 mp fuel s pos v)
  | 0, _, _, _ => .fault
  | fuel + 1, _, _, v => .ite
    (.bind_lift fun _ => .bind2 tk_cmpHoleF fun s _ => .ite
      (.bind_lift fun _ => .bind_lift fun heap => .bind_lift fun qp =>
        tk_dq_bubbleUpMinLoopF fuse mp fuel { s with heap := heap, qp := qp } _ v)
      .pure)
    .pure

theorem tk_dq_bubbleUpMaxLoopF (fuse mp : Nat) : ∀ (fuel : Nat) (s : Store P) (pos : Nat) (v : P),
    TK fuse s.ticks (DQ.bubbleUpMaxLoopF fuse mp fuel s pos v) (DQ.bubbleUpMaxLoopF 0 mp fuel s pos v)
  | 0, _, _, _ => .fault
  | fuel + 1, _, _, v => .ite
    (.bind_lift fun _ => .bind2 tk_cmpHoleF fun s _ => .ite
      (.bind_lift fun _ => .bind_lift fun heap => .bind_lift fun qp =>
        tk_dq_bubbleUpMaxLoopF fuse mp fuel { s with heap := heap, qp := qp } _ v)
      .pure)
    .pure

theorem tk_dq_bubbleUpMinF (fuse : Nat) (s : Store P) (pos mp : Nat) :
    TK fuse s.ticks (DQ.bubbleUpMinF fuse s pos mp) (DQ.bubbleUpMinF 0 s pos mp) :=
  .bind_lift fun e => tk_dq_bubbleUpMinLoopF fuse mp _ s pos e.2

theorem tk_dq_bubbleUpMaxF (fuse : Nat) (s : Store P) (pos mp : Nat) :
    TK fuse s.ticks (DQ.bubbleUpMaxF fuse s pos mp) (DQ.bubbleUpMaxF 0 s pos mp) :=
  .bind_lift fun e => tk_dq_bubbleUpMaxLoopF fuse mp _ s pos e.2

/-- the comparison with the parent and the level of `pos` decide in which of the two grandparent chains the sift-up
continues (in the two crossing cases after the parent's slot has been moved into the hole); every path ends with `tk_fill` -/
theorem tk_dq_bubbleUpF (fuse : Nat) (s : Store P) (pos mp : Nat) :
    TK fuse s.ticks (DQ.bubbleUpF fuse s pos mp) (DQ.bubbleUpF 0 s pos mp) := by
  unfold DQ.bubbleUpF
  refine .bind_lift fun _ => .ite ?_ (.bind2 .pure fun _ _ => tk_fill)
  refine .bind_lift fun _ => .bind_lift fun _ => .bind2 tk_cmpHoleF fun s lt => ?_
  cases decide (level pos % 2 = 0) <;> cases lt
  · exact .bind_lift fun heap => .bind_lift fun qp =>
      .bind2 (tk_dq_bubbleUpMinF fuse { s with heap := heap, qp := qp } _ mp) fun _ _ => tk_fill
  · exact .bind2 (tk_dq_bubbleUpMaxF fuse s pos mp) fun _ _ => tk_fill
  · exact .bind2 (tk_dq_bubbleUpMinF fuse s pos mp) fun _ _ => tk_fill
  · exact .bind_lift fun heap => .bind_lift fun qp =>
      .bind2 (tk_dq_bubbleUpMaxF fuse { s with heap := heap, qp := qp } _ mp) fun _ _ => tk_fill

theorem tk_dq_upHeapifyF (fuse : Nat) (s : Store P) (i : Nat) :
    TK fuse s.ticks (DQ.upHeapifyF fuse s i) (DQ.upHeapifyF 0 s i) := by
  unfold DQ.upHeapifyF
  cases s.heap[i]? with
  | none => exact .pure
  | some tmp =>
    exact .bind2 (tk_dq_bubbleUpF fuse s i tmp) fun s pos => .ite
      (.bind (tk_dq_heapifyF fuse s i) fun s => tk_dq_heapifyF fuse s pos)
      (.bind .pure fun s => tk_dq_heapifyF fuse s pos)

theorem tk_dq_heapBuildLoopF (fuse : Nat) : ∀ (k : Nat) (s : Store P),
    TK fuse s.ticks (DQ.heapBuildLoopF fuse s k) (DQ.heapBuildLoopF 0 s k)
  | 0, s => tk_dq_heapifyF fuse s 0
  | k + 1, s => .bind (tk_dq_heapifyF fuse s (k + 1)) fun s => tk_dq_heapBuildLoopF fuse k s

theorem tk_dq_heapBuildF (fuse : Nat) (s : Store P) :
    TK fuse s.ticks (DQ.heapBuildF fuse s) (DQ.heapBuildF 0 s) :=
  .ite .pure (.bind_lift fun top => tk_dq_heapBuildLoopF fuse top s)

theorem tk_dq_findMaxF (fuse : Nat) (s : Store P) :
    TK fuse s.ticks (DQ.findMaxF fuse s) (DQ.findMaxF 0 s) := by
  unfold DQ.findMaxF
  generalize s.size = n
  match n with
  | 0 | 1 | 2 => exact .pure
  | n + 3 => exact .bind_lift fun _ => .bind_lift fun _ => .bind2 tk_cmpF fun _ _ => .pure

/-! ### public operations -/

theorem tk_dq_peekMaxF (fuse : Nat) (s : Store P) :
    TK fuse s.ticks (DQ.peekMaxF fuse s) (DQ.peekMaxF 0 s) :=
  .bind2 (tk_dq_findMaxF fuse s) fun _ r =>
    match r with
    | none => .pure
    | some _ => .bind_lift fun _ => .pure

theorem tk_dq_peekMaxMutWriteF (fuse : Nat) (s : Store P) (w : Item → Item) :
    TK fuse s.ticks (DQ.peekMaxMutWriteF fuse s w) (DQ.peekMaxMutWriteF 0 s w) := by
  unfold DQ.peekMaxMutWriteF
  refine .bind2 (tk_dq_findMaxF fuse s) fun s1 r => ?_
  cases r with
  | none => exact .pure
  | some pos =>
    refine .bind_lift fun i => ?_
    cases s1.map.getIndex i <;> exact .pure

theorem tk_dq_popMinF (fuse : Nat) (s : Store P) : TK fuse s.ticks (DQ.popMinF fuse s) (DQ.popMinF 0 s) := by
  unfold DQ.popMinF
  cases PQ.DQ.findMin s with
  | none => exact .pure
  | some i => exact .bind2 tk_swapRemove fun s _ => .bind (tk_dq_heapifyF fuse s i) fun _ => .pure

theorem tk_dq_popMaxF (fuse : Nat) (s : Store P) : TK fuse s.ticks (DQ.popMaxF fuse s) (DQ.popMaxF 0 s) :=
  .bind2 (tk_dq_findMaxF fuse s) fun _ r =>
    match r with
    | none => .pure
    | some i => .bind2 tk_swapRemove fun s _ => .bind (tk_dq_heapifyF fuse s i) fun _ => .pure

theorem tk_dq_popMinIfF (fuse : Nat) (s : Store P) (f : Item → P → Bool × Item × P) :
    TK fuse s.ticks (DQ.popMinIfF fuse s f) (DQ.popMinIfF 0 s f) := by
  unfold DQ.popMinIfF
  cases PQ.DQ.findMin s with
  | none => exact .pure
  | some i => exact .bind2 tk_swapRemoveIf fun s _ => .bind (tk_dq_heapifyF fuse s i) fun _ => .pure

theorem tk_dq_popMaxIfF (fuse : Nat) (s : Store P) (f : Item → P → Bool × Item × P) :
    TK fuse s.ticks (DQ.popMaxIfF fuse s f) (DQ.popMaxIfF 0 s f) :=
  .bind2 (tk_dq_findMaxF fuse s) fun _ r =>
    match r with
    | none => .pure
    | some i => .bind2 tk_swapRemoveIf fun s _ => .bind (tk_dq_upHeapifyF fuse s i) fun _ => .pure

theorem tk_dq_pushF (fuse : Nat) (s : Store P) (it : Item) (p : P) :
    TK fuse s.ticks (DQ.pushF fuse s it p) (DQ.pushF 0 s it p) := by
  unfold DQ.pushF
  generalize s.map.insertFull it p = t
  obtain ⟨map, idx, old⟩ := t
  cases old with
  | some oldp => exact .bind_lift fun pos => .bind ((tk_dq_upHeapifyF fuse _ pos).cast rfl) fun _ => .pure
  | none => exact .bind2 ((tk_dq_bubbleUpF fuse _ _ _).cast rfl) fun _ _ => .pure

theorem tk_dq_changePriorityF (fuse : Nat) (s : Store P) (k : Nat) (p : P) :
    TK fuse s.ticks (DQ.changePriorityF fuse s k p) (DQ.changePriorityF 0 s k p) :=
  .bind2 tk_changePriority fun s r =>
    match r with
    | none => .pure
    | some (_, pos) => .bind (tk_dq_upHeapifyF fuse s pos) fun _ => .pure

theorem tk_dq_changePriorityByF (fuse : Nat) (s : Store P) (k : Nat) (g : P → P) :
    TK fuse s.ticks (DQ.changePriorityByF fuse s k g) (DQ.changePriorityByF 0 s k g) :=
  .bind2 tk_changePriorityBy fun s r =>
    match r with
    | none => .pure
    | some pos => .bind (tk_dq_upHeapifyF fuse s pos) fun _ => .pure

theorem tk_dq_removeF (fuse : Nat) (s : Store P) (k : Nat) :
    TK fuse s.ticks (DQ.removeF fuse s k) (DQ.removeF 0 s k) :=
  .bind2 tk_remove fun s r =>
    match r with
    | none => .pure
    | some (_, _, pos) => .ite (.bind (tk_dq_upHeapifyF fuse s pos) fun _ => .pure) .pure

theorem tk_dq_rebuild : TKRebuild (DQ.heapBuildF (P := P)) :=
  ⟨tk_dq_heapBuildF, fun s s' => by rw [cr_er_dq_heapBuildF]; exact liftR_ne_crashed _ s'⟩

theorem tk_dq_pushAllF (fuse : Nat) : ∀ (l : List (Item × P)) (s : Store P),
    TK fuse s.ticks (DQ.pushAllF fuse l s) (DQ.pushAllF 0 l s)
  | [], _ => .pure
  | e :: l, s => .bind2 (tk_dq_pushF fuse s e.1 e.2) fun s _ => tk_dq_pushAllF fuse l s

theorem tk_dq_extendF (fuse : Nat) (s : Store P) (lo : Nat) (xs : Array (Item × P)) :
    TK fuse s.ticks (DQ.extendF fuse s lo xs) (DQ.extendF 0 s lo xs) :=
  .bind_lift fun _ => .ite ((tk_dq_heapBuildF fuse (s.extend xs)).cast (Store.extend_cost s xs).1.symm)
    (tk_dq_pushAllF fuse _ s)

theorem tk_dq_iterMutDropF (fuse : Nat) (s : Store P) (prog : List (ICall × IMWrite P)) :
    TK fuse s.ticks (DQ.iterMutDropF fuse s prog) (DQ.iterMutDropF 0 s prog) :=
  .bind_lift2 fun _ m => .bind (tk_dq_heapBuildF fuse { s with map := m }) fun _ => .pure

end DQ

/-! ## Histories: one fused operation on a queue -/
section Step
variable {P : Type}

/-- the value of the ghost counter from which the comparisons of an operation are numbered: the counter of the queue, except
that `append` may exchange receiver and argument first (`mem::swap`; the counter travels with the store, so it is the counter of
the store that BECOMES the receiver) and that the constructors start from a fresh store (counter `0`) -/
def tkBase (q : Q P) : Op P → Nat
  | .append o => (q.s.append o).1.ticks
  | .fromVec _ => 0
  | .fromIter _ _ => 0
  | .deserialize _ _ => 0
  | _ => q.s.ticks

/-- a queue-level outcome seen at store level: the kind of a crashed queue is forgotten -/
def unQ {α : Type} : CRQ P α → CR P α
  | .ok a => .ok a
  | .error (.fault f) => .error (.fault f)
  | .error (.crashed q) => .error (.crashed q.s)
  | .error .crashedNew => .error .crashedNew

instance : HasTk (Q P × Out P) := ⟨fun r => r.1.s.ticks⟩

/-- the outcome of a fused operation on a queue whose comparisons are numbered from `lo`, relative to the fuse-off run
(`TKPost` of the two outcomes seen at store level): a normal return is the fuse-off return (and a fuse in the future is still in
the future); a crash state has counted exactly the comparisons before the panicking one, the fuse lay in the future, and the
fuse-off run ends at or beyond the fuse -/
def TKQ (fuse lo : Nat) (x x0 : CRQ P (Q P × Out P)) : Prop := TKPost fuse lo (unQ x) (unQ x0)

theorem unQ_liftQ_bind {α β : Type} (k : Kind) (x : CR P α) (f : α → CRQ P β) :
    unQ (liftQ k x >>= f) = x >>= fun a => unQ (f a) := by
  cases x with
  | ok a => rfl
  | error e => cases e <;> rfl

/-- an operation that compares nothing -/
theorem TKQ.pure {fuse lo : Nat} {a : Q P × Out P} (h : a.1.s.ticks = lo := by rfl) :
    TKQ fuse lo (Pure.pure a) (Pure.pure a) := (TK.pure h).2

theorem TKQ.bind_lift {α : Type} {fuse lo : Nat} (k : Kind) (y : R α) {f f0 : α → CRQ P (Q P × Out P)}
    (hf : ∀ a, TKQ fuse lo (f a) (f0 a)) : TKQ fuse lo (liftQ k (liftR y) >>= f) (liftQ k (liftR y) >>= f0) := by
  cases y with
  | ok a => exact hf a
  | error e => trivial

/-- a fused store-level computation followed by a pure repackaging that keeps the counter (`hf`: by computation, for every
repackaging in `stepF`) -/
theorem tkq_of {α : Type} [HasTk α] {fuse lo : Nat} (k : Kind) {x x0 : CR P α} (h : TK fuse lo x x0)
    {f : α → CRQ P (Q P × Out P)}
    (hf : ∀ a, ∃ r, f a = .ok r ∧ r.1.s.ticks = HasTk.tk a := by exact fun _ => ⟨_, rfl, rfl⟩) :
    TKQ fuse lo (liftQ k x >>= f) (liftQ k x0 >>= f) := by
  rw [TKQ, unQ_liftQ_bind, unQ_liftQ_bind]
  refine (h.bind fun a => ?_).2
  obtain ⟨r, h1, h2⟩ := hf a
  rw [h1]
  exact .pure h2

variable [LT P] [DecidableLT P]

theorem tk_heapBuildKF (fuse : Nat) (k : Kind) (s : Store P) :
    TK fuse s.ticks (heapBuildKF fuse k s) (heapBuildKF 0 k s) :=
  .kind (tk_pq_heapBuildF fuse s) (tk_dq_heapBuildF fuse s)

/-- `iter_mut`: the writes of the program touch the map only; the rebuild runs unless the guard is leaked -/
theorem tkq_iterMut (fuse : Nat) (k : Kind) (s : Store P) (leak : Bool) (prog : List (ICall × IMWrite P)) :
    TKQ fuse s.ticks (stepF fuse ⟨k, s⟩ (.iterMut leak prog)) (stepF 0 ⟨k, s⟩ (.iterMut leak prog)) := by
  refine .bind_lift k _ fun r => ?_
  obtain ⟨outs, m⟩ := r
  cases leak with
  | true => exact .pure
  | false => exact tkq_of k (tk_heapBuildKF fuse k { s with map := m })

/-- **One fused operation, counter-wise.**  For EVERY queue (well-formed or not), EVERY operation (legal or not) and EVERY fuse. -/
theorem tkq_stepF (fuse : Nat) (q : Q P) (op : Op P) : TKQ fuse (tkBase q op) (stepF fuse q op) (stepF 0 q op) := by
  obtain ⟨k, s⟩ := q
  cases op with
  | push it p => exact tkq_of k (.kind (tk_pq_pushF fuse s it p) (tk_dq_pushF fuse s it p))
  | pushIncrease it p =>
    exact tkq_of k (.kind (tk_pushIfF tk_pq_pushF id (fun _ => p) fuse s it p _) (tk_pushIfF tk_dq_pushF id (fun _ => p) fuse s it p _))
  | pushDecrease it p =>
    exact tkq_of k (.kind (tk_pushIfF tk_pq_pushF (fun _ => p) id fuse s it p _) (tk_pushIfF tk_dq_pushF (fun _ => p) id fuse s it p _))
  | changePriority key p =>
    exact tkq_of k (.kind (tk_pq_changePriorityF fuse s key p) (tk_dq_changePriorityF fuse s key p))
  | changePriorityBy key g =>
    exact tkq_of k (.kind (tk_pq_changePriorityByF fuse s key g) (tk_dq_changePriorityByF fuse s key g))
  | remove key => exact tkq_of k (.kind (tk_pq_removeF fuse s key) (tk_dq_removeF fuse s key))
  | getMut key w => exact .pure (s.getMutWrite_cost key w)
  | popFront => exact tkq_of k (.kind (tk_pq_popF fuse s) (tk_dq_popMinF fuse s))
  | popFrontIf f => exact tkq_of k (.kind (tk_pq_popIfF fuse s f) (tk_dq_popMinIfF fuse s f))
  | popBack =>
    cases k
    · exact .pure
    · exact tkq_of .dpq (tk_dq_popMaxF fuse s)
  | popBackIf f =>
    cases k
    · exact .pure
    · exact tkq_of .dpq (tk_dq_popMaxIfF fuse s f)
  | peekFrontMut w =>
    cases k
    · exact tkq_of .pq (.lift (PQ.MaxQ.peekMutWrite s w) fun a h => (PQ.MaxQ.peekMutWrite_cost (s' := a.1) (r := a.2) h).1)
    · exact tkq_of .dpq (.lift (PQ.DQ.peekMinMutWrite s w) fun a h => (PQ.DQ.peekMinMutWrite_cost (s' := a.1) (r := a.2) h).1)
  | peekBackMut w =>
    cases k
    · exact .pure
    · exact tkq_of .dpq (tk_dq_peekMaxMutWriteF fuse s w)
  | retainMut f => exact tkq_of k (.kind (tk_retainMutF tk_pq_rebuild fuse s f) (tk_retainMutF tk_dq_rebuild fuse s f))
  | iterMut leak prog => exact tkq_iterMut fuse k s leak prog
  | extend lo xs => exact tkq_of k (.kind (tk_pq_extendF fuse s lo xs) (tk_dq_extendF fuse s lo xs))
  | append o => exact tkq_of k (.kind (tk_appendF tk_pq_rebuild fuse s o) (tk_appendF tk_dq_rebuild fuse s o))
  | fromVec xs => exact tkq_of k (.kind (tk_fromVecF tk_pq_rebuild fuse xs) (tk_fromVecF tk_dq_rebuild fuse xs))
  | fromIter lo xs => exact tkq_of k (.kind (tk_fromIterF tk_pq_rebuild fuse lo xs) (tk_fromIterF tk_dq_rebuild fuse lo xs))
  | deserialize hint xs =>
    exact tkq_of k (.kind (tk_deserializeF tk_pq_rebuild fuse hint xs) (tk_deserializeF tk_dq_rebuild fuse hint xs))
  | convert =>
    cases k
    · exact tkq_of .dpq (tk_dq_heapBuildF fuse s)
    · exact tkq_of .pq (tk_pq_heapBuildF fuse s)
  | clear | drain | capacityOp => exact .pure

end Step

end PQ.Crash
