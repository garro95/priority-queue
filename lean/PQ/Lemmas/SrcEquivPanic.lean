import PQ.Model.SrcF
import PQ.Lemmas.SrcEquivDQ
import PQ.Lemmas.SrcEquivStore2
/-!
# Source-translated tie under panics (`SrcEquivF`)

`PQ/Model/SrcF.lean` gives the generated terms a second meaning in which the `fuse`-th comparison of two priorities panics
and the frames unwind (running the translated `Drop for Hole`).  The theorems here say that this meaning coincides with the
fused twins of `PQ/Model/Crash.lean`: the same result when nothing panics, and otherwise the same store after unwinding
(or the same fault of the guard's writes).
-/
set_option linter.unusedSimpArgs false
set_option linter.unusedSectionVars false
namespace PQ.SrcEquivF
open PQ PQ.Src PQ.SrcGen PQ.SrcF PQ.Crash PQ.SrcEquiv
variable {P : Type} [LT P] [DecidableLT P]

theorem exists_eq_add {fuel b d : Nat} (c : Nat) (h : fuel ≥ b + d) (hc : c ≤ d) : ∃ n, fuel = n + c :=
  ⟨fuel - c, by omega⟩

theorem errorF_bind {α β : Type} (e : StopF P) (f : α → CF P β) : ((Except.error e : CF P α) >>= f) = Except.error e := rfl
theorem okF_bind {α β : Type} (a : α) (f : α → CF P β) : ((Except.ok a : CF P α) >>= f) = f a := rfl
theorem errorC_bind {α β : Type} (e : Stop P) (f : α → CR P β) : ((Except.error e : CR P α) >>= f) = Except.error e := rfl
theorem okC_bind {α β : Type} (a : α) (f : α → CR P β) : ((Except.ok a : CR P α) >>= f) = f a := rfl
@[simp] theorem liftF_ok {α : Type} (a : α) : (liftF (.ok a : R α) : CF P α) = .ok a := rfl
@[simp] theorem liftF_error {α : Type} (f : Fault) : (liftF (.error f : R α) : CF P α) = .error (.fault f) := rfl
@[simp] theorem liftF_pure {α : Type} (a : α) : (liftF (pure a : R α) : CF P α) = pure a := rfl
theorem liftF_bind {α β : Type} (x : R α) (f : α → R β) :
    (liftF (x >>= f) : CF P β) = liftF x >>= fun a => liftF (f a) := by
  cases x <;> rfl
theorem liftF_ite {α : Type} (c : Prop) [Decidable c] (a b : R α) :
    (liftF (if c then a else b) : CF P α) = if c then liftF a else liftF b := by split <;> rfl
theorem iteF_bind {α β : Type} (c : Prop) [Decidable c] (a b : CF P α) (f : α → CF P β) :
    (if c then a else b) >>= f = if c then a >>= f else b >>= f := by split <;> rfl
theorem iteC_bind {α β : Type} (c : Prop) [Decidable c] (a b : CR P α) (f : α → CR P β) :
    (if c then a else b) >>= f = if c then a >>= f else b >>= f := by split <;> rfl

/-- what follows the first statement of a `seq`.  The second statement stays folded (no state argument) until the first
has produced its state: evaluating it under the binder, on an unknown state, and again after substitution in every
branch of the first is what makes symbolic execution of a body expensive. -/
def seqK (k : St P → CF P (St P × Flow P)) (r : St P × Flow P) : CF P (St P × Flow P) :=
  match r.2 with
  | .normal => k r.1
  | fl => pure (r.1, fl)

theorem seqK_normal (k : St P → CF P (St P × Flow P)) (st : St P) : seqK k (st, .normal) = k st := rfl
theorem seqK_brk (k : St P → CF P (St P × Flow P)) (st : St P) : seqK k (st, .brk) = pure (st, .brk) := rfl
theorem seqK_ret (k : St P → CF P (St P × Flow P)) (st : St P) (v : Val P) : seqK k (st, .ret v) = pure (st, .ret v) := rfl

/-! which callees of a `callN` received their hole by `&mut` (unfolding `unwind` itself would put its whole table into
every `execStepF` of the goal) -/
theorem unwind_pqBubbleUp_byRef : (unwind .pqBubbleUp).2 = false := rfl
theorem unwind_dqBubbleUp_byRef : (unwind .dqBubbleUp).2 = false := rfl
theorem unwind_dqBubbleUpMin_byRef : (unwind .dqBubbleUpMin).2 = true := rfl
theorem unwind_dqBubbleUpMax_byRef : (unwind .dqBubbleUpMax).2 = true := rfl

section
variable (fuse : Nat) (dropFuse : Bool) (plain : Stmt → St P → R (St P × Flow P)) (callf : CallF P)
  (recF : Stmt → St P → CF P (St P × Flow P)) (callfF : CallFF P) (byRef : FnId → Bool) (st : St P)

theorem esF_seq (a b : Stmt) :
    execStepF fuse dropFuse plain callf recF callfF byRef (.seq a b) st =
      execStepF fuse dropFuse plain callf recF callfF byRef a st
        >>= seqK (execStepF fuse dropFuse plain callf recF callfF byRef b) := rfl
theorem esF_ite (c : BExpr) (t e : Stmt) :
    execStepF fuse dropFuse plain callf recF callfF byRef (.ite c t e) st =
      (evalBF fuse callf st c >>= fun r =>
        if r.2 then execStepF fuse dropFuse plain callf recF callfF byRef t (st.setS r.1)
        else execStepF fuse dropFuse plain callf recF callfF byRef e (st.setS r.1)) := rfl
theorem esF_while (c : BExpr) (body : Stmt) :
    execStepF fuse dropFuse plain callf recF callfF byRef (.while c body) st =
      (evalBF fuse callf st c >>= fun r =>
        if r.2 then
          execStepF fuse dropFuse plain callf recF callfF byRef body (st.setS r.1) >>= fun x =>
            match x.2 with
            | .normal => recF (.while c body) x.1
            | .brk => pure (x.1, .normal)
            | .ret v => pure (x.1, .ret v)
        else pure (st.setS r.1, .normal)) := rfl
theorem esF_setN (v : Var) (e : NExpr) :
    execStepF fuse dropFuse plain callf recF callfF byRef (.setN v e) st = liftF (plain (.setN v e) st) := rfl
theorem esF_setP (v : Var) (e : PExpr) :
    execStepF fuse dropFuse plain callf recF callfF byRef (.setP v e) st = liftF (plain (.setP v e) st) := rfl
theorem esF_heapSetU (site : Nat) (i x : NExpr) :
    execStepF fuse dropFuse plain callf recF callfF byRef (.heapSetU site i x) st = liftF (plain (.heapSetU site i x) st) := rfl
theorem esF_qpSetU (site : Nat) (i x : NExpr) :
    execStepF fuse dropFuse plain callf recF callfF byRef (.qpSetU site i x) st = liftF (plain (.qpSetU site i x) st) := rfl
theorem esF_brk : execStepF fuse dropFuse plain callf recF callfF byRef .brk st = liftF (plain .brk st) := rfl
theorem esF_skip : execStepF fuse dropFuse plain callf recF callfF byRef .skip st = liftF (plain .skip st) := rfl
theorem esF_retN (e : NExpr) :
    execStepF fuse dropFuse plain callf recF callfF byRef (.retN e) st = liftF (plain (.retN e) st) := rfl
end

theorem exec_setN (prog : Prog) (n : Nat) (v : Var) (e : NExpr) (st : St P) :
    exec prog (n + 1) (.setN v e) st = (evalN st e >>= fun x => pure (st.setN v x, Flow.normal)) := rfl
theorem exec_setP (prog : Prog) (n : Nat) (v : Var) (e : PExpr) (st : St P) :
    exec prog (n + 1) (.setP v e) st
      = (evalP (callWith (exec prog n) prog) st e >>= fun r => pure ((st.setS r.1).setP v r.2, Flow.normal)) := rfl
theorem exec_heapSetU (prog : Prog) (n : Nat) (site : Nat) (i x : NExpr) (st : St P) :
    exec prog (n + 1) (.heapSetU site i x) st = (evalN st i >>= fun i => evalN st x >>= fun x =>
      setU st.s.heap i x site >>= fun heap => pure (st.setS { st.s with heap := heap }, Flow.normal)) := rfl
theorem exec_qpSetU (prog : Prog) (n : Nat) (site : Nat) (i x : NExpr) (st : St P) :
    exec prog (n + 1) (.qpSetU site i x) st = (evalN st i >>= fun i => evalN st x >>= fun x =>
      setU st.s.qp i x site >>= fun qp => pure (st.setS { st.s with qp := qp }, Flow.normal)) := rfl
theorem exec_brk (prog : Prog) (n : Nat) (st : St P) : exec prog (n + 1) .brk st = pure (st, Flow.brk) := rfl
theorem exec_skip (prog : Prog) (n : Nat) (st : St P) : exec prog (n + 1) .skip st = pure (st, Flow.normal) := rfl
theorem exec_retN (prog : Prog) (n : Nat) (e : NExpr) (st : St P) :
    exec prog (n + 1) (.retN e) st = (evalN st e >>= fun x => pure (st, Flow.ret (.nat x))) := rfl

theorem execF_succ (prog : Prog) (uw : Unwind) (fuse : Nat) (dropFuse : Bool) (k : Nat) (c : Stmt) (st : St P) :
    execStepF fuse dropFuse (exec prog (k + 1)) (callWith (exec prog k) prog) (execF prog uw fuse dropFuse k)
      (callWithF (execF prog uw fuse dropFuse k) (exec prog k) prog uw) (fun f => (uw f).2) c st
      = execF prog uw fuse dropFuse (k + 1) c st := rfl

/-- a fused frame result in the crash model's vocabulary: `fill` is the frame's unwind code (run on the panic state),
`proj` what is kept of a normal completion -/
def toCR {β : Type} (fill : St P → R (Store P)) (proj : St P → β) : CF P (St P × Flow P) → CR P (β × Flow P)
  | .ok r => .ok (proj r.1, r.2)
  | .error (.fault f) => .error (.fault f)
  | .error (.panic stp) =>
    match fill stp with
    | .ok s' => .error (.crashed s')
    | .error f => .error (.fault f)

theorem toCR_bind {β : Type} (fill : St P → R (Store P)) (proj : St P → β) (x : CF P (St P × Flow P))
    (k : St P × Flow P → CF P (St P × Flow P)) :
    toCR fill proj (x >>= k) = match x with
      | .ok r => toCR fill proj (k r)
      | .error e => toCR fill proj (.error e) := by
  cases x <;> rfl

theorem liftR_ite {α : Type} (c : Prop) [Decidable c] (a b : R α) :
    (liftR (if c then a else b) : CR P α) = if c then liftR a else liftR b := by split <;> rfl

theorem toCR_liftF_bind {α β : Type} (fill : St P → R (Store P)) (proj : St P → β) (x : R α)
    (k : α → CF P (St P × Flow P)) :
    toCR fill proj (liftF x >>= k) = liftR x >>= fun a => toCR fill proj (k a) := by
  cases x <;> rfl

theorem toCR_cmpAt_bind {β : Type} (fill : St P → R (Store P)) (proj : St P → β) (fuse : Nat) (st : St P) (a b : P)
    (k : Store P × Bool → CF P (St P × Flow P)) :
    toCR fill proj (cmpAt fuse st a b >>= k) =
      if st.s.ticks + 1 = fuse then
        (match fill st with
          | .ok s' => .error (.crashed s')
          | .error f => .error (.fault f))
      else toCR fill proj (k (st.s.tick, decide (a < b))) := by
  unfold cmpAt
  split <;> rfl

theorem cmpHoleF_bind {α : Type} (fuse : Nat) (s : Store P) (a b : P) (pos mp h q : Nat)
    (g : Store P × Bool → CR P α) :
    cmpHoleF fuse s a b pos mp h q >>= g =
      if s.ticks + 1 = fuse then
        (match fillHole s pos mp h q with
          | .ok s' => .error (.crashed s')
          | .error f => .error (.fault f))
      else g (s.tick, decide (a < b)) := by
  unfold cmpHoleF
  split
  · cases fillHole s pos mp h q <;> rfl
  · rfl

theorem toCR_ite {β : Type} (fill : St P → R (Store P)) (proj : St P → β) (c : Prop) [Decidable c]
    (a b : CF P (St P × Flow P)) :
    toCR fill proj (if c then a else b) = if c then toCR fill proj a else toCR fill proj b := by split <;> rfl

theorem toCR_pure {β : Type} (fill : St P → R (Store P)) (proj : St P → β) (r : St P × Flow P) :
    toCR fill proj (pure r) = pure (proj r.1, r.2) := rfl

theorem liftR_bind_congr_ok {α β : Type} {x : R α} {f g : α → CR P β} (h : ∀ a, x = .ok a → f a = g a) :
    liftR x >>= f = liftR x >>= g := by
  cases x with
  | error e => rfl
  | ok a => exact h a rfl

/-- the hole of `PriorityQueue::bubble_up`: registers 3 (position) and 4 (map position) -/
def fillPQ (stp : St P) : R (Store P) := fillHole stp.s (stp.n 3) (stp.n 4) 205 206

theorem pqBubbleUp_loop_condF (fuse : Nat) (callf : CallF P) (st : St P) :
    evalBF fuse callf st pqBubbleUp_loop1_cond = pure (st.s, decide (st.n 3 > 0)) := by
  simp only [pqBubbleUp_loop1_cond, evalBF, evalB, evalN, pure_bind, bind_assoc]
  rfl

theorem pqBubbleUp_loopF (fuse mp : Nat) (f : Nat) : ∀ (k : Nat) (st : St P) (prio : P), f ≤ k → st.p 2 = some prio →
    st.n 4 = mp →
    Crash.MaxQ.bubbleUpLoopF fuse mp f st.s (st.n 3) prio ≠ .error (.fault .fuel) →
    toCR fillPQ (fun st' => (st'.s, st'.n 3, st'.n 4, st'.p 2))
        (execF prog unwind fuse false (k + 1) (.while pqBubbleUp_loop1_cond pqBubbleUp_loop1_body) st)
      = (fun r => ((r.1, r.2, mp, some prio), Flow.normal)) <$> Crash.MaxQ.bubbleUpLoopF fuse mp f st.s (st.n 3) prio := by
  induction f with
  | zero => intro k st prio _ _ _ hne; exact absurd rfl hne
  | succ f ih =>
    intro k st prio hk hp hmp hne
    obtain ⟨k, rfl⟩ : ∃ k', k = k' + 1 := ⟨k - 1, by omega⟩
    rw [execF, esF_while, pqBubbleUp_loop_condF]
    simp only [pure_bind, Crash.MaxQ.bubbleUpLoopF] at hne ⊢
    by_cases hc : st.n 3 > 0
    · have h0 : ¬ st.n 3 = 0 := by omega
      simp only [hc, ↓reduceIte, decide_true] at hne ⊢
      simp only [pqBubbleUp_loop1_body, esF_seq, seqK_normal, seqK_brk, seqK_ret, esF_ite, esF_setN, esF_heapSetU, esF_qpSetU, esF_brk, exec_setN,
        exec_heapSetU, exec_qpSetU, exec_brk, evalN, evalP, evalBF,
        St.setS, St.setN, St.setP, upd, h0, hp, ↓reduceIte, Nat.reduceEqDiff, pure_bind, bind_assoc, liftF_bind, liftF_pure,
        liftF_ite, liftF_error, iteF_bind, errorF_bind, Store.prioAt, liftR_bind, liftR_pure]
      simp only [toCR_liftF_bind, toCR_cmpAt_bind, toCR_ite, toCR_pure, map_bind, cmpHoleF_bind, iteC_bind, fillPQ, upd,
        ↓reduceIte, Nat.reduceEqDiff, hmp, map_pure, heap_tick, qp_tick]
      rw [← pqBubbleUp_loop1_body]
      refine liftR_bind_congr_ok fun i hi => liftR_bind_congr_ok fun e he => ?_
      have hi' : getU st.s.heap (Arith.parent (st.n 3)) 201 = .ok i := by
        rw [getU_ok_iff] at hi ⊢; exact hi
      by_cases hfz : st.s.ticks + 1 = fuse
      · simp only [hfz, ↓reduceIte]
        cases fillHole st.s (st.n 3) mp 205 206 <;> rfl
      · simp only [hfz, ↓reduceIte]
        by_cases hlt : e.2 < prio
        · simp only [hlt, decide_true, ↓reduceIte, hi', liftR_ok, okC_bind, map_bind]
          refine liftR_bind_congr_ok fun heap hh => liftR_bind_congr_ok fun qp hq => ?_
          refine ih k _ prio (by omega) hp (by simp [upd, hmp]) ?_
          have := hne
          simp only [Store.prioAt, liftR_bind, bind_assoc, hi, he, liftR_ok, okC_bind, cmpHoleF_bind, hfz, ↓reduceIte,
            hlt, decide_true, heap_tick, qp_tick, hi', hh, hq, liftR_pure, pure_bind] at this
          simpa [upd] using this
        · simp only [hlt, decide_false, Bool.false_eq_true, ↓reduceIte, hp, map_pure]
    · simp only [hc, ↓reduceIte, decide_false, Bool.false_eq_true, toCR_pure, map_pure, St.setS, hmp, hp]

def NoFuelC {α : Type} (x : CR P α) : Prop := x ≠ .error (.fault .fuel)

theorem NoFuelC.pure {α : Type} (a : α) : NoFuelC (pure a : CR P α) := by intro h; cases h
theorem NoFuelC.liftR {α : Type} {x : R α} (h : NoFuel x) : NoFuelC (liftR x : CR P α) := by
  cases x with
  | ok a => intro h'; cases h'
  | error e =>
    intro h'
    have : e = Fault.fuel := by
      have h'' : (Except.error (Stop.fault e) : CR P α) = .error (.fault .fuel) := h'
      injection h'' with h''
      injection h''
    exact h (by rw [this])
theorem NoFuelC.bind {α β : Type} {x : CR P α} {f : α → CR P β} (hx : NoFuelC x) (hf : ∀ a, x = .ok a → NoFuelC (f a)) :
    NoFuelC (x >>= f) := by
  cases x with
  | error e =>
    intro h
    have h' : (Except.error e : CR P β) = .error (.fault .fuel) := h
    injection h' with h'
    exact hx (by rw [h'])
  | ok a => exact hf a rfl
theorem NoFuelC.ite {α : Type} {c : Prop} [Decidable c] {a b : CR P α} (ha : c → NoFuelC a) (hb : ¬c → NoFuelC b) :
    NoFuelC (if c then a else b) := by
  split
  · exact ha ‹_›
  · exact hb ‹_›

theorem fillHole_noFuel (s : Store P) (pos mp h q : Nat) : NoFuel (fillHole s pos mp h q) :=
  NoFuel.bind (NoFuel.setU _ _ _ _) fun _ _ => NoFuel.bind (NoFuel.setU _ _ _ _) fun _ _ => NoFuel.pure _

theorem NoFuelC.cmpHoleF_bind {α : Type} (fuse : Nat) (s : Store P) (a b : P) (pos mp h q : Nat)
    (g : Store P × Bool → CR P α) (hg : ∀ r, NoFuelC (g r)) : NoFuelC (cmpHoleF fuse s a b pos mp h q >>= g) := by
  rw [SrcEquivF.cmpHoleF_bind]
  split
  · have := fillHole_noFuel s pos mp h q
    cases hf : fillHole s pos mp h q with
    | ok s' => intro h'; cases h'
    | error e =>
      rw [hf] at this
      intro h'
      have h'' : (Except.error (Stop.fault e) : CR P α) = .error (.fault .fuel) := h'
      injection h'' with h''
      injection h'' with h''
      exact this (by rw [h''])
  · exact hg _

theorem bubbleUpLoopF_noFuel (fuse mp : Nat) (f : Nat) : ∀ (s : Store P) (pos : Nat) (prio : P), pos < f →
    NoFuelC (Crash.MaxQ.bubbleUpLoopF fuse mp f s pos prio) := by
  induction f with
  | zero => intro s pos prio h; omega
  | succ f ih =>
    intro s pos prio h
    rw [Crash.MaxQ.bubbleUpLoopF]
    refine NoFuelC.ite (fun hpos => ?_) (fun _ => NoFuelC.pure _)
    refine NoFuelC.bind (NoFuelC.liftR (NoFuel.prioAt _ _)) fun pp _ => ?_
    refine NoFuelC.cmpHoleF_bind _ _ _ _ _ _ _ _ _ fun r => ?_
    refine NoFuelC.ite (fun _ => ?_) (fun _ => NoFuelC.pure _)
    refine NoFuelC.bind (NoFuelC.liftR (NoFuel.getU _ _ _)) fun _ _ => NoFuelC.bind (NoFuelC.liftR (NoFuel.setU _ _ _ _))
      fun _ _ => NoFuelC.bind (NoFuelC.liftR (NoFuel.setU _ _ _ _)) fun _ _ => ?_
    refine ih _ _ _ ?_
    simp only [Arith.parent]
    omega

theorem pq_unwind_eq (n : Nat) (stp : St P) :
    exec prog (n + 1) (unwind FnId.pqBubbleUp).1 stp
      = (fun s' => (({ stp with s := s' } : St P), Flow.normal)) <$> fillPQ stp := by
  simp only [unwind, pqBubbleUp_unwind, exec, es2, es15, es16, evalN, fillPQ, fillHole, St.setS, bind_assoc, pure_bind, map_eq_pure_bind,
    Function.comp]
  src_close

/-- `PriorityQueue::bubble_up` when the `fuse`-th comparison panics = `Crash.MaxQ.bubbleUpF`: the same result, or the
same store after the `Hole` guard has run -/
theorem pqBubbleUpF (fuse : Nat) (s : Store P) (position mapPosition : Nat) (fuel : Nat) (h : fuel ≥ position + 2) :
    runF prog unwind fuse false fuel .pqBubbleUp s [position, mapPosition]
      = (fun r => (r.1, Val.nat r.2)) <$> Crash.MaxQ.bubbleUpF fuse s position mapPosition := by
  obtain ⟨k, rfl⟩ := exists_eq_add 2 h (by decide)
  unfold runF callWithF Crash.MaxQ.bubbleUpF
  simp only [prog, SrcGen.pqBubbleUp, pq_unwind_eq]
  rw [execF, pqBubbleUp_body, esF_seq]
  simp only [pqBubbleUp_part1, esF_seq, seqK_normal, seqK_brk, seqK_ret, esF_setN, esF_setP, exec_setN, exec_setP, evalN, evalP, bindN, bindP, bindV, upd,
    St.setS, St.setN, St.setP, ↓reduceIte, Nat.reduceEqDiff, pure_bind, bind_assoc, liftF_bind, liftF_pure]
  cases he : unwrapO (s.map.getIndex mapPosition) 204 with
  | error f => rfl
  | ok e =>
    simp only [liftF_ok, okF_bind, liftR_ok, okC_bind, pure_bind]
    rw [execF_succ]
    have hl := pqBubbleUp_loopF fuse mapPosition (position + 1) (k + 1)
      { s := s, n := upd (upd (upd (upd (fun _ => 0) 1 mapPosition) 0 position) 3 position) 4 mapPosition,
        p := upd (fun _ => none) 2 (some e.snd) } e.snd (by omega) (by simp [upd]) (by simp [upd])
      (by have := bubbleUpLoopF_noFuel fuse mapPosition (position + 1) s position e.snd (by omega)
          simpa [upd, NoFuelC] using this)
    simp only [upd, ↓reduceIte, Nat.reduceEqDiff] at hl
    generalize MaxQ.bubbleUpLoopF fuse mapPosition (position + 1) s position e.snd = y at hl ⊢
    cases hx : execF prog unwind fuse false (k + 1 + 1) (Stmt.while pqBubbleUp_loop1_cond pqBubbleUp_loop1_body)
        { s := s, n := upd (upd (upd (upd (fun _ => 0) 1 mapPosition) 0 position) 3 position) 4 mapPosition,
          p := upd (fun _ => none) 2 (some e.snd) } with
    | ok r =>
      obtain ⟨st', fl⟩ := r
      rw [hx] at hl
      cases y with
      | error ey => simp [toCR, Functor.map, Except.map] at hl
      | ok yr =>
        simp only [toCR, Functor.map, Except.map, Except.ok.injEq, Prod.mk.injEq] at hl
        obtain ⟨⟨h1, h2, h3, h4⟩, h5⟩ := hl
        subst h5
        simp only [okF_bind, okC_bind, pqBubbleUp_part2, esF_seq, seqK_normal, seqK_brk, seqK_ret, esF_setN, esF_heapSetU, esF_qpSetU, esF_retN, exec_setN,
          exec_heapSetU, exec_qpSetU, exec_retN, evalN, upd, St.setS, St.setN, ↓reduceIte, Nat.reduceEqDiff, pure_bind,
          bind_assoc, liftF_bind, liftF_pure, h1, h2, h3]
        cases hh : setU yr.fst.heap yr.snd mapPosition 205 with
        | error f => rfl
        | ok heap =>
          simp only [liftF_ok, okF_bind, liftR_ok, okC_bind]
          cases hq : setU yr.fst.qp mapPosition yr.snd 206 with
          | error f => rfl
          | ok qp => rfl
    | error er =>
      rw [hx] at hl
      cases er with
      | fault f =>
        cases y with
        | ok yr => simp [toCR, Functor.map, Except.map] at hl
        | error ey =>
          simp only [toCR, Functor.map, Except.map, Except.error.injEq] at hl
          subst hl
          rfl
      | panic stp =>
        simp only [toCR] at hl
        simp only [errorF_bind]
        cases hf : fillPQ stp with
        | ok s' =>
          rw [hf] at hl
          cases y with
          | ok yr => simp [Functor.map, Except.map] at hl
          | error ey =>
            simp only [Functor.map, Except.map, Except.error.injEq] at hl
            subst hl
            rfl
        | error f =>
          rw [hf] at hl
          cases y with
          | ok yr => simp [Functor.map, Except.map] at hl
          | error ey =>
            simp only [Functor.map, Except.map, Except.error.injEq] at hl
            subst hl
            rfl
/-! ## `Store::clear` when the `Drop` of an element panics -/

/-- if dropping the elements panics (`self.map.clear()`), the index tables are already empty and the size counter is
already `0` (the map is left to IndexMap: modelled as untouched) -/
theorem storeClearF (s : Store P) (fuse : Nat) (fuel : Nat) (h : fuel ≥ 1) :
    runF prog unwind fuse true fuel .storeClear s []
      = .error (.crashed { s with heap := #[], qp := #[], size := 0 }) := by
  obtain ⟨n, rfl⟩ := Nat.exists_eq_add_of_le' h
  unfold runF callWithF
  simp only [prog, SrcGen.storeClear]
  rw [execF, storeClear_body]
  simp only [esF_seq, seqK_normal, seqK_brk, seqK_ret, execStepF, exec, es2, es35, es36, es38, evalN, St.setS, pure_bind, bind_assoc, liftF_bind, liftF_pure,
    liftF_ok, okF_bind, errorF_bind, ↓reduceIte, unwind, es1]
  rfl

section
variable (fuse : Nat) (dropFuse : Bool) (plain : Stmt → St P → R (St P × Flow P)) (callf : CallF P)
  (recF : Stmt → St P → CF P (St P × Flow P)) (callfF : CallFF P) (byRef : FnId → Bool) (st : St P)
theorem esF_callN (v : Var) (f : FnId) (nargs : List NExpr) (pargs : List PExpr) :
    execStepF fuse dropFuse plain callf recF callfF byRef (.callN v f nargs pargs) st =
      (liftF (evalNs st nargs) >>= fun xs => liftF (evalPs callf st pargs) >>= fun r =>
        fromCall (st.setS r.1) (if byRef f then some v else none) (callfF f r.1 xs r.2 []) >>= fun c =>
          match c.2 with
          | .nat x => pure ((st.setS c.1).setN v x, Flow.normal)
          | _ => .error (.fault stuck)) := rfl
theorem esF_entryMatch (iv eidx : Var) (occ vac : Stmt) :
    execStepF fuse dropFuse plain callf recF callfF byRef (.entryMatch iv eidx occ vac) st =
      (match st.v iv with
        | some (.item it) =>
          match st.s.map.find? it.key with
          | some i => execStepF fuse dropFuse plain callf recF callfF byRef occ (st.setN eidx i)
          | none => execStepF fuse dropFuse plain callf recF callfF byRef vac st
        | _ => .error (.fault stuck)) := rfl
theorem esF_leaf_setVNoneP (v : Var) :
    execStepF fuse dropFuse plain callf recF callfF byRef (.setVNoneP v) st = liftF (plain (.setVNoneP v) st) := rfl
theorem esF_leaf_vacantInsert (iv : Var) (p : PExpr) :
    execStepF fuse dropFuse plain callf recF callfF byRef (.vacantInsert iv p) st = liftF (plain (.vacantInsert iv p) st) := rfl
theorem esF_leaf_qpPush (e : NExpr) :
    execStepF fuse dropFuse plain callf recF callfF byRef (.qpPush e) st = liftF (plain (.qpPush e) st) := rfl
theorem esF_leaf_heapPush (e : NExpr) :
    execStepF fuse dropFuse plain callf recF callfF byRef (.heapPush e) st = liftF (plain (.heapPush e) st) := rfl
theorem esF_leaf_sizeInc :
    execStepF fuse dropFuse plain callf recF callfF byRef .sizeInc st = liftF (plain .sizeInc st) := rfl
theorem esF_leaf_retNoneP :
    execStepF fuse dropFuse plain callf recF callfF byRef .retNoneP st = liftF (plain .retNoneP st) := rfl
end

theorem exec_setVNoneP (prog : Prog) (n : Nat) (v : Var) (st : St P) :
    exec prog (n + 1) (.setVNoneP v) st = pure (st.setV v (.optP none), Flow.normal) := rfl
theorem exec_vacantInsert (prog : Prog) (n : Nat) (iv : Var) (p : PExpr) (st : St P) :
    exec prog (n + 1) (.vacantInsert iv p) st = (evalP (callWith (exec prog n) prog) st p >>= fun r =>
      match st.v iv with
      | some (.item it) => pure (st.setS { r.1 with map := r.1.map.push (it, r.2) }, Flow.normal)
      | _ => .error stuck) := rfl
theorem exec_qpPush (prog : Prog) (n : Nat) (e : NExpr) (st : St P) :
    exec prog (n + 1) (.qpPush e) st = (evalN st e >>= fun x =>
      pure (st.setS { st.s with qp := st.s.qp.push x }, Flow.normal)) := rfl
theorem exec_heapPush (prog : Prog) (n : Nat) (e : NExpr) (st : St P) :
    exec prog (n + 1) (.heapPush e) st = (evalN st e >>= fun x =>
      pure (st.setS { st.s with heap := st.s.heap.push x }, Flow.normal)) := rfl
theorem exec_sizeInc (prog : Prog) (n : Nat) (st : St P) :
    exec prog (n + 1) .sizeInc st = pure (st.setS { st.s with size := st.s.size + 1 }, Flow.normal) := rfl
theorem exec_retNoneP (prog : Prog) (n : Nat) (st : St P) :
    exec prog (n + 1) .retNoneP st = pure (st, Flow.ret (.optP none)) := rfl

/-- a fused call seen from outside: only the store survives a panic -/
def toCRcall {α : Type} : Except (CallStop P) α → CR P α
  | .ok a => .ok a
  | .error (.fault f) => .error (.fault f)
  | .error (.panic s _) => .error (.crashed s)

theorem runF_eq (prog : Prog) (uw : Unwind) (fuse : Nat) (dropFuse : Bool) (fuel : Nat) (f : FnId) (s : Store P)
    (nargs : List Nat) (pargs : List P) (vargs : List (Val P)) :
    runF prog uw fuse dropFuse fuel f s nargs pargs vargs
      = toCRcall (callWithF (execF prog uw fuse dropFuse fuel) (exec prog fuel) prog uw f s nargs pargs vargs) := by
  unfold runF toCRcall
  split <;> simp_all

/-! ## `DoublePriorityQueue::bubble_up_min` / `bubble_up_max` under panics -/

/-- the hole a `&mut Hole` callee works on: registers 0 (position) and 1 (map position); the write sites are those of the
owner's guard -/
def fillDQ (mp : Nat) (stp : St P) : R (Store P) := fillHole stp.s (stp.n 0) mp 316 317

theorem dqBubbleUpMin_loop_condF (fuse : Nat) (callf : CallF P) (st : St P) :
    evalBF fuse callf st dqBubbleUpMin_loop1_cond
      = pure (st.s, decide (st.n 0 > 0 ∧ Arith.parent (st.n 0) > 0)) := by
  simp only [dqBubbleUpMin_loop1_cond, evalBF, evalB]
  by_cases h : st.n 0 > 0
  · have h1 : ¬ st.n 0 = 0 := by omega
    simp [evalN, h, h1, liftF_bind, St.setS]
  · simp [evalN, h, liftF_bind]

theorem dqBubbleUpMin_loopF (fuse mp : Nat) (f : Nat) : ∀ (k : Nat) (st : St P) (prio : P), f ≤ k → st.p 2 = some prio →
    st.n 1 = mp →
    Crash.DQ.bubbleUpMinLoopF fuse mp f st.s (st.n 0) prio ≠ .error (.fault .fuel) →
    toCR (fillDQ mp) (fun st' => (st'.s, st'.n 0, st'.n 1, st'.p 2))
        (execF prog unwind fuse false (k + 1) (.while dqBubbleUpMin_loop1_cond dqBubbleUpMin_loop1_body) st)
      = (fun r => ((r.1, r.2, mp, some prio), Flow.normal)) <$> Crash.DQ.bubbleUpMinLoopF fuse mp f st.s (st.n 0) prio := by
  induction f with
  | zero => intro k st prio _ _ _ hne; exact absurd rfl hne
  | succ f ih =>
    intro k st prio hk hp hmp hne
    obtain ⟨k, rfl⟩ : ∃ k', k = k' + 1 := ⟨k - 1, by omega⟩
    rw [execF, esF_while, dqBubbleUpMin_loop_condF]
    simp only [pure_bind, Crash.DQ.bubbleUpMinLoopF] at hne ⊢
    by_cases hc : st.n 0 > 0 ∧ Arith.parent (st.n 0) > 0
    · have h0 : ¬ st.n 0 = 0 := by omega
      have h1 : ¬ Arith.parent (st.n 0) = 0 := by omega
      simp only [hc, and_self, ↓reduceIte, decide_true] at hne ⊢
      simp only [dqBubbleUpMin_loop1_body, esF_seq, seqK_normal, seqK_brk, seqK_ret, esF_ite, esF_setN, esF_heapSetU, esF_qpSetU, esF_brk, exec_setN,
        exec_heapSetU, exec_qpSetU, exec_brk, evalN, evalP, evalBF,
        St.setS, St.setN, St.setP, upd, h0, h1, hp, ↓reduceIte, Nat.reduceEqDiff, pure_bind, bind_assoc, liftF_bind, liftF_pure,
        liftF_ite, liftF_error, iteF_bind, errorF_bind, Store.prioAt, liftR_bind, liftR_pure]
      simp only [toCR_liftF_bind, toCR_cmpAt_bind, toCR_ite, toCR_pure, map_bind, cmpHoleF_bind, iteC_bind, fillDQ, upd,
        ↓reduceIte, Nat.reduceEqDiff, hmp, map_pure, heap_tick, qp_tick]
      rw [← dqBubbleUpMin_loop1_body]
      refine liftR_bind_congr_ok fun i hi => liftR_bind_congr_ok fun e he => ?_
      have hi' : getU st.s.heap (Arith.parent (Arith.parent (st.n 0))) 320 = .ok i := by
        rw [getU_ok_iff] at hi ⊢; exact hi
      by_cases hfz : st.s.ticks + 1 = fuse
      · simp only [hfz, ↓reduceIte]
        cases fillHole st.s (st.n 0) mp 316 317 <;> rfl
      · simp only [hfz, ↓reduceIte]
        by_cases hlt : prio < e.2
        · simp only [hlt, decide_true, ↓reduceIte, hi', liftR_ok, okC_bind, map_bind]
          refine liftR_bind_congr_ok fun heap hh => liftR_bind_congr_ok fun qp hq => ?_
          refine ih k _ prio (by omega) hp (by simp [upd, hmp]) ?_
          have := hne
          simp only [Store.prioAt, liftR_bind, bind_assoc, hi, he, liftR_ok, okC_bind, cmpHoleF_bind, hfz, ↓reduceIte,
            hlt, decide_true, heap_tick, qp_tick, hi', hh, hq, liftR_pure, pure_bind] at this
          simpa [upd] using this
        · simp only [hlt, decide_false, Bool.false_eq_true, ↓reduceIte, hp, map_pure]
    · simp only [hc, ↓reduceIte, decide_false, Bool.false_eq_true, toCR_pure, map_pure, St.setS, hmp, hp]
theorem dqBubbleUpMax_loop_condF (fuse : Nat) (callf : CallF P) (st : St P) :
    evalBF fuse callf st dqBubbleUpMax_loop1_cond
      = pure (st.s, decide (st.n 0 > 0 ∧ Arith.parent (st.n 0) > 0)) := by
  simp only [dqBubbleUpMax_loop1_cond, evalBF, evalB]
  by_cases h : st.n 0 > 0
  · have h1 : ¬ st.n 0 = 0 := by omega
    simp [evalN, h, h1, liftF_bind, St.setS]
  · simp [evalN, h, liftF_bind]

theorem dqBubbleUpMax_loopF (fuse mp : Nat) (f : Nat) : ∀ (k : Nat) (st : St P) (prio : P), f ≤ k → st.p 2 = some prio →
    st.n 1 = mp →
    Crash.DQ.bubbleUpMaxLoopF fuse mp f st.s (st.n 0) prio ≠ .error (.fault .fuel) →
    toCR (fillDQ mp) (fun st' => (st'.s, st'.n 0, st'.n 1, st'.p 2))
        (execF prog unwind fuse false (k + 1) (.while dqBubbleUpMax_loop1_cond dqBubbleUpMax_loop1_body) st)
      = (fun r => ((r.1, r.2, mp, some prio), Flow.normal)) <$> Crash.DQ.bubbleUpMaxLoopF fuse mp f st.s (st.n 0) prio := by
  induction f with
  | zero => intro k st prio _ _ _ hne; exact absurd rfl hne
  | succ f ih =>
    intro k st prio hk hp hmp hne
    obtain ⟨k, rfl⟩ : ∃ k', k = k' + 1 := ⟨k - 1, by omega⟩
    rw [execF, esF_while, dqBubbleUpMax_loop_condF]
    simp only [pure_bind, Crash.DQ.bubbleUpMaxLoopF] at hne ⊢
    by_cases hc : st.n 0 > 0 ∧ Arith.parent (st.n 0) > 0
    · have h0 : ¬ st.n 0 = 0 := by omega
      have h1 : ¬ Arith.parent (st.n 0) = 0 := by omega
      simp only [hc, and_self, ↓reduceIte, decide_true] at hne ⊢
      simp only [dqBubbleUpMax_loop1_body, esF_seq, seqK_normal, seqK_brk, seqK_ret, esF_ite, esF_setN, esF_heapSetU, esF_qpSetU, esF_brk, exec_setN,
        exec_heapSetU, exec_qpSetU, exec_brk, evalN, evalP, evalBF,
        St.setS, St.setN, St.setP, upd, h0, h1, hp, ↓reduceIte, Nat.reduceEqDiff, pure_bind, bind_assoc, liftF_bind, liftF_pure,
        liftF_ite, liftF_error, iteF_bind, errorF_bind, Store.prioAt, liftR_bind, liftR_pure]
      simp only [toCR_liftF_bind, toCR_cmpAt_bind, toCR_ite, toCR_pure, map_bind, cmpHoleF_bind, iteC_bind, fillDQ, upd,
        ↓reduceIte, Nat.reduceEqDiff, hmp, map_pure, heap_tick, qp_tick]
      rw [← dqBubbleUpMax_loop1_body]
      refine liftR_bind_congr_ok fun i hi => liftR_bind_congr_ok fun e he => ?_
      have hi' : getU st.s.heap (Arith.parent (Arith.parent (st.n 0))) 323 = .ok i := by
        rw [getU_ok_iff] at hi ⊢; exact hi
      by_cases hfz : st.s.ticks + 1 = fuse
      · simp only [hfz, ↓reduceIte]
        cases fillHole st.s (st.n 0) mp 316 317 <;> rfl
      · simp only [hfz, ↓reduceIte]
        by_cases hlt : e.2 < prio
        · simp only [hlt, decide_true, ↓reduceIte, hi', liftR_ok, okC_bind, map_bind]
          refine liftR_bind_congr_ok fun heap hh => liftR_bind_congr_ok fun qp hq => ?_
          refine ih k _ prio (by omega) hp (by simp [upd, hmp]) ?_
          have := hne
          simp only [Store.prioAt, liftR_bind, bind_assoc, hi, he, liftR_ok, okC_bind, cmpHoleF_bind, hfz, ↓reduceIte,
            hlt, decide_true, heap_tick, qp_tick, hi', hh, hq, liftR_pure, pure_bind] at this
          simpa [upd] using this
        · simp only [hlt, decide_false, Bool.false_eq_true, ↓reduceIte, hp, map_pure]
    · simp only [hc, ↓reduceIte, decide_false, Bool.false_eq_true, toCR_pure, map_pure, St.setS, hmp, hp]

theorem bubbleUpMinLoopF_noFuel (fuse mp : Nat) (f : Nat) : ∀ (s : Store P) (pos : Nat) (prio : P), pos < f →
    NoFuelC (Crash.DQ.bubbleUpMinLoopF fuse mp f s pos prio) := by
  induction f with
  | zero => intro s pos prio h; omega
  | succ f ih =>
    intro s pos prio h
    rw [Crash.DQ.bubbleUpMinLoopF]
    refine NoFuelC.ite (fun hpos => ?_) (fun _ => NoFuelC.pure _)
    refine NoFuelC.bind (NoFuelC.liftR (NoFuel.prioAt _ _)) fun pp _ => ?_
    refine NoFuelC.cmpHoleF_bind _ _ _ _ _ _ _ _ _ fun r => ?_
    refine NoFuelC.ite (fun _ => ?_) (fun _ => NoFuelC.pure _)
    refine NoFuelC.bind (NoFuelC.liftR (NoFuel.getU _ _ _)) fun _ _ => NoFuelC.bind (NoFuelC.liftR (NoFuel.setU _ _ _ _))
      fun _ _ => NoFuelC.bind (NoFuelC.liftR (NoFuel.setU _ _ _ _)) fun _ _ => ?_
    refine ih _ _ _ ?_
    simp only [Arith.parent] at hpos ⊢
    omega

theorem bubbleUpMaxLoopF_noFuel (fuse mp : Nat) (f : Nat) : ∀ (s : Store P) (pos : Nat) (prio : P), pos < f →
    NoFuelC (Crash.DQ.bubbleUpMaxLoopF fuse mp f s pos prio) := by
  induction f with
  | zero => intro s pos prio h; omega
  | succ f ih =>
    intro s pos prio h
    rw [Crash.DQ.bubbleUpMaxLoopF]
    refine NoFuelC.ite (fun hpos => ?_) (fun _ => NoFuelC.pure _)
    refine NoFuelC.bind (NoFuelC.liftR (NoFuel.prioAt _ _)) fun pp _ => ?_
    refine NoFuelC.cmpHoleF_bind _ _ _ _ _ _ _ _ _ fun r => ?_
    refine NoFuelC.ite (fun _ => ?_) (fun _ => NoFuelC.pure _)
    refine NoFuelC.bind (NoFuelC.liftR (NoFuel.getU _ _ _)) fun _ _ => NoFuelC.bind (NoFuelC.liftR (NoFuel.setU _ _ _ _))
      fun _ _ => NoFuelC.bind (NoFuelC.liftR (NoFuel.setU _ _ _ _)) fun _ _ => ?_
    refine ih _ _ _ ?_
    simp only [Arith.parent] at hpos ⊢
    omega

/-- a call of a `&mut Hole` callee seen from its owner: the owner's guard fills the hole where the callee left it -/
def callCR (mp : Nat) : Except (CallStop P) (Store P × Val P) → CR P (Store P × Nat)
  | .ok (s', .nat p) => .ok (s', p)
  | .ok _ => .error (.fault stuck)
  | .error (.fault f) => .error (.fault f)
  | .error (.panic s' r) =>
    match fillHole s' r mp 316 317 with
    | .ok s'' => .error (.crashed s'')
    | .error f => .error (.fault f)

/-- a `&mut Hole` callee whose body is a loop followed by `return hole.position`, seen from the owner of the hole: what
the loop leaves, with the owner's guard run on a panic -/
theorem call_byRefF (f : FnId) (c : BExpr) (b : Stmt) (fuse mp pos : Nat) (s : Store P) (prio : P) (k : Nat)
    (y : CR P (Store P × Nat))
    (hf : prog f = some { nparams := [0, 1], pparams := [2], body := .seq (.while c b) (.retN (.var 0)) })
    (huw : (unwind f).1 = .skip)
    (hl : toCR (fillDQ mp) (fun st' => (st'.s, st'.n 0, st'.n 1, st'.p 2))
        (execF prog unwind fuse false (k + 1 + 1) (.while c b)
          { s := s, n := upd (upd (fun _ => 0) 1 mp) 0 pos, p := upd (fun _ => none) 2 (some prio), v := fun _ => none })
      = (fun r => ((r.1, r.2, mp, some prio), Flow.normal)) <$> y) :
    callCR mp (callWithF (execF prog unwind fuse false (k + 2)) (exec prog (k + 2)) prog unwind f s [pos, mp] [prio] [])
      = y := by
  unfold callWithF
  simp only [hf]
  rw [execF, esF_seq, execF_succ]
  simp only [bindN, bindP, bindV]
  cases hx : execF prog unwind fuse false (k + 1 + 1) (Stmt.while c b)
      { s := s, n := upd (upd (fun _ => 0) 1 mp) 0 pos, p := upd (fun _ => none) 2 (some prio), v := fun _ => none } with
  | ok r =>
    obtain ⟨st', fl⟩ := r
    rw [hx] at hl
    cases y with
    | error ey => simp [toCR, Functor.map, Except.map] at hl
    | ok yr =>
      simp only [toCR, Functor.map, Except.map, Except.ok.injEq, Prod.mk.injEq] at hl
      obtain ⟨⟨h1, h2, h3, h4⟩, h5⟩ := hl
      subst h5
      simp only [okF_bind, seqK_normal, esF_retN, exec_retN, evalN, liftF_bind, liftF_pure, pure_bind, h1, h2, callCR]
      show Except.ok (st'.s, yr.snd) = Except.ok yr
      rw [h1]
  | error er =>
    rw [hx] at hl
    cases er with
    | fault f =>
      cases y with
      | ok yr => simp [toCR, Functor.map, Except.map] at hl
      | error ey =>
        simp only [toCR, Functor.map, Except.map, Except.error.injEq] at hl
        subst hl
        rfl
    | panic stp =>
      simp only [toCR, fillDQ] at hl
      simp only [errorF_bind, huw, exec_skip, callCR]
      show (match fillHole stp.s (stp.n 0) mp 316 317 with
        | Except.ok s'' => Except.error (Stop.crashed s'')
        | Except.error f => Except.error (Stop.fault f)) = y
      cases hf : fillHole stp.s (stp.n 0) mp 316 317 with
      | ok s' =>
        rw [hf] at hl
        cases y with
        | ok yr => simp [Functor.map, Except.map] at hl
        | error ey =>
          simp only [Functor.map, Except.map, Except.error.injEq] at hl
          subst hl
          rfl
      | error f =>
        rw [hf] at hl
        cases y with
        | ok yr => simp [Functor.map, Except.map] at hl
        | error ey =>
          simp only [Functor.map, Except.map, Except.error.injEq] at hl
          subst hl
          rfl

/-- `bubble_up_min(map, hole, priority)` under panics, seen from the owner of the hole = `Crash.DQ.bubbleUpMinLoopF` -/
theorem call_dqBubbleUpMinF (fuse : Nat) (s : Store P) (pos mp : Nat) (prio : P) (n : Nat) (h : n ≥ pos + 2) :
    callCR mp (callWithF (execF prog unwind fuse false n) (exec prog n) prog unwind .dqBubbleUpMin s [pos, mp] [prio] [])
      = Crash.DQ.bubbleUpMinLoopF fuse mp (pos + 1) s pos prio := by
  obtain ⟨k, rfl⟩ := exists_eq_add 2 h (by decide)
  exact call_byRefF .dqBubbleUpMin _ _ fuse mp pos s prio k _ rfl rfl
    (dqBubbleUpMin_loopF fuse mp (pos + 1) (k + 1) _ prio (by omega) rfl rfl
      (bubbleUpMinLoopF_noFuel fuse mp (pos + 1) s pos prio (by omega)))

/-- `bubble_up_max(map, hole, priority)` under panics, seen from the owner of the hole = `Crash.DQ.bubbleUpMaxLoopF` -/
theorem call_dqBubbleUpMaxF (fuse : Nat) (s : Store P) (pos mp : Nat) (prio : P) (n : Nat) (h : n ≥ pos + 2) :
    callCR mp (callWithF (execF prog unwind fuse false n) (exec prog n) prog unwind .dqBubbleUpMax s [pos, mp] [prio] [])
      = Crash.DQ.bubbleUpMaxLoopF fuse mp (pos + 1) s pos prio := by
  obtain ⟨k, rfl⟩ := exists_eq_add 2 h (by decide)
  exact call_byRefF .dqBubbleUpMax _ _ fuse mp pos s prio k _ rfl rfl
    (dqBubbleUpMax_loopF fuse mp (pos + 1) (k + 1) _ prio (by omega) rfl rfl
      (bubbleUpMaxLoopF_noFuel fuse mp (pos + 1) s pos prio (by omega)))

/-! ## `DoublePriorityQueue::bubble_up` under panics -/

section
variable (fuse : Nat) (dropFuse : Bool) (plain : Stmt → St P → R (St P × Flow P)) (callf : CallF P)
  (recF : Stmt → St P → CF P (St P × Flow P)) (callfF : CallFF P) (byRef : FnId → Bool) (st : St P)
theorem esF_match2 (c1 c2 : BExpr) (tt tf ft ff : Stmt) :
    execStepF fuse dropFuse plain callf recF callfF byRef (.match2 c1 c2 tt tf ft ff) st =
      (evalBF fuse callf st c1 >>= fun r1 => evalBF fuse callf (st.setS r1.1) c2 >>= fun r2 =>
        match r1.2, r2.2 with
        | true, true => execStepF fuse dropFuse plain callf recF callfF byRef tt (st.setS r2.1)
        | true, false => execStepF fuse dropFuse plain callf recF callfF byRef tf (st.setS r2.1)
        | false, true => execStepF fuse dropFuse plain callf recF callfF byRef ft (st.setS r2.1)
        | false, false => execStepF fuse dropFuse plain callf recF callfF byRef ff (st.setS r2.1)) := rfl
end

def fillDQo (stp : St P) : R (Store P) := fillHole stp.s (stp.n 3) (stp.n 4) 316 317

theorem dq_unwind_eq (n : Nat) (stp : St P) :
    exec prog (n + 1) (unwind FnId.dqBubbleUp).1 stp
      = (fun s' => (({ stp with s := s' } : St P), Flow.normal)) <$> fillDQo stp := by
  simp only [unwind, dqBubbleUp_unwind, exec, es2, es15, es16, evalN, fillDQo, fillHole, St.setS, bind_assoc, pure_bind,
    map_eq_pure_bind, Function.comp]
  src_close

/-- the frame of `DoublePriorityQueue::bubble_up` seen from outside: result, fault, or the store after its guard has run -/
def frameDQ (x : CF P (St P × Flow P)) : CR P (Store P × Val P) :=
  match (match x with
      | .ok (st, fl) =>
        (match fl with
          | .ret v => (.ok (st.s, v) : Except (CallStop P) (Store P × Val P))
          | .normal => .ok (st.s, .unit)
          | .brk => .error (.fault stuck))
      | .error (.fault e) => .error (.fault e)
      | .error (.panic stp) =>
        (match (fun s' => (({ stp with s := s' } : St P), (Flow.normal : Flow P))) <$> fillDQo stp with
          | .ok (st2, _) => .error (.panic st2.s (st2.n ([0, 1].headD 0)))
          | .error e => .error (.fault e))) with
  | .ok r => .ok r
  | .error (.fault e) => .error (.fault e)
  | .error (.panic s' _) => .error (.crashed s')

theorem frameDQ_liftF_bind {α : Type} (x : R α) (k : α → CF P (St P × Flow P)) :
    frameDQ (liftF x >>= k) = liftR x >>= fun a => frameDQ (k a) := by
  cases x <;> rfl

theorem frameDQ_cmpAt_bind (fuse : Nat) (st : St P) (a b : P) (k : Store P × Bool → CF P (St P × Flow P)) :
    frameDQ (cmpAt fuse st a b >>= k) =
      if st.s.ticks + 1 = fuse then
        (match fillDQo st with
          | .ok s' => .error (.crashed s')
          | .error f => .error (.fault f))
      else frameDQ (k (st.s.tick, decide (a < b))) := by
  unfold cmpAt
  split
  · simp only [errorF_bind, frameDQ]
    cases fillDQo st <;> rfl
  · rfl

theorem frameDQ_ite (c : Prop) [Decidable c] (a b : CF P (St P × Flow P)) :
    frameDQ (if c then a else b) = if c then frameDQ a else frameDQ b := by split <;> rfl

theorem frameDQ_fromCall_bind (st0 : St P) (c : Except (CallStop P) (Store P × Val P))
    (k : Store P × Val P → CF P (St P × Flow P)) :
    frameDQ (fromCall st0 (some 3) c >>= k) =
      match c with
      | .ok r => frameDQ (k r)
      | .error (.fault f) => .error (.fault f)
      | .error (.panic s' r) =>
        (match fillHole s' r (st0.n 4) 316 317 with
          | .ok s'' => .error (.crashed s'')
          | .error f => .error (.fault f)) := by
  cases c with
  | ok r => rfl
  | error e =>
    cases e with
    | fault f => rfl
    | panic s' r =>
      simp only [fromCall, errorF_bind, frameDQ, fillDQo, St.setS, St.setN, upd, ↓reduceIte, Nat.reduceEqDiff]
      cases fillHole s' r (st0.n 4) 316 317 <;> rfl

theorem dqBubbleUpF (fuse : Nat) (s : Store P) (position mapPosition : Nat) (fuel : Nat) (h : fuel ≥ position + 3) :
    runF prog unwind fuse false fuel .dqBubbleUp s [position, mapPosition]
      = (fun r => (r.1, Val.nat r.2)) <$> Crash.DQ.bubbleUpF fuse s position mapPosition := by
  obtain ⟨k, rfl⟩ := exists_eq_add 2 h (by decide)
  unfold runF callWithF Crash.DQ.bubbleUpF
  simp only [prog, SrcGen.dqBubbleUp, dq_unwind_eq]
  rw [execF, dqBubbleUp_body]
  show frameDQ _ = _
  simp only [esF_seq, seqK_normal, seqK_brk, seqK_ret, esF_setN, esF_setP, esF_ite, esF_match2, esF_heapSetU, esF_qpSetU, esF_callN, esF_retN, esF_skip,
    exec_setN, exec_setP, exec_heapSetU, exec_qpSetU, exec_retN, exec_skip, evalN, evalNs, evalP, evalPs, evalB, evalBF,
    bindN, bindP, bindV, upd, St.setS, St.setN, St.setP, ↓reduceIte, Nat.reduceEqDiff, pure_bind, bind_assoc, liftF_bind,
    liftF_pure, liftF_ite, liftF_error, iteF_bind, errorF_bind, unwind_dqBubbleUpMin_byRef, unwind_dqBubbleUpMax_byRef]
  simp only [frameDQ_liftF_bind, map_bind]
  refine liftR_bind_congr_ok fun e he => ?_
  have hmap : s.map.getIndex mapPosition = some e := (unwrapO_ok_iff _ _ _).mp he
  by_cases hpos : position > 0
  · have h0 : ¬ position = 0 := by omega
    simp only [hpos, h0, decide_true, ↓reduceIte, frameDQ_liftF_bind, frameDQ_cmpAt_bind, Store.prioAt, liftR_bind,
      bind_assoc, map_bind, cmpHoleF_bind, iteC_bind, fillDQo, upd, Nat.reduceEqDiff, liftR_pure, pure_bind]
    refine liftR_bind_congr_ok fun i hi => liftR_bind_congr_ok fun pe hpe => ?_
    have hi' : getU s.heap (Arith.parent position) 311 = .ok i := by
      rw [getU_ok_iff] at hi ⊢; exact hi
    simp only [hi', liftR_ok, okC_bind]
    by_cases hfz : s.ticks + 1 = fuse
    · simp only [hfz, ↓reduceIte]
      cases fillHole s position mapPosition 316 317 <;> rfl
    · simp only [hfz, ↓reduceIte]
      have hmap' : (s.tick 1).map.getIndex mapPosition = some e := hmap
      cases hb1 : decide (Arith.level position % 2 = 0) <;> cases hb2 : decide (pe.2 < e.2) <;> simp only []
      case' false.false => -- (false, false): crossing, then the min loop
        simp only [frameDQ_liftF_bind, bind_assoc, DQ.bubbleUpMinF, hmap', unwrapO_some, liftR_ok, okC_bind, map_bind]
        refine liftR_bind_congr_ok fun hp _ => liftR_bind_congr_ok fun qp _ => ?_
        rw [frameDQ_fromCall_bind]
        have hc := call_dqBubbleUpMinF fuse { map := s.tick.map, heap := hp, qp := qp, size := s.tick.size, ticks := s.tick.ticks } (Arith.parent position) mapPosition e.2 (k + 1) (by simp only [Arith.parent]; omega)
        generalize callWithF (execF prog SrcGen.unwind fuse false (k + 1)) (exec prog (k + 1)) prog SrcGen.unwind
          FnId.dqBubbleUpMin { map := s.tick.map, heap := hp, qp := qp, size := s.tick.size, ticks := s.tick.ticks } [Arith.parent position, mapPosition] [e.snd] [] = cc at hc ⊢
        rw [← hc]
      case' false.true => -- (false, true): the max loop from the original position
        simp only [frameDQ_liftF_bind, bind_assoc, DQ.bubbleUpMaxF, hmap', unwrapO_some, liftR_ok, okC_bind, map_bind]
        rw [frameDQ_fromCall_bind]
        have hc := call_dqBubbleUpMaxF fuse s.tick position mapPosition e.2 (k + 1) (by omega)
        generalize callWithF (execF prog SrcGen.unwind fuse false (k + 1)) (exec prog (k + 1)) prog SrcGen.unwind
          FnId.dqBubbleUpMax s.tick [position, mapPosition] [e.snd] [] = cc at hc ⊢
        rw [← hc]
      case' true.false => -- (true, false): the min loop from the original position
        simp only [frameDQ_liftF_bind, bind_assoc, DQ.bubbleUpMinF, hmap', unwrapO_some, liftR_ok, okC_bind, map_bind]
        rw [frameDQ_fromCall_bind]
        have hc := call_dqBubbleUpMinF fuse s.tick position mapPosition e.2 (k + 1) (by omega)
        generalize callWithF (execF prog SrcGen.unwind fuse false (k + 1)) (exec prog (k + 1)) prog SrcGen.unwind
          FnId.dqBubbleUpMin s.tick [position, mapPosition] [e.snd] [] = cc at hc ⊢
        rw [← hc]
      case' true.true => -- (true, true): crossing, then the max loop
        simp only [frameDQ_liftF_bind, bind_assoc, DQ.bubbleUpMaxF, hmap', unwrapO_some, liftR_ok, okC_bind, map_bind]
        refine liftR_bind_congr_ok fun hp _ => liftR_bind_congr_ok fun qp _ => ?_
        rw [frameDQ_fromCall_bind]
        have hc := call_dqBubbleUpMaxF fuse { map := s.tick.map, heap := hp, qp := qp, size := s.tick.size, ticks := s.tick.ticks } (Arith.parent position) mapPosition e.2 (k + 1) (by simp only [Arith.parent]; omega)
        generalize callWithF (execF prog SrcGen.unwind fuse false (k + 1)) (exec prog (k + 1)) prog SrcGen.unwind
          FnId.dqBubbleUpMax { map := s.tick.map, heap := hp, qp := qp, size := s.tick.size, ticks := s.tick.ticks } [Arith.parent position, mapPosition] [e.snd] [] = cc at hc ⊢
        rw [← hc]
      -- in each case the callee has run: its result goes through the guard's two writes, its panic through the guard
      all_goals
        cases cc with
        | ok r =>
          obtain ⟨s2, v⟩ := r
          cases v with
          | nat pfin =>
            simp only [callCR, okC_bind, pure_bind, okF_bind, seqK_normal, seqK_ret, esF_seq, esF_setN, esF_heapSetU,
              esF_qpSetU, esF_retN, exec_setN, exec_heapSetU, exec_qpSetU, exec_retN, evalN, upd, St.setS, St.setN,
              ↓reduceIte, Nat.reduceEqDiff, frameDQ_liftF_bind, liftF_bind, liftF_pure, bind_assoc]
            refine liftR_bind_congr_ok fun hp2 _ => liftR_bind_congr_ok fun qp2 _ => ?_
            rfl
          | _ => rfl
        | error ce =>
          cases ce with
          | fault f => rfl
          | panic s2 r2 =>
            simp only [callCR, upd, ↓reduceIte, Nat.reduceEqDiff]
            cases fillHole s2 r2 mapPosition 316 317 <;> rfl
  · simp only [hpos, decide_false, Bool.false_eq_true, ↓reduceIte, pure_bind, liftF_pure, seqK_normal, seqK_ret, esF_seq,
      esF_setN, esF_heapSetU, esF_qpSetU, esF_retN, exec_setN, exec_heapSetU, exec_qpSetU, exec_retN, evalN, St.setS,
      St.setN, liftF_bind, frameDQ_liftF_bind, bind_assoc, liftR_pure, upd, Nat.reduceEqDiff, map_bind]
    refine liftR_bind_congr_ok fun hp2 _ => liftR_bind_congr_ok fun qp2 _ => ?_
    rfl

end PQ.SrcEquivF
