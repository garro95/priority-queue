import PQ.Props.C03
import PQ.Lemmas.History
import PQ.Lemmas.SortedWF
/-!
# The frame of the `pop_if` family when the predicate REFUSES (names carry the prefix `fpi_`)

`C03_frame_pop` says what is untouched when a pop returns a pair.  When `pop_if` / `pop_min_if` / `pop_max_if` return
`None` there are two very different reasons: the queue was empty (the predicate was not consulted), or the predicate was
shown an entry and said no — and a predicate receives `&mut I, &mut P`, so it may have REWRITTEN that entry (which is then
put back and the heap repaired).  This file states the frame for that case, from well-formedness alone (no order hypothesis:
it also covers the time after a leaked `iter_mut` guard or a caught panic):

* either the queue was empty and the very same queue is returned,
* or exactly one stored entry `e` — the one shown to `f`, which `f` refused — now holds what `f` made of it
  (`(f e.1 e.2).2`, same key), every other key's entry is exactly as it was, and `len` is unchanged.

`fpi_refused_front_is_peek` / `fpi_refused_back_is_peek` add that the entry shown is the one the corresponding peek reports.
(For every operation, conditional pops included, `C03_frame_step` of `Props/C03_frame.lean` gives the "other keys unchanged"
half through the entry `C03_shown` that a conditional pop shows its predicate; the statements here add the size, the kind and
what becomes of the entry shown.)
-/
set_option linter.unusedSectionVars false
namespace PQ
open Store
variable {P : Type} [LT P] [DecidableLT P] [LE P] [Std.IsLinearPreorder P] [Std.LawfulOrderLT P]

/-- what a refused conditional pop leaves behind: the same queue if it was empty; otherwise exactly one stored entry `e`,
refused by `f`, is replaced by what `f` made of it (same key), and nothing else changes -/
def fpi_Refused (f : Item → P → Bool × Item × P) (q q' : Q P) : Prop :=
  (q.s.size = 0 ∧ (∀ k, q.s.abs k = none) ∧ q' = q) ∨
  ∃ e, q.s.abs e.1.key = some e ∧ (f e.1 e.2).1 = false ∧
    q'.s.abs e.1.key = some ((f e.1 e.2).2.1, (f e.1 e.2).2.2) ∧ (f e.1 e.2).2.1.key = e.1.key ∧
    (∀ k, k ≠ e.1.key → q'.s.abs k = q.s.abs k) ∧ q'.s.size = q.s.size ∧ q'.kind = q.kind

/-- rewriting the entry of a present key keeps the number of stored items -/
theorem fpi_absCard_absSet {a : AbsQ P} {n k : Nat} {e e' : Item × P} (h : cont_absCard a n) (hk : a k = some e) :
    cont_absCard (absSet a k e') n := by
  obtain ⟨l, hnd, hlen, hm⟩ := h
  refine ⟨l, hnd, hlen, fun k' => ?_⟩
  rw [hm k']
  unfold absSet
  by_cases hkk : k' = k
  · subst hkk; simp [hk]
  · simp [hkk]

/-- the core: the specification clause of a conditional pop that answered `None` -/
theorem fpi_of_spec {q q' : Q P} {f : Item → P → Bool × Item × P} (hq : q.s.WF) (hq' : q'.s.WF)
    (hf : ∀ it p, (f it p).2.1.key = it.key) (hkind : q'.kind = q.kind)
    (hempty : q.s.size = 0 → q' = q) (hspec : specPopIf f q.s.abs (.entry none) q'.s.abs) : fpi_Refused f q q' := by
  rcases hspec with ⟨hall, _, habs⟩ | ⟨e, hae, ⟨_, ho, _⟩ | ⟨hfl, _, habs⟩⟩
  · have hz : q.s.size = 0 := by
      have := (C03_is_empty hq).2 hall
      simpa [Store.isEmpty] using this
    exact Or.inl ⟨hz, hall, hempty hz⟩
  · cases ho
  · refine Or.inr ⟨e, hae, hfl, ?_, hf _ _, fun k hk => ?_, ?_, hkind⟩
    · rw [habs]; exact cont_absSet_self
    · rw [habs]; exact cont_absSet_ne hk
    · have h1 := cont_absCard_of_WF hq'
      rw [habs] at h1
      exact cont_absCard_unique h1 (fpi_absCard_absSet (cont_absCard_of_WF hq) hae)

/-- **`pop_if` (PriorityQueue) / `pop_min_if` (DoublePriorityQueue) answered `None`**: on any well-formed queue, with a
predicate that keeps the item's identity, either the queue was empty and is returned as it was, or exactly one stored
entry — the one shown to `f`, which `f` refused — now holds what `f` made of it, every other key's entry is unchanged and
the length is the same -/
theorem fpi_refused_front {q q' : Q P} {f : Item → P → Bool × Item × P} (hq : QWF q)
    (hf : ∀ it p, (f it p).2.1.key = it.key) (hs : step q (.popFrontIf f) = .ok (q', .entry none)) :
    fpi_Refused f q q' := by
  obtain ⟨hwf', hkind, hspec⟩ := cont_step_refines (op := .popFrontIf f) hq hf hs
  refine fpi_of_spec hq hwf' hf hkind (fun hz => ?_) hspec
  obtain ⟨kind, s⟩ := q
  cases kind with
  | pq =>
    cases (bind_of_ok (MaxQ.popIf_zero f hz) _).symm.trans hs
    rfl
  | dpq =>
    cases (bind_of_ok ((DQ.popMinIf_core hq f hf).1 hz) _).symm.trans hs
    rfl

/-- **`pop_max_if` answered `None`** (only a `DoublePriorityQueue` has it: on a `PriorityQueue` the model's `popBackIf`
answers `.unit`, never `.entry none`, so no hypothesis on the kind is needed): the same frame -/
theorem fpi_refused_back {q q' : Q P} {f : Item → P → Bool × Item × P} (hq : QWF q)
    (hf : ∀ it p, (f it p).2.1.key = it.key) (hs : step q (.popBackIf f) = .ok (q', .entry none)) :
    q.kind = .dpq ∧ fpi_Refused f q q' := by
  obtain ⟨hwf', hkind, hspec⟩ := cont_step_refines (op := .popBackIf f) hq hf hs
  obtain ⟨kind, s⟩ := q
  obtain rfl : kind = .dpq := cont_back_entry_dpq (.inr (.inl ⟨f, rfl⟩)) hs
  refine ⟨rfl, fpi_of_spec hq hwf' hf hkind (fun hz => ?_) hspec⟩
  cases (bind_of_ok ((DQ.popMaxIf_core hq f hf).1 hz) _).symm.trans hs
  rfl

/-- both ends at once, in the shape of `C03_frame_pop` -/
theorem fpi_frame_refused {q q' : Q P} {op : Op P} {f : Item → P → Bool × Item × P} (hq : QWF q) (hl : op.Legal)
    (hop : op = .popFrontIf f ∨ op = .popBackIf f) (hs : step q op = .ok (q', .entry none)) : fpi_Refused f q q' := by
  rcases hop with rfl | rfl
  · exact fpi_refused_front hq hl hs
  · exact (fpi_refused_back hq hl hs).2

/-- what `fpi_Refused` gives for a key that is not the one shown to the predicate: nothing at all changed for it, whether
the queue was empty or not — in particular a refused conditional pop never loses, duplicates or alters another element -/
theorem fpi_Refused.other {f : Item → P → Bool × Item × P} {q q' : Q P} (h : fpi_Refused f q q') :
    q'.s.size = q.s.size ∧ ∃ shown : Option Nat, ∀ k, some k ≠ shown → q'.s.abs k = q.s.abs k := by
  rcases h with ⟨_, _, rfl⟩ | ⟨e, _, _, _, _, hfr, hsz, _⟩
  · exact ⟨rfl, none, fun _ _ => rfl⟩
  · exact ⟨hsz, some e.1.key, fun k hk => hfr k (fun hke => hk (by rw [hke]))⟩

/-- **the entry shown is the one `peek` / `peek_min` reports**: when `pop_if` / `pop_min_if` on a non-empty well-formed
queue answers `None`, the entry that now holds `f`'s rewrite is the one the peek reported just before -/
theorem fpi_refused_front_is_peek {q q' : Q P} {f : Item → P → Bool × Item × P} (hq : QWF q)
    (hf : ∀ it p, (f it p).2.1.key = it.key) (hs : step q (.popFrontIf f) = .ok (q', .entry none)) (hn : 0 < q.s.size) :
    ∃ e, (match q.kind with | .pq => MaxQ.peek q.s = some e | .dpq => DQ.peekMin q.s = .ok (some e)) ∧
      q.s.abs e.1.key = some e ∧ (f e.1 e.2).1 = false ∧
      q'.s.abs = absSet q.s.abs e.1.key ((f e.1 e.2).2.1, (f e.1 e.2).2.2) ∧ q'.s.size = q.s.size := by
  obtain ⟨kind, s⟩ := q
  cases kind with
  | pq =>
    obtain ⟨e, hpk, ht, hfl⟩ := (MaxQ.popIf_safe hq f hf).2 hn
    have hmem := cont_peek_stored hq hpk
    cases hr : (f e.1 e.2).1 with
    | true =>
      obtain ⟨s', hp, _⟩ := ht hr
      cases (bind_of_ok hp _).symm.trans hs
    | false =>
      obtain ⟨s', hp, _, habs, hsz⟩ := hfl hr
      cases (bind_of_ok hp _).symm.trans hs
      exact ⟨e, hpk, hmem, hr, habs, hsz⟩
  | dpq =>
    obtain ⟨e, hpk, hmem, _, ht, hfl⟩ := (DQ.popMinIf_core hq f hf).2 hn
    cases hr : (f e.1 e.2).1 with
    | true =>
      obtain ⟨s', hp, _⟩ := ht hr
      cases (bind_of_ok hp _).symm.trans hs
    | false =>
      obtain ⟨s', hp, _, habs, hsz, _⟩ := hfl hr
      cases (bind_of_ok hp _).symm.trans hs
      exact ⟨e, hpk, hmem, hr, habs, hsz⟩

/-- … and for `pop_max_if` it is the one `peek_max` reports -/
theorem fpi_refused_back_is_peek {q q' : Q P} {f : Item → P → Bool × Item × P} (hq : QWF q)
    (hf : ∀ it p, (f it p).2.1.key = it.key) (hs : step q (.popBackIf f) = .ok (q', .entry none)) (hn : 0 < q.s.size) :
    ∃ k e, DQ.peekMax q.s = .ok (q.s.tick k, some e) ∧ k ≤ 1 ∧
      q.s.abs e.1.key = some e ∧ (f e.1 e.2).1 = false ∧
      q'.s.abs = absSet q.s.abs e.1.key ((f e.1 e.2).2.1, (f e.1 e.2).2.2) ∧ q'.s.size = q.s.size := by
  obtain ⟨kind, s⟩ := q
  obtain rfl : kind = .dpq := cont_back_entry_dpq (.inr (.inl ⟨f, rfl⟩)) hs
  obtain ⟨k, e, hpk, hk, hmem, _, ht, hfl⟩ := (DQ.popMaxIf_core hq f hf).2 hn
  cases hr : (f e.1 e.2).1 with
  | true =>
    obtain ⟨s', hp, _⟩ := ht hr
    cases (bind_of_ok hp _).symm.trans hs
  | false =>
    obtain ⟨s', hp, _, habs, hsz, _⟩ := hfl hr
    cases (bind_of_ok hp _).symm.trans hs
    exact ⟨k, e, hpk, hk, hmem, hr, habs, hsz⟩

/-! ## Non-vacuity: refusing predicates that rewrite what they are shown, on concrete queues of both kinds -/
section Examples

/-- refuses everything and marks what it saw: payload 99, priority raised by 100 -/
private def fNo : Item → Nat → Bool × Item × Nat := fun it p => (false, ⟨it.key, 99⟩, p + 100)

example : ∀ it p, (fNo it p).2.1.key = it.key := fun _ _ => rfl
example : QWF (⟨.pq, cont_ex5⟩ : Q Nat) ∧ QWF (⟨.dpq, cont_exD⟩ : Q Nat) ∧ QWF (⟨.dpq, swf_exU⟩ : Q Nat) :=
  ⟨(by decide +kernel : cont_ex5.WF), (by decide +kernel : cont_exD.WF), swf_exU_wf⟩

/-- `pop_if` on the max-heap `cont_ex5`: `None`; the maximum (key 2, priority 9) now reads `(⟨2, 99⟩, 109)`, the other
four entries are untouched, the length is still 5 -/
example : cont_okR (step ⟨.pq, cont_ex5⟩ (.popFrontIf fNo)) (fun r => cont_outEntry r.2 = some none ∧
    r.1.s.size = 5 ∧ r.1.s.abs 2 = some (⟨2, 99⟩, 109) ∧
    (∀ k, k < 8 → k ≠ 2 → r.1.s.abs k = cont_ex5.abs k)) := by decide +kernel

/-- `pop_min_if` / `pop_max_if` on the min-max heap `cont_exD`: the minimum (key 4), respectively the maximum (key 2), is
rewritten in place; nothing else changes -/
example : cont_okR (step ⟨.dpq, cont_exD⟩ (.popFrontIf fNo)) (fun r => cont_outEntry r.2 = some none ∧
    r.1.s.size = 5 ∧ r.1.s.abs 4 = some (⟨4, 99⟩, 101) ∧
    (∀ k, k < 8 → k ≠ 4 → r.1.s.abs k = cont_exD.abs k)) := by decide +kernel
example : cont_okR (step ⟨.dpq, cont_exD⟩ (.popBackIf fNo)) (fun r => cont_outEntry r.2 = some none ∧
    r.1.s.size = 5 ∧ r.1.s.abs 2 = some (⟨2, 99⟩, 109) ∧
    (∀ k, k < 8 → k ≠ 2 → r.1.s.abs k = cont_exD.abs k)) := by decide +kernel

/-- no order is needed: on `swf_exU` (well-formed, ordered neither as a max-heap nor as a min-max heap) the entry at the
root (key 1) is shown, refused and rewritten; nothing else changes -/
example : cont_okR (step ⟨.dpq, swf_exU⟩ (.popFrontIf fNo)) (fun r => cont_outEntry r.2 = some none ∧
    r.1.s.size = 5 ∧ r.1.s.abs 1 = some (⟨1, 99⟩, 103) ∧
    (∀ k, k < 8 → k ≠ 1 → r.1.s.abs k = swf_exU.abs k)) := by decide +kernel

/-- the empty queue: `None` and the very same queue, the predicate is not consulted -/
example : cont_okR (step (Q.new .dpq : Q Nat) (.popBackIf fNo)) (fun r => cont_outEntry r.2 = some none ∧
    r.1.s.size = 0 ∧ r.1.s.map = #[]) := by decide +kernel

end Examples

end PQ

#print axioms PQ.fpi_refused_front
#print axioms PQ.fpi_refused_back
#print axioms PQ.fpi_frame_refused
#print axioms PQ.fpi_Refused.other
#print axioms PQ.fpi_refused_front_is_peek
#print axioms PQ.fpi_refused_back_is_peek
