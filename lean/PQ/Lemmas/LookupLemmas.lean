import PQ.Lemmas.IMapLemmas
/-!
# A hash-indexed lookup finds the slot the hasher-free model finds — for every hasher (helper lemmas for C18)

`IndexMap` keeps its entries in a vector and, next to it, a hash table of slot indices.  A lookup hashes the key with the
queue's `BuildHasher`, probes the slots filed under that hash value and compares keys with `Eq`.  Abstractly: an index is a
hash function `hash : key → hash value` (the hasher: arbitrary, also constant) and, for every hash value, the list of slots
filed under it (`bucket`; the order inside a bucket is the probe order, also arbitrary).  `Valid` says the table files
exactly the stored slots, each under the hash of its key — IndexMap's own invariant, trusted.  The model (`IMap.find?`) is a
linear search by key.  Under unique keys the two agree, whatever `hash` and whatever the bucket order.
-/
namespace PQ
variable {P : Type}

structure HIndex where
  /-- the hasher: key ↦ hash value -/
  hash : Nat → Nat
  /-- the table: hash value ↦ slots filed under it, in probe order -/
  bucket : Nat → List Nat

namespace HIndex

/-- the table files exactly the stored slots, each under the hash of its key -/
def Valid (ix : HIndex) (m : IMap P) : Prop :=
  (∀ (i : Nat) (e : Item × P), m[i]? = some e → i ∈ ix.bucket (ix.hash e.1.key)) ∧
  (∀ (h i : Nat), i ∈ ix.bucket h → ∃ e : Item × P, m[i]? = some e ∧ ix.hash e.1.key = h)

/-- lookup through the index: probe the bucket of the key's hash, compare keys -/
def find? (ix : HIndex) (m : IMap P) (k : Nat) : Option Nat :=
  (ix.bucket (ix.hash k)).find? fun i =>
    match m[i]? with
    | some e => e.1.key == k
    | none => false

def ofHash (hash : Nat → Nat) (m : IMap P) : HIndex where
  hash := hash
  bucket := fun h => (List.range m.size).filter fun i =>
    match m[i]? with
    | some e => hash e.1.key == h
    | none => false

theorem ofHash_valid (hash : Nat → Nat) (m : IMap P) : (ofHash hash m).Valid m := by
  constructor
  · intro i e he
    obtain ⟨hi, rfl⟩ := Array.getElem?_eq_some_iff.1 he
    simp [ofHash, List.mem_filter, hi]
  · intro h i hi
    simp only [ofHash, List.mem_filter, List.mem_range] at hi
    obtain ⟨hlt, hm⟩ := hi
    cases he : m[i]? with
    | none => simp [he] at hm
    | some e => exact ⟨e, rfl, by simpa [he, ofHash] using hm⟩

/-- **any hasher, any probe order**: a valid index finds exactly the slot the model's linear search finds -/
theorem find?_eq_model {ix : HIndex} {m : IMap P} (hm : m.NoDupKeys) (hv : ix.Valid m) (k : Nat) :
    ix.find? m k = IMap.find? m k := by
  cases hf : IMap.find? m k with
  | none =>
    rw [IMap.find?_eq_none_iff] at hf
    unfold find?
    rw [List.find?_eq_none]
    intro i hi
    obtain ⟨e, he, _⟩ := hv.2 _ i hi
    have := hf i e he
    simp [he, this]
  | some i =>
    obtain ⟨e, he, hk⟩ := (IMap.find?_eq_some_iff_of_noDup hm).1 hf
    have hmem : i ∈ ix.bucket (ix.hash k) := hk ▸ hv.1 i e he
    unfold find?
    -- the first slot of the bucket that passes the key comparison is `i`, because no other slot holds key `k`
    cases hg : (ix.bucket (ix.hash k)).find? (fun i => match m[i]? with | some e => e.1.key == k | none => false) with
    | none =>
      rw [List.find?_eq_none] at hg
      have := hg i hmem
      simp [he, hk] at this
    | some j =>
      have hj := List.find?_some hg
      cases hej : m[j]? with
      | none => simp [hej] at hj
      | some e' =>
        have hk' : e'.1.key = k := by simpa [hej] using hj
        have : i = j := hm i j e e' he hej (hk.trans hk'.symm)
        rw [this]

theorem find?_hasher_independent {ix₁ ix₂ : HIndex} {m : IMap P} (hm : m.NoDupKeys)
    (h₁ : ix₁.Valid m) (h₂ : ix₂.Valid m) (k : Nat) : ix₁.find? m k = ix₂.find? m k := by
  rw [find?_eq_model hm h₁, find?_eq_model hm h₂]

end HIndex
end PQ
