import PQ.Lemmas.CrashLemmas
import PQ.Model.CrashCb
/-!
# Crash points inside user callbacks (`PQ/Model/CrashCb.lean`): every crash state is well-formed

* `cbw_cases` — every way `stepCbW` can end, read off its definition once; the results below are its corollaries;
* `cb_not_fires`, `cb_stepCb_zero`, `cb_stepCb_ok` — when the fuse does not fire, `stepCb` is the plain `step`;
* `cb_crashedNew_only_ctor` — `crashedNew` is reported by `from_iter` only;
* `cbw_crash_state_wf` / `cb_crash_state_wf` — **every crash state is well-formed**, also when the panicking setter /
  predicate has first stored an arbitrary priority through its `&mut P` (`stepCbW`);
* `cb_no_model_fault` — the operation with a panicking callback performs no faulty access of its own.

Everything is stated for the write-then-panic generalisation `stepCbW k w` and specialised to `stepCb k = stepCbW k none`.
-/
set_option linter.unusedSectionVars false
namespace PQ
open PQ.Crash PQ.Arith
variable {P : Type} [LT P] [DecidableLT P]

theorem cb_liftStep_ok {q : Q P} {op : Op P} {r : Q P × Out P} (h : liftStep q op = .ok r) : step q op = .ok r := by
  unfold liftStep at h
  cases hs : step q op with
  | ok x => rw [hs] at h; cases h; rfl
  | error f => rw [hs] at h; cases h

theorem cb_liftStep_of_ok {q : Q P} {op : Op P} {r : Q P × Out P} (h : step q op = .ok r) : liftStep q op = .ok r := by
  unfold liftStep; rw [h]

theorem cb_liftStep_crashed {q q' : Q P} {op : Op P} : liftStep q op ≠ .error (.crashed q') := by
  unfold liftStep; cases step q op <;> intro h <;> cases h

theorem cb_liftStep_crashedNew {q : Q P} {op : Op P} : liftStep q op ≠ .error .crashedNew := by
  unfold liftStep; cases step q op <;> intro h <;> cases h

/-- `find_max` writes nothing but the ghost counter (no hypothesis on the store) -/
theorem cb_findMax_frame {s s' : Store P} {r : Option Nat} (h : DQ.findMax s = .ok (s', r)) :
    ∃ n, n ≤ 1 ∧ s' = s.tick n ∧ (r = none ↔ s.size = 0) := by
  unfold DQ.findMax at h
  split at h
  · rename_i h0; cases h; exact ⟨0, by omega, rfl, by simp [h0]⟩
  · rename_i h0; cases h; exact ⟨0, by omega, rfl, by simp [h0]⟩
  · rename_i h0; cases h; exact ⟨0, by omega, rfl, by simp [h0]⟩
  · rename_i h0 h1 h2
    cases hp1 : s.prioAt 1 with
    | error f => rw [hp1] at h; cases h
    | ok p1 =>
      cases hp2 : s.prioAt 2 with
      | error f => rw [hp1, hp2] at h; cases h
      | ok p2 =>
        rw [hp1, hp2] at h; cases h
        exact ⟨1, by omega, rfl, by simp; exact h0⟩

section
variable [LE P] [Std.IsLinearPreorder P] [Std.LawfulOrderLT P]
@[simp] theorem cb_writeSlot_none (s : Store P) (i : Nat) : cbWriteSlot s i none = s := rfl
end

omit [LT P] [DecidableLT P] in
@[simp] theorem cb_writePos_none (s : Store P) (pos : Nat) : cbWritePos s pos none = s := by
  unfold cbWritePos; split <;> rfl

omit [LT P] [DecidableLT P] in
@[simp] theorem cb_writeKey_none (s : Store P) (key : Nat) : cbWriteKey s key none = s := by
  unfold cbWriteKey; split <;> rfl

omit [LT P] [DecidableLT P] in
/-- overwriting a priority in place keeps the store well-formed (it does not keep it ordered) -/
theorem cb_writeSlot_wf {s : Store P} (h : s.WF) (i : Nat) (w : Option P) : (cbWriteSlot s i w).WF := by
  cases w with
  | none => exact h
  | some p => exact Store.wf_of_map_update h (IMap.size_setPrio _ _ _) (h.nodup.setPrio i p)

omit [LT P] [DecidableLT P] in
theorem cb_writePos_wf {s : Store P} (h : s.WF) (pos : Nat) (w : Option P) : (cbWritePos s pos w).WF := by
  unfold cbWritePos; split
  · exact cb_writeSlot_wf h _ w
  · exact h

omit [LT P] [DecidableLT P] in
theorem cb_writeKey_wf {s : Store P} (h : s.WF) (key : Nat) (w : Option P) : (cbWriteKey s key w).WF := by
  unfold cbWriteKey; split
  · exact cb_writeSlot_wf h _ w
  · exact h

/-! ## the outcomes of `stepCbW` -/

/-- `stepCbW` on `extend`, unfolded -/
theorem cb_stepCb_extend (k : Nat) (w : Option P) (q : Q P) (lo : Nat) (xs : Array (Item × P)) :
    stepCbW k w q (.extend lo xs) =
      if lo < capLimit ∧ 1 ≤ k ∧ k ≤ xs.size + 1 then
        if (if lo ≠ 0 then betterToRebuild q.s.size lo else false) = true then
          .error (.crashed { q with s := q.s.extend (xs.extract 0 (k - 1)) })
        else
          match pushAllK q.kind (xs.extract 0 (k - 1)).toList q.s with
          | .ok s => .error (.crashed { q with s := s })
          | .error f => .error (.fault f)
      else liftStep q (.extend lo xs) := rfl

/-- with the fuse off (`k = 0`) `stepCb` IS the plain operation — for every queue and every operation -/
theorem cbw_stepCb_zero (w : Option P) (q : Q P) (op : Op P) : stepCbW 0 w q op = liftStep q op := by
  cases op <;> simp [stepCbW]

theorem cb_stepCb_zero (q : Q P) (op : Op P) : stepCb 0 q op = liftStep q op := cbw_stepCb_zero none q op

/-- **Every way `stepCbW` can end** (no hypothesis): it is the plain operation; or it reports a fault of the `find_max` or
the pushes it ran on the way; or it crashed into the store with the written priority, the store extended by the prefix of
the source, or the store after the pushes of that prefix; or it is `from_iter` dropping the fresh queue. -/
theorem cbw_cases (k : Nat) (w : Option P) (q : Q P) (op : Op P) :
    stepCbW k w q op = liftStep q op ∨
    (∃ f, stepCbW k w q op = .error (.fault f) ∧
      (DQ.findMax q.s = .error f ∨ ∃ l, pushAllK q.kind l q.s = .error f)) ∨
    (∃ s', stepCbW k w q op = .error (.crashed { q with s := s' }) ∧
      ((∃ key, s' = cbWriteKey q.s key w) ∨ (∃ pos, s' = cbWritePos q.s pos w) ∨
        (∃ s1 r pos, DQ.findMax q.s = .ok (s1, r) ∧ s' = cbWritePos s1 pos w) ∨
        (∃ pre, s' = q.s.extend pre) ∨ ∃ l, pushAllK q.kind l q.s = .ok s')) ∨
    (stepCbW k w q op = .error .crashedNew ∧ ∃ lo xs, op = .fromIter lo xs) := by
  obtain ⟨kind, s⟩ := q
  cases op with
  | changePriorityBy key g =>
    simp only [stepCbW]
    split
    · exact .inr (.inr (.inl ⟨_, rfl, .inl ⟨key, rfl⟩⟩))
    · exact .inl rfl
  | popFrontIf f =>
    simp only [stepCbW]
    split
    · cases kind <;> dsimp only <;> split
      · exact .inl rfl
      · exact .inr (.inr (.inl ⟨_, rfl, .inr (.inl ⟨0, rfl⟩)⟩))
      · exact .inl rfl
      · exact .inr (.inr (.inl ⟨_, rfl, .inr (.inl ⟨_, rfl⟩)⟩))
    · exact .inl rfl
  | popBackIf f =>
    simp only [stepCbW]
    split
    · cases kind <;> dsimp only
      · exact .inl rfl
      · split
        · exact .inr (.inl ⟨_, rfl, .inl ‹_›⟩)
        · exact .inl rfl
        · exact .inr (.inr (.inl ⟨_, rfl, .inr (.inr (.inl ⟨_, _, _, ‹_›, rfl⟩))⟩))
    · exact .inl rfl
  | extend lo xs =>
    rw [cb_stepCb_extend]
    split
    · generalize (if lo ≠ 0 then betterToRebuild _ lo else false) = b
      cases b
      · simp only [Bool.false_eq_true, if_false]
        split
        · exact .inr (.inr (.inl ⟨_, rfl, .inr (.inr (.inr (.inr ⟨_, ‹_›⟩)))⟩))
        · exact .inr (.inl ⟨_, rfl, .inr ⟨_, ‹_›⟩⟩)
      · exact .inr (.inr (.inl ⟨_, rfl, .inr (.inr (.inr (.inl ⟨_, rfl⟩)))⟩))
    · exact .inl rfl
  | fromIter lo xs =>
    simp only [stepCbW]
    split
    · exact .inr (.inr (.inr ⟨rfl, lo, xs, rfl⟩))
    · exact .inl rfl
  | _ => exact .inl rfl

/-- a normal return of `stepCb` is the return of the plain `step` (no hypothesis) -/
theorem cbw_stepCb_ok {k : Nat} {w : Option P} {q : Q P} {op : Op P} {r : Q P × Out P}
    (h : stepCbW k w q op = .ok r) : step q op = .ok r := by
  rcases cbw_cases k w q op with e | ⟨_, e, _⟩ | ⟨_, e, _⟩ | ⟨e, _⟩ <;> rw [e] at h
  · exact cb_liftStep_ok h
  all_goals cases h

/-! ## when the fuse does not fire -/

/-- **the fuse does not fire** when `k = 0` or the operation performs fewer than `k` callbacks (no hypothesis on the queue) -/
theorem cbw_not_fires {k : Nat} {w : Option P} {q : Q P} {op : Op P} (h : cbCount q op < k ∨ k = 0) :
    stepCbW k w q op = liftStep q op := by
  by_cases hk0 : k = 0
  · subst hk0; exact cbw_stepCb_zero w q op
  have h : cbCount q op < k := by omega
  obtain ⟨kind, s⟩ := q
  cases op with
  | changePriorityBy key g =>
    simp only [stepCbW]
    rw [if_neg]
    rintro ⟨rfl, hs⟩
    simp [cbCount, hs] at h
  | popFrontIf f =>
    simp only [stepCbW]
    by_cases hk : k = 1
    · subst hk
      have h0 : s.size = 0 := by
        simp only [cbCount] at h
        split at h
        · assumption
        · omega
      cases kind <;> simp [h0, DQ.findMin]
    · rw [if_neg hk]
  | popBackIf f =>
    simp only [stepCbW]
    by_cases hk : k = 1
    · subst hk
      cases kind with
      | pq => simp
      | dpq =>
        have h0 : s.size = 0 := by
          simp only [cbCount] at h
          split at h
          · assumption
          · omega
        simp [DQ.findMax, h0, pure, Except.pure]
    · rw [if_neg hk]
  | extend lo xs =>
    rw [cb_stepCb_extend, if_neg]
    simp only [cbCount] at h
    split at h <;> omega
  | fromIter lo xs =>
    simp only [stepCbW]
    rw [if_neg]
    simp only [cbCount] at h
    split at h <;> omega
  | _ => rfl

theorem cb_stepCb_ok {k : Nat} {q : Q P} {op : Op P} {r : Q P × Out P} (h : stepCb k q op = .ok r) :
    step q op = .ok r := cbw_stepCb_ok h

theorem cb_not_fires {k : Nat} {q : Q P} {op : Op P} (h : cbCount q op < k ∨ k = 0) : stepCb k q op = liftStep q op :=
  cbw_not_fires h

/-- **`crashedNew` only for constructors**: the only operation whose callback crash drops a fresh queue is `from_iter` -/
theorem cbw_crashedNew_only_ctor {k : Nat} {w : Option P} {q : Q P} {op : Op P}
    (h : stepCbW k w q op = .error .crashedNew) : ∃ lo xs, op = .fromIter lo xs := by
  rcases cbw_cases k w q op with e | ⟨_, e, _⟩ | ⟨_, e, _⟩ | ⟨_, hop⟩
  · exact absurd (e ▸ h) cb_liftStep_crashedNew
  · rw [e] at h; cases h
  · rw [e] at h; cases h
  · exact hop

theorem cb_crashedNew_only_ctor {k : Nat} {q : Q P} {op : Op P} (h : stepCb k q op = .error .crashedNew) :
    ∃ lo xs, op = .fromIter lo xs := cbw_crashedNew_only_ctor h

/-! ## the crash state is well-formed -/
variable [LE P] [Std.IsLinearPreorder P] [Std.LawfulOrderLT P]

/-- `pushAll` of either kind on a well-formed store succeeds and keeps it well-formed -/
theorem cb_pushAllK_safe {s : Store P} (hs : s.WF) (kind : Kind) (l : List (Item × P)) :
    ∃ s', pushAllK kind l s = .ok s' ∧ s'.WF := by
  cases kind with
  | pq => obtain ⟨s', h1, h2, _⟩ := PQ.MaxQ.pushAll_safe l hs; exact ⟨s', h1, h2⟩
  | dpq => obtain ⟨s', h1, h2, _⟩ := PQ.DQ.pushAll_safe hs l; exact ⟨s', h1, h2⟩

/-- **every callback crash state is well-formed** — also when the panicking setter / predicate first stored an arbitrary
priority through its `&mut P` (`w = some p`): then the priority sits in the slot without any re-sift, so the queue is in
general no longer ordered, but the index tables and the key set are untouched.  (`Op.Legal` is not needed: no callback
returns.) -/
theorem cbw_crash_state_wf {q q' : Q P} {op : Op P} (k : Nat) (w : Option P) (hq : QWF q) :
    stepCbW k w q op = .error (.crashed q') → QWF q' := by
  intro h
  have hs : q.s.WF := hq
  rcases cbw_cases k w q op with e | ⟨_, e, _⟩ | ⟨s', e, hs'⟩ | ⟨e, _⟩
  · exact absurd (e ▸ h) cb_liftStep_crashed
  · rw [e] at h; cases h
  · rw [e] at h; cases h
    show s'.WF
    rcases hs' with ⟨key, rfl⟩ | ⟨pos, rfl⟩ | ⟨s1, r, pos, hfm, rfl⟩ | ⟨pre, rfl⟩ | ⟨l, hl⟩
    · exact cb_writeKey_wf hs key w
    · exact cb_writePos_wf hs pos w
    · obtain ⟨n, _, rfl, _⟩ := cb_findMax_frame hfm
      exact cb_writePos_wf ((Store.tick_TWF).2 hs) _ w
    · exact Store.wf_extend hs _
    · obtain ⟨s'', h1, h2⟩ := cb_pushAllK_safe hs q.kind l
      rw [h1] at hl; cases hl; exact h2
  · rw [e] at h; cases h

theorem cb_crash_state_wf {q q' : Q P} {op : Op P} (k : Nat) (hq : QWF q) :
    stepCb k q op = .error (.crashed q') → QWF q' :=
  cbw_crash_state_wf k none hq

/-- a setter that panics on entry (nothing written) leaves the queue of `change_priority_by` exactly as it was -/
theorem cb_crash_unchanged_setter {q q' : Q P} {k : Nat} {key : Nat} {g : P → P}
    (h : stepCb k q (.changePriorityBy key g) = .error (.crashed q')) : q' = q := by
  simp only [stepCb, stepCbW] at h
  split at h
  · cases h; simp
  · exact absurd h cb_liftStep_crashed

/-- a predicate that panics on entry (nothing written) leaves the queue of `pop_if` / `pop_min_if` exactly as it was
(`pop_max_if` has spent one comparison in `find_max`: unchanged up to the ghost counter, `cb_findMax_frame`) -/
theorem cb_crash_unchanged_front {q q' : Q P} {k : Nat} {f : Item → P → Bool × Item × P}
    (h : stepCb k q (.popFrontIf f) = .error (.crashed q')) : q' = q := by
  obtain ⟨kind, s⟩ := q
  simp only [stepCb, stepCbW] at h
  split at h
  · cases kind with
    | pq =>
      simp only at h
      split at h
      · exact absurd h cb_liftStep_crashed
      · cases h; simp
    | dpq =>
      simp only at h
      split at h
      · exact absurd h cb_liftStep_crashed
      · cases h; simp
  · exact absurd h cb_liftStep_crashed

/-! ## no fault of the model inside an operation whose callback panics -/

/-- the operation with a panicking callback performs no faulty access of its own, before the panic or during unwinding -/
theorem cbw_no_model_fault {q : Q P} {op : Op P} (k : Nat) (w : Option P) (hq : QWF q) (hl : op.Legal) :
    ∀ f, stepCbW k w q op ≠ .error (.fault f) := by
  intro f h
  have hs : q.s.WF := hq
  rcases cbw_cases k w q op with e | ⟨f', e, hf'⟩ | ⟨_, e, _⟩ | ⟨e, _⟩ <;> rw [e] at h
  · obtain ⟨q1, o1, hstep, _⟩ := hist_step_safe hq hl
    unfold liftStep at h; rw [hstep] at h; cases h
  · rcases hf' with hfm | ⟨l, hl'⟩
    · obtain ⟨_, _, hfm', _⟩ := DQ.findMax_safe hs
      rw [hfm'] at hfm; cases hfm
    · obtain ⟨_, h1, _⟩ := cb_pushAllK_safe hs q.kind l
      rw [h1] at hl'; cases hl'
  · cases h
  · cases h

theorem cb_no_model_fault {q : Q P} {op : Op P} (k : Nat) (hq : QWF q) (hl : op.Legal) :
    ∀ f, stepCb k q op ≠ .error (.fault f) := cbw_no_model_fault k none hq hl

end PQ
