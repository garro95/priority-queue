import PQ.Lemmas.Tables
import PQ.Lemmas.SiftUp
import PQ.Lemmas.Bulk
/-!
# The tables-only invariant: continuations from a store whose map is SHORTER than its tables

When the predicate of `retain` / `retain_mut` (or the `Drop` of a rejected element) panics inside `IndexMap::retain`,
the crate is left with its two index tables and `size` untouched but a shorter map.  `Store.TablesOnlyWF` is what
remains true of such a store: the tables are mutually inverse bijections of `0..size`, and the map is *at most* as long.

This file contains the base of the argument that from such a store no unchecked access is ever out of bounds:

* `TO.SafeR post r`: the result `r` is `.ok a` with `post a`, or it is the fault `unwrapNone` (an ordinary panic of the
  crate's own `Option::unwrap` on a map lookup) — never `oob`, `arith`, `indexPanic`, `fuel`, `capacity`;
* `TO.Tab s n`: the table part of `Store.TWF` (no statement about the map);
* `TO.Kept s₀ n` / `TO.HKept s₀ n idx`: what every sifting procedure keeps — map and `size` of `s₀`, tables `Tab` (resp. with
  slot `idx` lifted out of a moving hole); the loops of both queue kinds are followed on these;
* the store-level functions (`swap`, `prioAt`, `swapRemove`, `swapRemoveIf`, `changePriority{,By}`, `remove`, the bulk steps),
  stated on `Store.TablesOnlyWF` itself.

The table facts are NOT re-proved: `swap`, `swap_remove` and `remove` are evaluated in `WF.lean` / `Tables.lean` on a pair
of inverse tables (`InvTables`, which is what `Tab` says).  For the moving hole of the sift-up procedures a store `s` with
`Tab s n` is sent to the store `toU s n : Store Unit` with the same tables and an identity map of length `n`; that store is
`TWF n`, and the lemmas of `SiftUp.lean` apply to it.
-/
set_option linter.unusedSimpArgs false
set_option linter.unusedSectionVars false
set_option linter.unusedVariables false
namespace PQ
namespace TO
variable {P : Type}

/-! ## Results that are `.ok` or the ordinary panic `unwrapNone` -/

/-- the only fault a continuation from a tables-only state can end in: `Option::unwrap` on `None` -/
def OnlyUnwrap : Fault → Prop
  | .unwrapNone _ => True
  | _ => False

/-- `r` is `.ok a` with `post a`, or the ordinary panic `unwrapNone` -/
def SafeR {α : Type} (post : α → Prop) : R α → Prop
  | .ok a => post a
  | .error f => OnlyUnwrap f

theorem SafeR.ok {α : Type} {post : α → Prop} {a : α} (h : post a) : SafeR post (.ok a) := h

theorem SafeR.pure {α : Type} {post : α → Prop} {a : α} (h : post a) : SafeR post (pure a : R α) := h

theorem SafeR.unwrapNone {α : Type} {post : α → Prop} (site : Nat) : SafeR post (.error (.unwrapNone site) : R α) :=
  trivial

theorem SafeR.bind {α β : Type} {x : R α} {f : α → R β} {Q : α → Prop} {post : β → Prop}
    (hx : SafeR Q x) (hf : ∀ a, Q a → SafeR post (f a)) : SafeR post (x >>= f) := by
  cases x with
  | error e => exact hx
  | ok a => exact hf a hx

theorem ite_pick {α : Type} {c : Prop} [Decidable c] {a b : α} {Q : α → Prop} (ha : c → Q a) (hb : ¬c → Q b) :
    Q (if c then a else b) := by
  split
  · exact ha ‹_›
  · exact hb ‹_›

/-- both branches of an `if`, each under its condition (much cheaper to check than `split` on the whole goal) -/
theorem SafeR.ite {α : Type} {c : Prop} [Decidable c] {x y : R α} {post : α → Prop} (hx : c → SafeR post x)
    (hy : ¬c → SafeR post y) : SafeR post (if c then x else y) := by
  split
  · exact hx ‹_›
  · exact hy ‹_›

theorem SafeR.mono {α : Type} {x : R α} {Q post : α → Prop} (hx : SafeR Q x) (h : ∀ a, Q a → post a) :
    SafeR post x := by
  cases x with
  | error e => exact hx
  | ok a => exact h a hx

theorem SafeR.of_ok {α : Type} {x : R α} {post : α → Prop} {a : α} (hx : SafeR post x) (h : x = .ok a) : post a := by
  subst h; exact hx

theorem SafeR.of_error {α : Type} {x : R α} {post : α → Prop} {f : Fault} (hx : SafeR post x) (h : x = .error f) :
    ∃ site, f = .unwrapNone site := by
  subst h
  cases f <;> first | exact ⟨_, rfl⟩ | exact absurd hx (by simp [SafeR, OnlyUnwrap])

theorem SafeR.not_oob {α : Type} {x : R α} {post : α → Prop} (hx : SafeR post x) (site : Nat) : x ≠ .error (.oob site) := by
  intro h; obtain ⟨_, h'⟩ := hx.of_error h; cases h'

theorem SafeR.not_arith {α : Type} {x : R α} {post : α → Prop} (hx : SafeR post x) (site : Nat) :
    x ≠ .error (.arith site) := by
  intro h; obtain ⟨_, h'⟩ := hx.of_error h; cases h'

theorem SafeR.of_eq {α : Type} {x y : R α} {post : α → Prop} (hy : SafeR post y) (h : x = y) : SafeR post x := h ▸ hy

theorem SafeR.of_exists {α : Type} {x : R α} {post : α → Prop} (h : ∃ a, x = .ok a ∧ post a) : SafeR post x := by
  obtain ⟨a, rfl, h⟩ := h; exact h

/-! ### the primitives -/

theorem getU_to {α : Type} {a : Array α} {i : Nat} (site : Nat) (h : i < a.size) :
    SafeR (fun x => a[i]? = some x) (getU a i site) := by
  have : a[i]? = some a[i] := by simp [h]
  rw [getU_ok this]; exact this

theorem setU_to {α : Type} {a : Array α} {i : Nat} (v : α) (site : Nat) (h : i < a.size) :
    SafeR (fun b => b = a.setIfInBounds i v) (setU a i v site) := by
  rw [setU_ok v h]; exact rfl

theorem unwrapO_to {α : Type} (o : Option α) (site : Nat) : SafeR (fun x => o = some x) (unwrapO o site) := by
  cases o with
  | none => exact trivial
  | some x => exact rfl

theorem decC_to {x : Nat} (site : Nat) (h : 0 < x) : SafeR (fun y => y = x - 1) (decC x site) := by
  have : decC x site = .ok (x - 1) := decC_eq_ok_iff.2 ⟨h, rfl⟩
  rw [this]; exact rfl

theorem prioAt_to {s : Store P} {n pos : Nat} (hh : s.heap.size = n) (hp : pos < n) :
    SafeR (fun _ => True) (s.prioAt pos) := by
  unfold Store.prioAt
  refine SafeR.bind (getU_to 105 (hh ▸ hp)) fun i _ => ?_
  refine SafeR.bind (unwrapO_to _ 106) fun e _ => ?_
  exact SafeR.pure trivial

/-! ## The table part of well-formedness -/

/-- the index tables, read at length `n`, are mutually inverse bijections on `0..n` (nothing about the map) -/
structure Tab (s : Store P) (n : Nat) : Prop where
  heap_size : s.heap.size = n
  qp_size : s.qp.size = n
  heap_qp : ∀ p, p < n → ∃ i, s.heap[p]? = some i ∧ s.qp[i]? = some p
  qp_heap : ∀ i, i < n → ∃ p, s.qp[i]? = some p ∧ s.heap[p]? = some i

/-- the identity map of length `n` over `Unit` priorities: slot `i` holds key `i` -/
def idMap (n : Nat) : IMap Unit := (Array.range n).map fun i => ((⟨i, 0⟩ : Item), ())

theorem idMap_size (n : Nat) : (idMap n).size = n := by simp [idMap]

theorem idMap_getElem? (n i : Nat) : (idMap n)[i]? = if i < n then some ((⟨i, 0⟩ : Item), ()) else none := by
  unfold idMap
  rw [Array.getElem?_map, Array.getElem?_range]
  split <;> rfl

theorem idMap_nodup (n : Nat) : (idMap n).NoDupKeys := by
  intro i j a b ha hb hk
  rw [idMap_getElem?] at ha hb
  split at ha <;> split at hb <;> simp_all
  subst ha; subst hb; exact hk

/-- the same tables over an identity map of length `n` -/
def toU (s : Store P) (n : Nat) : Store Unit :=
  { map := idMap n, heap := s.heap, qp := s.qp, size := s.size, ticks := s.ticks }

theorem Tab.toU {s : Store P} {n : Nat} (h : Tab s n) : (toU s n).TWF n :=
  ⟨idMap_size n, h.heap_size, h.qp_size, h.heap_qp, h.qp_heap, idMap_nodup n⟩

theorem Tab.ofTWF {Q : Type} {s : Store P} {t : Store Q} {n : Nat} (h : t.TWF n) (hh : s.heap = t.heap) (hq : s.qp = t.qp) :
    Tab s n :=
  ⟨by rw [hh]; exact h.heap_size, by rw [hq]; exact h.qp_size, by rw [hh, hq]; exact h.heap_qp,
    by rw [hh, hq]; exact h.qp_heap⟩

theorem Tab.congr {s t : Store P} {n : Nat} (h : Tab s n) (hh : t.heap = s.heap) (hq : t.qp = s.qp) : Tab t n :=
  ⟨by rw [hh]; exact h.heap_size, by rw [hq]; exact h.qp_size, by rw [hh, hq]; exact h.heap_qp,
    by rw [hh, hq]; exact h.qp_heap⟩

theorem Tab.inv {s : Store P} {n : Nat} (h : Tab s n) : InvTables s.heap s.qp n :=
  .of_forall h.heap_size h.qp_size h.heap_qp h.qp_heap

theorem Tab.of_inv {s : Store P} {n : Nat} (h : InvTables s.heap s.qp n) : Tab s n :=
  ⟨h.size_left, h.size_right, fun _ => h.pair, fun _ => h.symm.pair⟩

theorem Tab.qp_lt {s : Store P} {n p i : Nat} (h : Tab s n) (hi : s.qp[i]? = some p) : p < n := (h.inv.symm.lt hi).2

theorem Tab.qp_some {s : Store P} {n i : Nat} (h : Tab s n) (hi : i < n) : ∃ p, s.qp[i]? = some p ∧ p < n :=
  h.toU.qp_some hi

theorem Tab.tick {s : Store P} {n k : Nat} (h : Tab s n) : Tab (s.tick k) n := ⟨h.1, h.2, h.3, h.4⟩

theorem Tab.empty (s : Store P) (hh : s.heap = #[]) (hq : s.qp = #[]) : Tab s 0 :=
  ⟨by rw [hh]; rfl, by rw [hq]; rfl, fun p hp => by omega, fun p hp => by omega⟩

end TO

/-- **the tables-only invariant**: what is left of `Store.WF` when `IndexMap::retain` is cut short by a panic of its
closure — the index tables are mutually inverse bijections of `0..size` and agree with `size` in length, the map has
AT MOST `size` entries (nothing relates the entries to the tables, and keys need not be unique) -/
structure Store.TablesOnlyWF {P : Type} (s : Store P) : Prop where
  heap_size : s.heap.size = s.size
  qp_size : s.qp.size = s.size
  map_le : s.map.size ≤ s.size
  heap_qp : ∀ p, p < s.size → ∃ i, s.heap[p]? = some i ∧ s.qp[i]? = some p
  qp_heap : ∀ i, i < s.size → ∃ p, s.qp[i]? = some p ∧ s.heap[p]? = some i

namespace TO
variable {P : Type}

theorem towf_iff {s : Store P} : s.TablesOnlyWF ↔ Tab s s.size ∧ s.map.size ≤ s.size :=
  ⟨fun h => ⟨⟨h.heap_size, h.qp_size, h.heap_qp, h.qp_heap⟩, h.map_le⟩,
   fun h => ⟨h.1.heap_size, h.1.qp_size, h.2, h.1.heap_qp, h.1.qp_heap⟩⟩

theorem towf_of_tab {s : Store P} {n : Nat} (h : Tab s n) (hs : s.size = n) (hm : s.map.size ≤ n) : s.TablesOnlyWF :=
  towf_iff.2 ⟨hs ▸ h, hs ▸ hm⟩

theorem towf_of_wf {s : Store P} (h : s.WF) : s.TablesOnlyWF :=
  ⟨h.heap_size, h.qp_size, Nat.le_of_eq h.map_size, h.heap_qp, h.qp_heap⟩

/-- the two differ exactly in the length of the map and the uniqueness of keys -/
theorem wf_iff_towf {s : Store P} : s.WF ↔ s.TablesOnlyWF ∧ s.map.size = s.size ∧ s.map.NoDupKeys :=
  ⟨fun h => ⟨towf_of_wf h, h.map_size, h.nodup⟩,
   fun ⟨h, hm, hn⟩ => ⟨hm, h.heap_size, h.qp_size, h.heap_qp, h.qp_heap, hn⟩⟩

theorem towf_iff_check {s : Store P} :
    s.TablesOnlyWF ↔ s.heap.size = s.size ∧ s.qp.size = s.size ∧ s.map.size ≤ s.size ∧
      (∀ p, p < s.size → (s.heap[p]?).bind (fun i => s.qp[i]?) = some p) ∧
      (∀ i, i < s.size → (s.qp[i]?).bind (fun p => s.heap[p]?) = some i) := by
  constructor
  · intro h
    refine ⟨h.heap_size, h.qp_size, h.map_le, ?_, ?_⟩
    · intro p hp; obtain ⟨i, h1, h2⟩ := h.heap_qp p hp; simp [h1, h2]
    · intro i hi; obtain ⟨p, h1, h2⟩ := h.qp_heap i hi; simp [h1, h2]
  · rintro ⟨h1, h2, h3, h4, h5⟩
    refine ⟨h1, h2, h3, ?_, ?_⟩
    · intro p hp; obtain ⟨i, hi, hi'⟩ := Option.bind_eq_some_iff.1 (h4 p hp); exact ⟨i, hi, hi'⟩
    · intro i hi; obtain ⟨p, hp, hp'⟩ := Option.bind_eq_some_iff.1 (h5 i hi); exact ⟨p, hp, hp'⟩

instance (s : Store P) : Decidable s.TablesOnlyWF := decidable_of_iff _ towf_iff_check.symm

theorem towf_tick {s : Store P} (h : s.TablesOnlyWF) (k : Nat) : (s.tick k).TablesOnlyWF :=
  ⟨h.heap_size, h.qp_size, h.map_le, h.heap_qp, h.qp_heap⟩

theorem towf_map_update {s : Store P} (h : s.TablesOnlyWF) {m' : IMap P} (hm' : m'.size ≤ s.map.size) :
    ({ s with map := m' } : Store P).TablesOnlyWF :=
  ⟨h.heap_size, h.qp_size, Nat.le_trans hm' h.map_le, h.heap_qp, h.qp_heap⟩

/-! ## What the sifting procedures keep: map and `size` untouched, the tables rearranged -/

/-- `s` is `s₀` with its tables, read at length `n`, rearranged (and some ticks added) -/
def Kept (s₀ : Store P) (n : Nat) (s : Store P) : Prop := Tab s n ∧ s.map = s₀.map ∧ s.size = s₀.size

theorem Kept.tick {s₀ s : Store P} {n k : Nat} (h : Kept s₀ n s) : Kept s₀ n (s.tick k) := ⟨h.1.tick, h.2⟩

theorem Kept.prioAt {s₀ s : Store P} {n pos : Nat} (h : Kept s₀ n s) (hp : pos < n) :
    SafeR (fun _ => True) (s.prioAt pos) := prioAt_to h.1.heap_size hp

theorem Kept.towf {s₀ s : Store P} {n : Nat} (h : Kept s₀ n s) (hz : s₀.size = n) (hm : s₀.map.size ≤ n) :
    s.TablesOnlyWF := towf_of_tab h.1 (h.2.2.trans hz) (h.2.1 ▸ hm)

theorem Kept.of_towf {s : Store P} (h : s.TablesOnlyWF) : Kept s s.size s := ⟨(towf_iff.1 h).1, rfl, rfl⟩

theorem Kept.getHeap {s₀ s : Store P} {n pos : Nat} (h : Kept s₀ n s) (hp : pos < n) (site : Nat) :
    SafeR (fun i => s.heap[pos]? = some i) (getU s.heap pos site) := getU_to site (h.1.heap_size ▸ hp)

/-! ## `Store::swap` -/

theorem Kept.swap {s₀ s : Store P} {n a b : Nat} (h : Kept s₀ n s) (ha : a < n) (hb : b < n) :
    SafeR (Kept s₀ n) (s.swap a b) := by
  obtain ⟨ia, hia⟩ := h.1.inv.get ha
  obtain ⟨ib, hib⟩ := h.1.inv.get hb
  rw [Store.swap_eval h.1.inv hia hib]
  exact ⟨.of_inv (h.1.inv.swap hia hib), h.2⟩

/-! ## `Store::swap_remove` and `Store::remove` -/

theorem size_swapRemoveIndex_le {m m' : IMap P} {i : Nat} {e : Item × P} (h : m.swapRemoveIndex i = some (e, m')) :
    m'.size = m.size - 1 := IMap.size_swapRemoveIndex h

theorem swapRemove_to {s : Store P} {pos : Nat} (h : s.TablesOnlyWF) (hp : pos < s.size) :
    SafeR (fun r => r.1.TablesOnlyWF ∧ r.1.size = s.size - 1) (s.swapRemove pos) := by
  have hi := (towf_iff.1 h).1.inv
  obtain ⟨head, hh⟩ := hi.get hp
  obtain ⟨a, ha⟩ := hi.get (p := s.size - 1) (by omega)
  obtain ⟨q, hq⟩ := hi.symm.get (p := s.size - 1) (by omega)
  have key : ∀ m' : IMap P, m'.size ≤ s.size - 1 → (Store.swapRemoveResult s pos head a q m').TablesOnlyWF := fun m' hm' =>
    towf_of_tab (.of_inv (Store.swapRemoveResult_inv hi hh ha hq m')) rfl hm'
  rw [Store.swapRemove_eval hi hh ha hq]
  rcases hm : s.map.swapRemoveIndex head with _ | ⟨e, m'⟩
  · -- the map is too short to have the slot: it is left as it is
    exact ⟨key _ (by have := IMap.swapRemoveIndex_eq_none_iff.1 hm; have := (hi.lt hh).2; omega), rfl⟩
  · exact ⟨key _ (by rw [IMap.size_swapRemoveIndex hm]; have := h.map_le; omega), rfl⟩

theorem remove_to {s : Store P} (h : s.TablesOnlyWF) (k : Nat) :
    SafeR (fun r => r.1.TablesOnlyWF) (s.remove k) := by
  rcases hf : s.map.swapRemoveFull k with _ | ⟨i, e, m'⟩
  · unfold Store.remove; rw [hf]; exact h
  · have hi := (towf_iff.1 h).1.inv
    obtain ⟨hfi, hri⟩ := IMap.swapRemoveFull_eq_some_iff.1 hf
    -- the slot of the key is a slot of the (shorter) map, hence of the tables
    have hil : i < s.size := Nat.lt_of_lt_of_le (IMap.find?_lt_size hfi) h.map_le
    obtain ⟨pos, hpos⟩ := hi.symm.get hil
    obtain ⟨a, ha⟩ := hi.get (p := s.size - 1) (by omega)
    obtain ⟨q, hq⟩ := hi.symm.get (p := s.size - 1) (by omega)
    rw [Store.remove_eval hi hf hpos ha hq]
    exact towf_of_tab (.of_inv (Store.removeResult_inv hi hpos ha hq m')) rfl
      (by show m'.size ≤ _; rw [IMap.size_swapRemoveIndex hri]; have := h.map_le; omega)

/-! ## `swap_remove_if`, `change_priority{,_by}`, `get_mut` -/

theorem swapRemoveIf_to {s : Store P} {pos : Nat} (f : Item → P → Bool × Item × P) (h : s.TablesOnlyWF)
    (hp : pos < s.size) :
    SafeR (fun r => r.1.TablesOnlyWF ∧ s.size - 1 ≤ r.1.size) (s.swapRemoveIf pos f) := by
  unfold Store.swapRemoveIf
  refine SafeR.bind (getU_to 114 (h.heap_size ▸ hp)) fun head _ => ?_
  refine SafeR.bind (unwrapO_to _ 115) fun e _ => ?_
  have h' := towf_map_update h (m' := s.map.setIfInBounds head ((f e.1 e.2).2.1, (f e.1 e.2).2.2))
    (Nat.le_of_eq (Array.size_setIfInBounds ..))
  exact SafeR.ite (fun _ => SafeR.mono (swapRemove_to h' hp) fun r hr => ⟨hr.1, Nat.le_of_eq hr.2.symm⟩)
    fun _ => SafeR.pure ⟨h', Nat.sub_le ..⟩

/-- the slot a map lookup answers is a slot of the (possibly shorter) map, so `qp` has it, and holds a position -/
theorem qpAt_to {s : Store P} (h : s.TablesOnlyWF) {k : Nat} {v : Nat × Item × P} (hg : s.map.getFull k = some v)
    (site : Nat) : SafeR (fun pos => pos < s.size) (getU s.qp v.1 site) :=
  have hil := Nat.lt_of_lt_of_le (IMap.find?_lt_size (IMap.getFull_eq_some_iff.1 hg).1) h.map_le
  SafeR.mono (getU_to site (h.qp_size ▸ hil)) fun _ hpos => (towf_iff.1 h).1.qp_lt hpos

theorem changePriority_to {s : Store P} (h : s.TablesOnlyWF) (k : Nat) (p : P) :
    SafeR (fun r => r.1.TablesOnlyWF ∧ ∀ old pos, r.2 = some (old, pos) → pos < r.1.size) (s.changePriority k p) := by
  unfold Store.changePriority
  cases hg : s.map.getFull k with
  | none => exact SafeR.pure ⟨h, fun _ _ he => by cases he⟩
  | some v =>
    refine SafeR.bind (qpAt_to h hg 116) fun pos hpos => ?_
    exact SafeR.pure ⟨towf_map_update h (Nat.le_of_eq (IMap.size_setPrio ..)), fun _ _ he => by cases he; exact hpos⟩

theorem changePriorityBy_to {s : Store P} (h : s.TablesOnlyWF) (k : Nat) (g : P → P) :
    SafeR (fun r => r.1.TablesOnlyWF ∧ ∀ pos, r.2 = some pos → pos < r.1.size) (s.changePriorityBy k g) := by
  unfold Store.changePriorityBy
  cases hg : s.map.getFull k with
  | none => exact SafeR.pure ⟨h, fun _ he => by cases he⟩
  | some v =>
    refine SafeR.bind (qpAt_to h hg 117) fun pos hpos => ?_
    exact SafeR.pure ⟨towf_map_update h (Nat.le_of_eq (IMap.size_setPrio ..)), fun _ he => by cases he; exact hpos⟩

theorem getMutWrite_to {s : Store P} (h : s.TablesOnlyWF) (k : Nat) (w : Item → Item) :
    (s.getMutWrite k w).1.TablesOnlyWF := by
  unfold Store.getMutWrite
  cases s.map.getFull k with
  | none => exact h
  | some v => exact towf_map_update h (Nat.le_of_eq (IMap.size_setItem ..))

/-- `peek_mut`, `peek_min_mut`, `peek_max_mut` with the caller's write: the slot at a position, then the map only -/
theorem peekWrite_to {s : Store P} (h : s.TablesOnlyWF) {pos : Nat} (hp : pos < s.size) (site : Nat) (w : Item → Item) :
    SafeR (fun r => r.1.TablesOnlyWF) (do
      let i ← getU s.heap pos site
      match s.map.getIndex i with
      | some e => pure (({ s with map := s.map.setItem i (w e.1) } : Store P), some e)
      | none => pure (s, none)) := by
  refine SafeR.bind (getU_to site (h.heap_size ▸ hp)) fun i _ => ?_
  cases s.map.getIndex i with
  | none => exact SafeR.pure h
  | some e => exact SafeR.pure (towf_map_update h (Nat.le_of_eq (IMap.size_setItem ..)))

/-! ## The moving hole of the sift-up procedures -/

/-- the tables are inverse bijections except that heap position `hole` is vacant and slot `idx` is placed nowhere -/
def Hole (s : Store P) (n hole idx : Nat) : Prop := (toU s n).HoleTWF n hole idx

theorem Tab.toHole {s : Store P} {n pos idx : Nat} (h : Tab s n) (hp : s.heap[pos]? = some idx) : Hole s n pos idx :=
  Store.TWF.toHole h.toU (s := TO.toU s n) hp

theorem Hole.congr {s t : Store P} {n hole idx : Nat} (h : Hole s n hole idx) (hh : t.heap = s.heap) (hq : t.qp = s.qp) :
    Hole t n hole idx := by
  unfold Hole toU at *
  rw [hh, hq]
  exact ⟨h.1, h.2, h.3, h.4, h.5, h.6, h.7, h.8⟩

/-- `Kept` while slot `idx` is lifted out: the pair is the store and the position of the hole, as the loops return them -/
def HKept (s₀ : Store P) (n idx : Nat) (r : Store P × Nat) : Prop :=
  Hole r.1 n r.2 idx ∧ r.1.map = s₀.map ∧ r.1.size = s₀.size

theorem Kept.toHole {s₀ s : Store P} {n pos idx : Nat} (h : Kept s₀ n s) (hp : s.heap[pos]? = some idx) :
    HKept s₀ n idx (s, pos) := ⟨h.1.toHole hp, h.2⟩

theorem HKept.tick {s₀ s : Store P} {n idx hole k : Nat} (h : HKept s₀ n idx (s, hole)) :
    HKept s₀ n idx (s.tick k, hole) := ⟨h.1.tick (k := k), h.2⟩

theorem HKept.prioAt {s₀ s : Store P} {n idx hole pos : Nat} (h : HKept s₀ n idx (s, hole)) (hp : pos < n) :
    SafeR (fun _ => True) (s.prioAt pos) := prioAt_to h.1.heap_size hp

theorem HKept.getHeap {s₀ s : Store P} {n idx hole pos : Nat} (h : HKept s₀ n idx (s, hole)) (hp : pos < n) (site : Nat) :
    SafeR (fun i => s.heap[pos]? = some i) (getU s.heap pos site) := getU_to site (h.1.heap_size ▸ hp)

/-- the hole moves to position `pp`: `heap[hole] = heap[pp]; qp[heap[pp]] = hole`, both stores in bounds -/
theorem HKept.move {α : Type} {s₀ s : Store P} {n idx hole pp pi : Nat} (h : HKept s₀ n idx (s, hole)) (hpp : pp < n)
    (hne : pp ≠ hole) (hpi : s.heap[pp]? = some pi) (a b : Nat) {post : α → Prop} {k : Store P → R α}
    (hk : ∀ s', HKept s₀ n idx (s', pp) → SafeR post (k s')) :
    SafeR post (do
      let heap ← setU s.heap hole pi a
      let qp ← setU s.qp pi hole b
      k { s with heap := heap, qp := qp }) := by
  obtain ⟨i, _, hi, hq⟩ := h.1.heap_qp pp hpp hne
  cases hi.symm.trans hpi
  refine SafeR.bind (setU_to _ a (h.1.heap_size ▸ h.1.hole_lt)) fun heap hheap => ?_
  refine SafeR.bind (setU_to _ b (lt_size_of_getElem? hq)) fun qp hqp => ?_
  subst hheap hqp
  exact hk _ ⟨h.1.step hpp hne hpi, h.2⟩

/-- the lifted slot is put down in the hole: `heap[hole] = idx; qp[idx] = hole` -/
theorem HKept.fill {s₀ s : Store P} {n idx hole : Nat} (h : HKept s₀ n idx (s, hole)) (a b : Nat) :
    SafeR (fun r => Kept s₀ n r.1 ∧ r.2 < n) (do
      let heap ← setU s.heap hole idx a
      let qp ← setU s.qp idx hole b
      pure (({ s with heap := heap, qp := qp } : Store P), hole)) := by
  refine SafeR.bind (setU_to _ a (h.1.heap_size ▸ h.1.hole_lt)) fun heap hheap => ?_
  refine SafeR.bind (setU_to _ b (h.1.qp_size ▸ h.1.idx_lt)) fun qp hqp => ?_
  subst hheap hqp
  exact SafeR.pure ⟨⟨Tab.ofTWF h.1.fill rfl rfl, h.2⟩, h.1.hole_lt⟩

/-! ## The tables `push` of a new item sifts on: one more position and one more slot, `size` not yet bumped -/

theorem Tab.push {s : Store P} (h : Tab s s.size) :
    Tab ({ s with qp := s.qp.push s.size, heap := s.heap.push s.size } : Store P) (s.size + 1) := .of_inv h.inv.push

theorem Tab.push_last {s : Store P} (h : Tab s s.size) : (s.heap.push s.size)[s.size]? = some s.size := by
  rw [Array.getElem?_push, if_pos h.heap_size.symm]

theorem Kept.pushed {s : Store P} (h : s.TablesOnlyWF) (e : Item × P) :
    Kept ({ s with map := s.map.push e, qp := s.qp.push s.size, heap := s.heap.push s.size } : Store P) (s.size + 1)
      { s with map := s.map.push e, qp := s.qp.push s.size, heap := s.heap.push s.size } :=
  ⟨(towf_iff.1 h).1.push.congr rfl rfl, rfl, rfl⟩

/-- `push` of a new item: the sifted store with `size` bumped satisfies the invariant again -/
theorem towf_pushed {s s1 : Store P} (h : s.TablesOnlyWF) {e : Item × P}
    (h1 : Kept ({ s with map := s.map.push e, qp := s.qp.push s.size, heap := s.heap.push s.size } : Store P)
      (s.size + 1) s1) : ({ s1 with size := s1.size + 1 } : Store P).TablesOnlyWF := by
  refine towf_of_tab (n := s.size + 1) (h1.1.congr rfl rfl) (congrArg (· + 1) h1.2.2) ?_
  show s1.map.size ≤ _
  rw [h1.2.1]
  show (s.map.push e).size ≤ _
  rw [Array.size_push]
  exact Nat.succ_le_succ h.map_le

/-! ## The store-level bulk steps keep the tables-only invariant -/

theorem towf_pushTail {s : Store P} (h : s.TablesOnlyWF) (e : Item × P) :
    ({ s with map := s.map.push e, heap := s.heap.push s.size, qp := s.qp.push s.size, size := s.size + 1 } :
      Store P).TablesOnlyWF := by
  obtain ⟨ht, hm⟩ := towf_iff.1 h
  exact towf_of_tab (n := s.size + 1) (ht.push.congr rfl rfl) rfl (by simp; omega)

theorem towf_pushIfAbsent {s : Store P} (h : s.TablesOnlyWF) (e : Item × P) : (s.pushIfAbsent e).TablesOnlyWF :=
  ite_pick (Q := Store.TablesOnlyWF) (fun _ => h) fun _ => towf_pushTail h e

theorem towf_extendStep {s : Store P} (h : s.TablesOnlyWF) (e : Item × P) : (s.extendStep e).TablesOnlyWF := by
  unfold Store.extendStep
  split
  · exact towf_map_update h (by simp)
  · exact towf_pushTail h e

theorem towf_foldl {f : Store P → Item × P → Store P} (hf : ∀ s e, s.TablesOnlyWF → (f s e).TablesOnlyWF)
    (xs : Array (Item × P)) {s : Store P} (h : s.TablesOnlyWF) : (xs.foldl f s).TablesOnlyWF := by
  rw [← Array.foldl_toList]
  generalize xs.toList = l
  induction l generalizing s with
  | nil => exact h
  | cons x l ih => exact ih (hf s x h)

theorem towf_extend {s : Store P} (h : s.TablesOnlyWF) (xs : Array (Item × P)) : (s.extend xs).TablesOnlyWF :=
  towf_foldl (fun s e h => towf_extendStep h e) xs h

theorem towf_clear (s : Store P) : s.clear.TablesOnlyWF := towf_of_wf (Store.wf_clear s)
theorem towf_drain (s : Store P) : s.drain.2.TablesOnlyWF := towf_of_wf (Store.wf_drain s)

/-- `append`: both stores are only required to satisfy the tables-only invariant -/
theorem towf_append {s o : Store P} (hs : s.TablesOnlyWF) (ho : o.TablesOnlyWF) : (s.append o).1.TablesOnlyWF := by
  unfold Store.append
  split
  rename_i s' o' heq
  have : s'.TablesOnlyWF ∧ o'.TablesOnlyWF := by
    split at heq <;> (cases heq; first | exact ⟨ho, hs⟩ | exact ⟨hs, ho⟩)
  split
  · exact this.1
  · exact towf_foldl (fun s e h => towf_pushIfAbsent h e) _ this.1

/-- `retain_mut` on the store: the tables are rebuilt as identity tables, or (same length) only the map is replaced -/
theorem towf_retainMut {s : Store P} (h : s.TablesOnlyWF) (f : Item → P → Bool × Item × P) :
    (s.retainMut f).TablesOnlyWF :=
  have id : ∀ n p, p < n → ∃ i, (Array.range n)[p]? = some i ∧ (Array.range n)[i]? = some p := fun n p hp =>
    ⟨p, by simp only [Array.getElem?_range, if_pos hp], by simp only [Array.getElem?_range, if_pos hp]⟩
  ite_pick (Q := Store.TablesOnlyWF) (fun _ => ⟨Array.size_range, Array.size_range, Nat.le_refl _, id _, id _⟩)
    fun heq => ⟨h.heap_size, h.qp_size, Nat.le_of_eq (Decidable.not_not.1 heq), h.heap_qp, h.qp_heap⟩

end TO
end PQ
