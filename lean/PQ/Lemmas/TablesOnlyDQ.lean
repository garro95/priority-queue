import PQ.Lemmas.TablesOnly
import PQ.Lemmas.MinMaxDefs
/-!
# The tables-only invariant: `DoublePriorityQueue` (min-max heap) — every procedure and every public operation

`TO.SafeR post r` (see `TablesOnly.lean`): `r` is `.ok` with `post`, or the ordinary panic `unwrapNone`.  No order law is
used anywhere: priorities are compared with an arbitrary decidable `<`.  The sifting procedures are followed on
`TO.Kept s₀ n` / `TO.HKept s₀ n idx`; the public operations are stated on `Store.TablesOnlyWF`.
-/
set_option linter.unusedSectionVars false
namespace PQ
namespace TO
namespace DQ
open PQ.DQ PQ.Arith
variable {P : Type} [LT P] [DecidableLT P]

/-! ## small tools -/

theorem parentC_to {i : Nat} (site : Nat) (h : i ≠ 0) : SafeR (fun y => y = (i - 1) / 2) (parentC i site) := by
  unfold parentC
  rw [if_neg h]
  exact rfl

/-! ## `candidates` -/

theorem candidates_go_to (s : Store P) : ∀ l : List Nat,
    SafeR (fun cs => ∀ c ∈ cs, c.1 < s.heap.size ∧ c.1 ∈ l) (candidates.go s l) := by
  intro l
  induction l with
  | nil => unfold candidates.go; exact SafeR.pure (fun c hc => by cases hc)
  | cons c cs ih =>
    unfold candidates.go
    split
    · exact SafeR.pure (fun c hc => by cases hc)
    · rename_i idx hidx
      refine SafeR.bind (unwrapO_to _ 303) fun e _ => ?_
      refine SafeR.bind ih fun rest hrest => ?_
      refine SafeR.pure ?_
      intro x hx
      rcases List.mem_cons.1 hx with hx | hx
      · subst hx
        exact ⟨lt_size_of_getElem? hidx, List.mem_cons_self⟩
      · exact ⟨(hrest x hx).1, List.mem_cons_of_mem _ (hrest x hx).2⟩

theorem candidates_to {s : Store P} {n : Nat} (hh : s.heap.size = n) (i : Nat) :
    SafeR (fun cs => ∀ c ∈ cs, c.1 < n ∧ i < c.1) (candidates s i) := by
  unfold candidates
  refine SafeR.mono (candidates_go_to s _) fun cs hcs c hc => ?_
  obtain ⟨h1, h2⟩ := hcs c hc
  refine ⟨hh ▸ h1, ?_⟩
  simp only [List.mem_cons, List.not_mem_nil, or_false, left, right] at h2
  omega

/-! ## `heapify` -/

theorem trickle_to {loop : Nat → Store P → Nat → R (Store P)} {pick : List (Nat × P) → Option (Nat × P)} {lt : P → P → Prop}
    [∀ x y, Decidable (lt x y)] {d1 d2 d3 d4 : Nat} (hloop : TrickleEq loop pick lt d1 d2 d3 d4)
    (hmem : ∀ {cs c}, pick cs = some c → c ∈ cs) {s₀ : Store P} {n : Nat} (hz : s₀.size = n) (hn : 2 ≤ n) (fuel : Nat) :
    ∀ (s : Store P) (i : Nat), Kept s₀ n s → n - i ≤ fuel → 0 < fuel → SafeR (Kept s₀ n) (loop fuel s i) := by
  induction fuel with
  | zero => intro s i _ _ hf; omega
  | succ fuel ih =>
    intro s i h hf _
    have hs : s.size = n := h.2.2.trans hz
    rw [hloop fuel]
    refine SafeR.bind (decC_to d1 (by omega)) fun last hlast => ?_
    refine SafeR.bind (parentC_to d2 (by omega)) fun bound hb => ?_
    refine SafeR.ite (fun hib => ?_) fun _ => SafeR.pure h
    have hi : i < n := by omega
    refine SafeR.bind (candidates_to h.1.heap_size i) fun cs hcs => ?_
    refine SafeR.bind (unwrapO_to _ d3) fun c hc => ?_
    obtain ⟨hcn, hci⟩ := hcs c (hmem hc)
    refine SafeR.bind (h.tick.prioAt hcn) fun pc _ => ?_
    refine SafeR.bind (h.tick.prioAt hi) fun pm _ => ?_
    refine SafeR.ite (fun _ => ?_) fun _ => SafeR.pure h.tick.tick
    refine SafeR.bind (h.tick.tick.swap hcn hi) fun s1 h1 => ?_
    refine SafeR.ite (fun _ => ?_) fun _ => SafeR.pure h1
    refine SafeR.bind (parentC_to d4 (by omega)) fun p hp => ?_
    have hpn : p < n := by omega
    refine SafeR.bind (h1.prioAt hcn) fun pc' _ => ?_
    refine SafeR.bind (h1.prioAt hpn) fun pp _ => ?_
    have next : ∀ s2, Kept s₀ n s2 → SafeR (Kept s₀ n) (loop fuel s2 c.1) := fun s2 h2 =>
      ih s2 c.1 h2 (by omega) (by omega)
    exact SafeR.ite (fun _ => SafeR.bind (h1.tick.swap hcn hpn) next) fun _ => next _ h1.tick

/-- `heapify` at ANY position (in range or not) -/
theorem heapify_sift {s₀ s : Store P} {n : Nat} (h : Kept s₀ n s) (hz : s₀.size = n) (i : Nat) :
    SafeR (Kept s₀ n) (heapify s i) := by
  have hs : s.size = n := h.2.2.trans hz
  refine SafeR.ite (fun _ => SafeR.pure h) fun _ => ?_
  exact SafeR.ite (fun _ => trickle_to trickleEq_min mem_of_minByKey hz (by omega) s.size s i h (by omega) (by omega))
    fun _ => trickle_to trickleEq_max mem_of_maxByKey hz (by omega) s.size s i h (by omega) (by omega)

/-! ## `bubble_up` -/

theorem climb_to {loop : Nat → Store P → Nat → P → R (Store P × Nat)} {up : P → P → Prop} [∀ g v, Decidable (up g v)]
    {a b c : Nat} (hloop : ClimbEq loop up a b c) {s₀ : Store P} {n idx : Nat} (priority : P) (fuel : Nat) :
    ∀ (s : Store P) (hole : Nat), HKept s₀ n idx (s, hole) → hole < fuel → SafeR (HKept s₀ n idx) (loop fuel s hole priority) := by
  induction fuel with
  | zero => intro s hole _ hf; omega
  | succ fuel ih =>
    intro s hole h hf
    have hhn : hole < n := h.1.hole_lt
    rw [hloop fuel]
    refine SafeR.ite (fun hpos => ?_) fun _ => SafeR.pure h
    have hgp : parent (parent hole) < hole := by simp only [parent] at hpos ⊢; omega
    refine SafeR.bind (h.prioAt (by omega)) fun gpp _ => ?_
    refine SafeR.ite (fun _ => ?_) fun _ => SafeR.pure h.tick
    refine SafeR.bind (h.tick.getHeap (by omega) a) fun gpi hgpi => ?_
    exact h.tick.move (by omega) (by omega) hgpi b c
      (k := fun s' => loop fuel s' (parent (parent hole)) priority) fun _ hs' => ih _ _ hs' (by omega)

theorem bubbleUpMin_to {s₀ s : Store P} {n hole idx : Nat} (h : HKept s₀ n idx (s, hole)) (mp : Nat) :
    SafeR (HKept s₀ n idx) (bubbleUpMin s hole mp) := by
  unfold bubbleUpMin
  exact SafeR.bind (unwrapO_to _ 318) fun e _ => climb_to climbEq_min e.2 (hole + 1) s hole h (Nat.lt_succ_self _)

theorem bubbleUpMax_to {s₀ s : Store P} {n hole idx : Nat} (h : HKept s₀ n idx (s, hole)) (mp : Nat) :
    SafeR (HKept s₀ n idx) (bubbleUpMax s hole mp) := by
  unfold bubbleUpMax
  exact SafeR.bind (unwrapO_to _ 319) fun e _ => climb_to climbEq_max e.2 (hole + 1) s hole h (Nat.lt_succ_self _)

/-- `bubble_up(position, map_position)` when `map_position` is the slot at `position` -/
theorem bubbleUp_to {s₀ s : Store P} {n pos idx : Nat} (h : Kept s₀ n s) (hp : s.heap[pos]? = some idx) :
    SafeR (fun r => Kept s₀ n r.1 ∧ r.2 < n) (bubbleUp s pos idx) := by
  have hposn : pos < n := h.1.heap_size ▸ lt_size_of_getElem? hp
  have hH := h.toHole hp
  unfold bubbleUp
  refine SafeR.bind (unwrapO_to _ 310) fun e _ => ?_
  -- `fill` is what follows every branch: the lifted slot is put down where the hole ended
  extract_lets priority fill
  have fin : ∀ r, HKept s₀ n idx r → SafeR (fun r => Kept s₀ n r.1 ∧ r.2 < n) (fill r) := fun r hr => by
    obtain ⟨s1, p1⟩ := r
    exact hr.fill 316 317
  refine SafeR.ite (fun hpos => ?_) fun _ => fin _ hH
  · have hpar : parent pos < pos := by simp only [parent]; omega
    refine SafeR.bind (h.prioAt (by omega)) fun pp _ => ?_
    refine SafeR.bind (h.getHeap (by omega) 311) fun pi hpi => ?_
    split
    · exact hH.tick.move (by omega) (by omega) hpi 312 313 (k := fun s' => bubbleUpMax s' (parent pos) idx >>= fill)
        fun _ hs' => SafeR.bind (bubbleUpMax_to hs' idx) fin
    · exact SafeR.bind (bubbleUpMin_to hH.tick idx) fin
    · exact SafeR.bind (bubbleUpMax_to hH.tick idx) fin
    · exact hH.tick.move (by omega) (by omega) hpi 314 315 (k := fun s' => bubbleUpMin s' (parent pos) idx >>= fill)
        fun _ hs' => SafeR.bind (bubbleUpMin_to hs' idx) fin

/-- `up_heapify` at ANY position -/
theorem upHeapify_sift {s₀ s : Store P} {n : Nat} (h : Kept s₀ n s) (hz : s₀.size = n) (i : Nat) :
    SafeR (Kept s₀ n) (upHeapify s i) := by
  unfold upHeapify
  split
  · exact SafeR.pure h
  · rename_i tmp htmp
    refine SafeR.bind (bubbleUp_to h htmp) fun r hr => ?_
    obtain ⟨s1, p1⟩ := r
    have last : ∀ s2, Kept s₀ n s2 → SafeR (Kept s₀ n) (heapify s2 p1) := fun s2 h2 => heapify_sift h2 hz p1
    exact SafeR.ite (fun _ => SafeR.bind (heapify_sift hr.1 hz i) last) fun _ => last _ hr.1

/-! ## `heap_build` -/

theorem heapBuildLoop_to {s₀ : Store P} {n : Nat} (hz : s₀.size = n) (k : Nat) : ∀ (s : Store P), Kept s₀ n s →
    SafeR (Kept s₀ n) (heapBuildLoop s k) := by
  induction k with
  | zero => intro s h; exact heapify_sift h hz 0
  | succ k ih =>
    intro s h
    unfold heapBuildLoop
    exact SafeR.bind (heapify_sift h hz (k + 1)) ih

/-! ## the sifts on a tables-only state -/

theorem heapify_to {s : Store P} (h : s.TablesOnlyWF) (i : Nat) : SafeR Store.TablesOnlyWF (heapify s i) :=
  SafeR.mono (heapify_sift (Kept.of_towf h) rfl i) fun _ hs => hs.towf rfl h.map_le

theorem upHeapify_to {s : Store P} (h : s.TablesOnlyWF) (i : Nat) : SafeR Store.TablesOnlyWF (upHeapify s i) :=
  SafeR.mono (upHeapify_sift (Kept.of_towf h) rfl i) fun _ hs => hs.towf rfl h.map_le

theorem heapBuild_to {s : Store P} (h : s.TablesOnlyWF) : SafeR Store.TablesOnlyWF (DQ.heapBuild s) := by
  refine SafeR.ite (fun _ => SafeR.pure h) fun hne => ?_
  · refine SafeR.bind (parentC_to 326 hne) fun top _ => ?_
    exact SafeR.mono (heapBuildLoop_to rfl top s (Kept.of_towf h)) fun _ hs => hs.towf rfl h.map_le

/-! ## `find_min`, `find_max` -/

theorem findMin_cases (s : Store P) : findMin s = none ∨ (0 < s.size ∧ findMin s = some 0) := by
  unfold findMin
  split
  · exact .inl rfl
  · exact .inr ⟨by omega, rfl⟩

theorem findMax_to {s : Store P} (h : s.TablesOnlyWF) :
    SafeR (fun r => r.1.TablesOnlyWF ∧ ∀ p, r.2 = some p → p < r.1.size) (findMax s) := by
  unfold findMax
  rcases hz : s.size with _ | _ | _ | k
  · exact SafeR.pure ⟨h, fun p hp => by cases hp⟩
  · exact SafeR.pure ⟨h, fun p hp => by cases hp; show 0 < s.size; omega⟩
  · exact SafeR.pure ⟨h, fun p hp => by cases hp; show 1 < s.size; omega⟩
  · refine SafeR.bind (prioAt_to h.heap_size (by omega)) fun p1 _ => ?_
    refine SafeR.bind (prioAt_to h.heap_size (by omega)) fun p2 _ => ?_
    refine SafeR.pure ⟨towf_tick h 1, fun p hp => ?_⟩
    cases hp
    exact ite_pick (Q := (· < s.size)) (fun _ => by omega) fun _ => by omega

/-! ## The public operations -/

theorem push_to {s : Store P} (h : s.TablesOnlyWF) (it : Item) (p : P) :
    SafeR (fun r => r.1.TablesOnlyWF) (DQ.push s it p) := by
  unfold DQ.push
  rcases IMap.insertFull_cases s.map it p with ⟨i, e, hf, he, hk, hins⟩ | ⟨hf, hins⟩
  · rw [hins]
    have h' := towf_map_update h (m' := s.map.setIfInBounds i (e.1, p)) (Nat.le_of_eq (Array.size_setIfInBounds ..))
    have hi : i < s.qp.size := h.qp_size ▸ Nat.lt_of_lt_of_le (lt_size_of_getElem? he) h.map_le
    refine SafeR.bind (getU_to 331 hi) fun pos _ => ?_
    exact SafeR.bind (upHeapify_to h' pos) fun _ hs' => SafeR.pure hs'
  · rw [hins]
    refine SafeR.bind (bubbleUp_to (Kept.pushed h (it, p)) (towf_iff.1 h).1.push_last) fun r hr => ?_
    obtain ⟨s1, pos⟩ := r
    exact SafeR.pure (towf_pushed h hr.1)

theorem pushIncrease_to {s : Store P} (h : s.TablesOnlyWF) (it : Item) (p : P) :
    SafeR (fun r => r.1.TablesOnlyWF) (DQ.pushIncrease s it p) := by
  unfold DQ.pushIncrease
  cases s.getPriority it.key with
  | none => exact push_to h it p
  | some q => exact SafeR.ite (fun _ => push_to (towf_tick h 1) it p) fun _ => SafeR.pure (towf_tick h 1)

theorem pushDecrease_to {s : Store P} (h : s.TablesOnlyWF) (it : Item) (p : P) :
    SafeR (fun r => r.1.TablesOnlyWF) (DQ.pushDecrease s it p) := by
  unfold DQ.pushDecrease
  cases s.getPriority it.key with
  | none => exact push_to h it p
  | some q => exact SafeR.ite (fun _ => push_to (towf_tick h 1) it p) fun _ => SafeR.pure (towf_tick h 1)

theorem changePriority_to {s : Store P} (h : s.TablesOnlyWF) (k : Nat) (p : P) :
    SafeR (fun r => r.1.TablesOnlyWF) (DQ.changePriority s k p) := by
  unfold DQ.changePriority
  refine SafeR.bind (TO.changePriority_to h k p) fun r hr => ?_
  obtain ⟨s1, _ | o⟩ := r
  · exact SafeR.pure hr.1
  · exact SafeR.bind (upHeapify_to hr.1 _) fun _ hs' => SafeR.pure hs'

theorem changePriorityBy_to {s : Store P} (h : s.TablesOnlyWF) (k : Nat) (g : P → P) :
    SafeR (fun r => r.1.TablesOnlyWF) (DQ.changePriorityBy s k g) := by
  unfold DQ.changePriorityBy
  refine SafeR.bind (TO.changePriorityBy_to h k g) fun r hr => ?_
  obtain ⟨s1, _ | o⟩ := r
  · exact SafeR.pure hr.1
  · exact SafeR.bind (upHeapify_to hr.1 _) fun _ hs' => SafeR.pure hs'

theorem remove_to {s : Store P} (h : s.TablesOnlyWF) (k : Nat) :
    SafeR (fun r => r.1.TablesOnlyWF) (DQ.remove s k) := by
  unfold DQ.remove
  refine SafeR.bind (TO.remove_to h k) fun r hr => ?_
  obtain ⟨s1, _ | o⟩ := r
  · exact SafeR.pure hr
  · exact SafeR.ite (fun _ => SafeR.bind (upHeapify_to hr _) fun _ hs' => SafeR.pure hs') fun _ => SafeR.pure hr

theorem popMin_to {s : Store P} (h : s.TablesOnlyWF) : SafeR (fun r => r.1.TablesOnlyWF) (DQ.popMin s) := by
  unfold DQ.popMin
  rcases findMin_cases s with he | ⟨h0, he⟩
  · rw [he]
    exact SafeR.pure h
  · rw [he]
    refine SafeR.bind (swapRemove_to h h0) fun r hr => ?_
    obtain ⟨s1, o⟩ := r
    exact SafeR.bind (heapify_to hr.1 0) fun _ h2 => SafeR.pure h2

theorem popMinIf_to {s : Store P} (h : s.TablesOnlyWF) (f : Item → P → Bool × Item × P) :
    SafeR (fun r => r.1.TablesOnlyWF) (DQ.popMinIf s f) := by
  unfold DQ.popMinIf
  rcases findMin_cases s with he | ⟨h0, he⟩
  · rw [he]
    exact SafeR.pure h
  · rw [he]
    refine SafeR.bind (swapRemoveIf_to f h h0) fun r hr => ?_
    obtain ⟨s1, o⟩ := r
    exact SafeR.bind (heapify_to hr.1 0) fun _ h2 => SafeR.pure h2

theorem peekMinMutWrite_to {s : Store P} (h : s.TablesOnlyWF) (w : Item → Item) :
    SafeR (fun r => r.1.TablesOnlyWF) (DQ.peekMinMutWrite s w) := by
  unfold DQ.peekMinMutWrite
  rcases findMin_cases s with he | ⟨h0, he⟩
  · rw [he]
    exact SafeR.pure h
  · rw [he]
    exact peekWrite_to h h0 329 w

theorem popMax_to {s : Store P} (h : s.TablesOnlyWF) : SafeR (fun r => r.1.TablesOnlyWF) (DQ.popMax s) := by
  unfold DQ.popMax
  refine SafeR.bind (findMax_to h) fun r hr => ?_
  obtain ⟨s0, _ | i⟩ := r
  · exact SafeR.pure hr.1
  · refine SafeR.bind (swapRemove_to hr.1 (hr.2 _ rfl)) fun r hr1 => ?_
    obtain ⟨s1, o⟩ := r
    exact SafeR.bind (heapify_to hr1.1 _) fun _ h2 => SafeR.pure h2

theorem popMaxIf_to {s : Store P} (h : s.TablesOnlyWF) (f : Item → P → Bool × Item × P) :
    SafeR (fun r => r.1.TablesOnlyWF) (DQ.popMaxIf s f) := by
  unfold DQ.popMaxIf
  refine SafeR.bind (findMax_to h) fun r hr => ?_
  obtain ⟨s0, _ | i⟩ := r
  · exact SafeR.pure hr.1
  · refine SafeR.bind (swapRemoveIf_to f hr.1 (hr.2 _ rfl)) fun r hr1 => ?_
    obtain ⟨s1, o⟩ := r
    exact SafeR.bind (upHeapify_to hr1.1 _) fun _ h2 => SafeR.pure h2

theorem peekMaxMutWrite_to {s : Store P} (h : s.TablesOnlyWF) (w : Item → Item) :
    SafeR (fun r => r.1.TablesOnlyWF) (DQ.peekMaxMutWrite s w) := by
  unfold DQ.peekMaxMutWrite
  refine SafeR.bind (findMax_to h) fun r hr => ?_
  obtain ⟨s0, _ | i⟩ := r
  · exact SafeR.pure hr.1
  · exact peekWrite_to hr.1 (hr.2 _ rfl) 330 w

theorem retainMut_to {s : Store P} (h : s.TablesOnlyWF) (f : Item → P → Bool × Item × P) :
    SafeR Store.TablesOnlyWF (DQ.retainMut s f) := heapBuild_to (towf_retainMut h f)

theorem append_to {s o : Store P} (h : s.TablesOnlyWF) (ho : o.TablesOnlyWF) :
    SafeR (fun r => r.1.TablesOnlyWF) (DQ.append s o) :=
  SafeR.bind (heapBuild_to (towf_append h ho)) fun _ hs' => SafeR.pure hs'

theorem ofStore_to {s : Store P} (h : s.TablesOnlyWF) : SafeR Store.TablesOnlyWF (DQ.ofStore s) := heapBuild_to h

theorem pushAll_to : ∀ (es : List (Item × P)) {s : Store P}, s.TablesOnlyWF →
    SafeR Store.TablesOnlyWF (DQ.pushAll es s) := by
  intro es
  induction es with
  | nil => intro s h; exact SafeR.pure h
  | cons e es ih =>
    intro s h
    unfold DQ.pushAll
    exact SafeR.bind (push_to h e.1 e.2) fun r hr => ih hr

theorem extend_to {s : Store P} {lo : Nat} (h : s.TablesOnlyWF) (hlo : lo < capLimit) (xs : Array (Item × P)) :
    SafeR Store.TablesOnlyWF (DQ.extend s lo xs) := by
  unfold DQ.extend
  rw [reserveC_bind_of_lt _ hlo]
  exact SafeR.ite (fun _ => heapBuild_to (towf_extend h xs)) fun _ => pushAll_to xs.toList h

/-! ## Non-vacuity: concrete tables-only stores whose map is shorter than the tables -/

/-- three positions, two entries -/
def exShort : Store Nat :=
  { map := #[(⟨7, 0⟩, 5), (⟨8, 0⟩, 3)], heap := #[1, 0, 2], qp := #[1, 0, 2], size := 3 }

/-- four positions, three entries -/
def exShort4 : Store Nat :=
  { map := #[(⟨7, 0⟩, 5), (⟨8, 0⟩, 3), (⟨9, 0⟩, 4)], heap := #[1, 0, 2, 3], qp := #[1, 0, 2, 3], size := 4 }

example : exShort.TablesOnlyWF ∧ exShort.map.size < exShort.size := by decide
example : exShort4.TablesOnlyWF ∧ exShort4.map.size < exShort4.size := by decide
/-- the hypotheses of the procedures (`Tab`, `Hole`) hold of it -/
example : Tab exShort 3 ∧ exShort.size = 3 ∧ Hole exShort 3 2 2 :=
  have ht : Tab exShort 3 := (towf_iff.1 (by decide : exShort.TablesOnlyWF)).1
  ⟨ht, rfl, ht.toHole (by decide)⟩
def faultOf {α : Type} : R α → Option Fault
  | .ok _ => none
  | .error f => some f

/-- both outcomes occur: an ordinary `unwrap` panic … -/
example : faultOf (DQ.popMin exShort) = some (.unwrapNone 106) := by decide +kernel
example : faultOf (DQ.push exShort ⟨10, 1⟩ 9) = some (.unwrapNone 310) := by decide +kernel
example : faultOf (DQ.remove exShort4 9) = some (.unwrapNone 310) := by decide +kernel
example : faultOf (DQ.ofStore exShort) = some (.unwrapNone 303) := by decide +kernel
/-- … or a normal return in a tables-only state (the map is still shorter than the tables) -/
example : (DQ.push exShort ⟨7, 1⟩ 9).toOption.map (fun r => decide (r.1.TablesOnlyWF ∧ r.1.map.size < r.1.size)) =
    some true := by decide +kernel
example : (DQ.popMax exShort4).toOption.map (fun r => decide (r.1.TablesOnlyWF ∧ r.1.map.size < r.1.size)) =
    some true := by decide +kernel
example : (DQ.remove exShort4 7).toOption.map (fun r => decide (r.1.TablesOnlyWF ∧ r.1.map.size < r.1.size)) =
    some true := by decide +kernel

end DQ
end TO
end PQ
