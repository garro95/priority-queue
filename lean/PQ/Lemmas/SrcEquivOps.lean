import PQ.Lemmas.SrcEquivStore
import PQ.Lemmas.SrcEquivDQ
/-!
# Source-translated tie: `pop`, `remove`, `find_min`, `pop_min`, `pop_max` (wrappers that need no item / `Option<P>` values
in the IR)

`PriorityQueue::{pop, remove}`, `DoublePriorityQueue::{find_min, pop_min, pop_max, remove}`.
The results of `Store::swap_remove` / `Store::remove` (which contain an item and a priority) are passed through
value registers untouched.
-/
set_option linter.unusedSimpArgs false
set_option linter.unusedSectionVars false
namespace PQ.SrcEquiv
open PQ PQ.Src PQ.SrcGen

variable {P : Type} [LT P] [DecidableLT P]

theorem call_storeSwapRemove (s : Store P) (pos n : Nat) :
    callWith (exec prog (n + 1)) prog .storeSwapRemove s [pos] [] []
      = (fun r => (r.1, Val.optEntry r.2)) <$> s.swapRemove pos :=
  storeSwapRemove s pos (n + 1) (by omega)

theorem call_storeRemove (s : Store P) (k n : Nat) :
    callWith (exec prog (n + 1)) prog .storeRemove s [k] [] []
      = (fun r => (r.1, Val.optRemoved r.2)) <$> s.remove k :=
  storeRemove s k (n + 1) (by omega)

theorem decC_post (x site : Nat) : Post (decC x site) (fun y => y + 1 = x) := by
  unfold decC
  split
  · intro b hb; cases hb
  · intro b hb; cases hb; omega

theorem swapRemove_post_size (s : Store P) (pos : Nat) :
    Post (s.swapRemove pos) (fun r => r.1.size + 1 = s.size) := by
  unfold Store.swapRemove
  refine Post.bind (Post.triv _) fun x _ => Post.bind (decC_post _ _) fun size hsz => ?_
  repeat' (first
    | exact Post.pure hsz
    | (refine Post.bind (Post.triv _) fun _ _ => ?_)
    | (refine Post.ite (fun _ => ?_) (fun _ => ?_))
    | split
    | (dsimp only))

theorem remove_post_size (s : Store P) (k : Nat) :
    Post (s.remove k) (fun r => ∀ x, r.2 = some x → r.1.size + 1 = s.size) := by
  unfold Store.remove
  split
  · exact Post.pure (fun x hx => by cases hx)
  · refine Post.bind (decC_post _ _) fun size hsz => ?_
    repeat' (first
      | exact Post.pure (fun _ _ => hsz)
      | (refine Post.bind (Post.triv _) fun _ _ => ?_)
      | (refine Post.ite (fun _ => ?_) (fun _ => ?_))
      | split
      | (dsimp only))

/-! ## `DoublePriorityQueue::find_min` -/

/-- `DoublePriorityQueue::find_min` = `DQ.findMin` -/
theorem dqFindMin (s : Store P) (fuel : Nat) (h : fuel ≥ 1) :
    Src.run SrcGen.prog fuel .dqFindMin s [] = pure (s, Val.optNat (DQ.findMin s)) := by
  rw [run_eq_pos rfl h]
  unfold DQ.findMin
  by_cases h0 : s.size = 0
  · src_eval [dqFindMin_body, h0]
  · src_eval [dqFindMin_body, h0]

theorem call_dqFindMin (s : Store P) (n : Nat) :
    callWith (exec prog (n + 1)) prog .dqFindMin s [] [] [] = pure (s, Val.optNat (DQ.findMin s)) :=
  dqFindMin s (n + 1) (by omega)

theorem call_dqFindMax (s : Store P) (n : Nat) :
    callWith (exec prog (n + 2)) prog .dqFindMax s [] [] [] = (fun r => (r.1, Val.optNat r.2)) <$> DQ.findMax s :=
  dqFindMax s (n + 2) (by omega)

/-! ## `PriorityQueue::pop` -/

/-- `PriorityQueue::pop` = `MaxQ.pop` -/
theorem pqPop (s : Store P) (fuel : Nat) (h : fuel ≥ s.size + 3) :
    Src.run SrcGen.prog fuel .pqPop s [] = (fun r => (r.1, Val.optEntry r.2)) <$> MaxQ.pop s := by
  obtain ⟨k, rfl⟩ : ∃ k, fuel = k + 2 := ⟨fuel - 2, by omega⟩
  src_enter
  unfold MaxQ.pop
  obtain h0 | h1 | ⟨n, hn⟩ : s.size = 0 ∨ s.size = 1 ∨ ∃ n, s.size = n + 2 := by
    by_cases h0 : s.size = 0
    · exact Or.inl h0
    by_cases h1 : s.size = 1
    · exact Or.inr (Or.inl h1)
    exact Or.inr (Or.inr ⟨s.size - 2, by omega⟩)
  · src_eval [pqPop_body, h0]
  · src_eval [pqPop_body, h1, call_storeSwapRemove]
  · src_eval [pqPop_body, hn, call_storeSwapRemove]
    refine bind_congr_ok fun r hr => ?_
    have hsz := swapRemove_post_size s 0 r hr
    rw [call_pqHeapify _ _ _ (by simp only at hsz; omega)]
    src_eval

/-! ## `PriorityQueue::remove` -/

theorem call_pqUpHeapify (s : Store P) (i n : Nat) (h : n ≥ s.size + min i s.heap.size + 3) :
    callWith (exec prog n) prog .pqUpHeapify s [i] [] [] = (fun s' => (s', Val.unit)) <$> MaxQ.upHeapify s i :=
  pqUpHeapify s i n h

/-- `PriorityQueue::remove` = `MaxQ.remove` -/
theorem pqRemove (s : Store P) (k : Nat) (fuel : Nat) (h : fuel ≥ 2 * s.size + 4) :
    Src.run SrcGen.prog fuel .pqRemove s [k] = (fun r => (r.1, Val.optEntry r.2)) <$> MaxQ.remove s k := by
  obtain ⟨n, rfl⟩ : ∃ n, fuel = n + 2 := ⟨fuel - 2, by omega⟩
  src_enter
  unfold MaxQ.remove
  src_eval [pqRemove_body, call_storeRemove]
  refine bind_congr_ok fun r hr => ?_
  have hsz := remove_post_size s k r hr
  obtain ⟨s', res⟩ := r
  cases res with
  | none => src_eval
  | some x =>
    obtain ⟨it, p, pos⟩ := x
    have hsz' := hsz _ rfl
    simp only at hsz'
    src_eval
    by_cases hlt : pos < s'.size
    · simp only [hlt, ↓reduceIte]
      rw [call_pqUpHeapify _ _ _ (by omega)]
      src_eval
    · simp only [hlt, ↓reduceIte]

/-! ## `DoublePriorityQueue::{pop_min, pop_max, remove}` -/

/-- `DoublePriorityQueue::pop_min` = `DQ.popMin` -/
theorem dqPopMin (s : Store P) (fuel : Nat) (h : fuel ≥ s.size + 4) :
    Src.run SrcGen.prog fuel .dqPopMin s [] = (fun r => (r.1, Val.optEntry r.2)) <$> DQ.popMin s := by
  obtain ⟨k, rfl⟩ : ∃ k, fuel = k + 2 := ⟨fuel - 2, by omega⟩
  src_enter
  unfold DQ.popMin
  src_eval [dqPopMin_body, call_dqFindMin]
  cases hf : DQ.findMin s with
  | none => src_eval
  | some i =>
    src_eval [call_storeSwapRemove]
    refine bind_congr_ok fun r hr => ?_
    have hsz := swapRemove_post_size s i r hr
    rw [call_dqHeapify _ _ _ (by simp only at hsz; omega)]
    src_eval

theorem findMax_post (s : Store P) :
    Post (DQ.findMax s) (fun r => r.1.size = s.size ∧ ∀ i, r.2 = some i → i ≤ 2) := by
  unfold DQ.findMax
  split
  · exact Post.pure ⟨rfl, fun i hi => by cases hi⟩
  · exact Post.pure ⟨rfl, fun i hi => by cases hi; omega⟩
  · exact Post.pure ⟨rfl, fun i hi => by cases hi; omega⟩
  · refine Post.bind (Post.triv _) fun _ _ => Post.bind (Post.triv _) fun _ _ => Post.pure ⟨rfl, fun i hi => ?_⟩
    simp only [Option.some.injEq] at hi
    split at hi <;> omega

/-- `DoublePriorityQueue::pop_max` = `DQ.popMax` -/
theorem dqPopMax (s : Store P) (fuel : Nat) (h : fuel ≥ s.size + 4) :
    Src.run SrcGen.prog fuel .dqPopMax s [] = (fun r => (r.1, Val.optEntry r.2)) <$> DQ.popMax s := by
  obtain ⟨k, rfl⟩ : ∃ k, fuel = k + 3 := ⟨fuel - 3, by omega⟩
  src_enter
  unfold DQ.popMax
  src_eval [dqPopMax_body, call_dqFindMax]
  refine bind_congr_ok fun fm hfm => ?_
  obtain ⟨s1, res⟩ := fm
  have hs1 : s1.size = s.size := (findMax_post s _ hfm).1
  cases res with
  | none => src_eval
  | some i =>
    src_eval [call_storeSwapRemove]
    refine bind_congr_ok fun r hr => ?_
    have hsz := swapRemove_post_size s1 i r hr
    rw [call_dqHeapify _ _ _ (by simp only at hsz; omega)]
    src_eval

theorem call_dqUpHeapify (s : Store P) (i n : Nat) (h : n ≥ s.size + min i s.heap.size + 4) :
    callWith (exec prog n) prog .dqUpHeapify s [i] [] [] = (fun s' => (s', Val.unit)) <$> DQ.upHeapify s i :=
  dqUpHeapify s i n h

/-- `DoublePriorityQueue::remove` = `DQ.remove` -/
theorem dqRemove (s : Store P) (k : Nat) (fuel : Nat) (h : fuel ≥ 2 * s.size + 5) :
    Src.run SrcGen.prog fuel .dqRemove s [k] = (fun r => (r.1, Val.optEntry r.2)) <$> DQ.remove s k := by
  obtain ⟨n, rfl⟩ : ∃ n, fuel = n + 2 := ⟨fuel - 2, by omega⟩
  src_enter
  unfold DQ.remove
  src_eval [dqRemove_body, call_storeRemove]
  refine bind_congr_ok fun r hr => ?_
  have hsz := remove_post_size s k r hr
  obtain ⟨s', res⟩ := r
  cases res with
  | none => src_eval
  | some x =>
    obtain ⟨it, p, pos⟩ := x
    have hsz' := hsz _ rfl
    simp only at hsz'
    src_eval
    by_cases hlt : pos < s'.size
    · simp only [hlt, ↓reduceIte]
      rw [call_dqUpHeapify _ _ _ (by omega)]
      src_eval
    · simp only [hlt, ↓reduceIte]

end PQ.SrcEquiv
