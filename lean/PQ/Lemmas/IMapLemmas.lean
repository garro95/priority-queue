import PQ.Lemmas.Defs
/-!
# Library about the insertion-ordered map model `IMap P = Array (Item × P)`

Everything is stated with `getElem?` (`m[i]? = some e`).  Sections:
`find?`, `NoDupKeys`, `getFull`/`contains`/`lookup`, then one section per mutator
(`setIfInBounds`, `setPrio`, `setItem`, `push`, `insertFull`, `swapRemoveIndex`, `swapRemoveFull`, `retain`).
-/
namespace PQ.IMap
variable {P : Type}

/-! ## `find?` -/

/-- `find?` returns the first slot holding the key. -/
theorem find?_eq_some_iff {m : IMap P} {k i : Nat} :
    find? m k = some i ↔
      (∃ e : Item × P, m[i]? = some e ∧ e.1.key = k) ∧
        ∀ (j : Nat), j < i → ∀ e : Item × P, m[j]? = some e → e.1.key ≠ k := by
  unfold find?
  rw [Array.findIdx?_eq_some_iff_getElem]
  constructor
  · rintro ⟨h, hp, hlt⟩
    refine ⟨⟨m[i], by simp [h], by simpa using hp⟩, ?_⟩
    intro j hj e he
    obtain ⟨hjs, rfl⟩ := Array.getElem?_eq_some_iff.1 he
    simpa using hlt j hj
  · rintro ⟨⟨e, he, hk⟩, hlt⟩
    obtain ⟨h, rfl⟩ := Array.getElem?_eq_some_iff.1 he
    refine ⟨h, by simpa using hk, ?_⟩
    intro j hj
    have hjs : j < m.size := by omega
    simpa using hlt j hj m[j] (by simp [hjs])

theorem find?_eq_none_iff {m : IMap P} {k : Nat} :
    find? m k = none ↔ ∀ (i : Nat) (e : Item × P), m[i]? = some e → e.1.key ≠ k := by
  unfold find?
  rw [Array.findIdx?_eq_none_iff]
  constructor
  · intro h i e he
    have := h e (Array.mem_iff_getElem?.2 ⟨i, he⟩)
    simpa using this
  · intro h e he
    obtain ⟨i, hi⟩ := Array.mem_iff_getElem?.1 he
    simpa using h i e hi

theorem find?_lt_size {m : IMap P} {k i : Nat} (h : find? m k = some i) : i < m.size := by
  obtain ⟨⟨e, he, _⟩, _⟩ := find?_eq_some_iff.1 h
  exact (Array.getElem?_eq_some_iff.1 he).1

/-- the entry in the slot returned by `find?` -/
theorem find?_getElem? {m : IMap P} {k i : Nat} (h : find? m k = some i) :
    ∃ e : Item × P, m[i]? = some e ∧ e.1.key = k := (find?_eq_some_iff.1 h).1

theorem find?_isSome_iff {m : IMap P} {k : Nat} :
    (find? m k).isSome = true ↔ ∃ (i : Nat) (e : Item × P), m[i]? = some e ∧ e.1.key = k := by
  constructor
  · intro h
    obtain ⟨i, hi⟩ := Option.isSome_iff_exists.1 h
    exact ⟨i, find?_getElem? hi⟩
  · rintro ⟨i, e, he, hk⟩
    cases hf : find? m k with
    | some j => rfl
    | none => exact absurd hk (find?_eq_none_iff.1 hf i e he)

/-- list form of `find?` (useful for evaluation: `Array.findIdx?` is defined by well-founded recursion and
does not reduce under plain `decide`; use this rewrite or `decide +kernel`) -/
theorem find?_eq_toList (m : IMap P) (k : Nat) :
    find? m k = m.toList.findIdx? (fun e => e.1.key == k) := by
  unfold find?
  cases m with
  | mk l => exact List.findIdx?_toArray _ l

/-- under `NoDupKeys` the slot of a key is *the* slot with that key -/
theorem find?_eq_some_iff_of_noDup {m : IMap P} (hm : NoDupKeys m) {k i : Nat} :
    find? m k = some i ↔ ∃ e : Item × P, m[i]? = some e ∧ e.1.key = k := by
  rw [find?_eq_some_iff]
  constructor
  · exact fun h => h.1
  · rintro ⟨e, he, hk⟩
    refine ⟨⟨e, he, hk⟩, ?_⟩
    intro j hj e' he' hk'
    have := hm i j e e' he he' (hk.trans hk'.symm)
    omega

/-- `find?` only looks at the sequence of keys. -/
theorem find?_congr_keys {m m' : IMap P}
    (h : ∀ j : Nat, (m'[j]?).map (fun e : Item × P => e.1.key) = (m[j]?).map (fun e : Item × P => e.1.key)) (k : Nat) :
    find? m' k = find? m k := by
  have key : ∀ (a b : IMap P), (∀ j : Nat, (a[j]?).map (fun e : Item × P => e.1.key) = (b[j]?).map (fun e : Item × P => e.1.key)) →
      ∀ i, find? a k = some i → find? b k = some i := by
    intro a b hab i hi
    obtain ⟨⟨e, he, hk⟩, hlt⟩ := find?_eq_some_iff.1 hi
    rw [find?_eq_some_iff]
    constructor
    · have := hab i
      rw [he] at this
      cases hb : b[i]? with
      | none => simp [hb] at this
      | some e' =>
        rw [hb] at this
        refine ⟨e', rfl, ?_⟩
        simp at this
        omega
    · intro j hj e' he'
      have := hab j
      rw [he'] at this
      cases ha : a[j]? with
      | none => simp [ha] at this
      | some e'' =>
        rw [ha] at this
        simp at this
        have := hlt j hj e'' ha
        omega
  cases h1 : find? m k with
  | some i => exact key m m' (fun j => (h j).symm) i h1
  | none =>
    cases h2 : find? m' k with
    | none => rfl
    | some i => rw [key m' m h i h2] at h1; cases h1

/-! ## `NoDupKeys` -/

theorem NoDupKeys.empty : NoDupKeys (#[] : IMap P) := by
  intro i j a b ha; simp at ha

/-- list form: the keys are pairwise distinct -/
theorem noDupKeys_iff_pairwise {m : IMap P} :
    NoDupKeys m ↔ m.toList.Pairwise (fun a b => a.1.key ≠ b.1.key) := by
  rw [List.pairwise_iff_getElem]
  constructor
  · intro h i j hi hj hij heq
    have := h i j m.toList[i] m.toList[j] (by rw [← Array.getElem?_toList]; exact List.getElem?_eq_getElem hi)
      (by rw [← Array.getElem?_toList]; exact List.getElem?_eq_getElem hj) heq
    omega
  · intro h i j a b ha hb hab
    rw [← Array.getElem?_toList] at ha hb
    obtain ⟨hi, rfl⟩ := List.getElem?_eq_some_iff.1 ha
    obtain ⟨hj, rfl⟩ := List.getElem?_eq_some_iff.1 hb
    rcases Nat.lt_trichotomy i j with hij | hij | hij
    · exact absurd hab (h i j hi hj hij)
    · exact hij
    · exact absurd hab.symm (h j i hj hi hij)

/-- list form: the list of keys has no duplicates -/
theorem noDupKeys_iff_nodup {m : IMap P} :
    NoDupKeys m ↔ (m.toList.map (·.1.key)).Nodup := by
  rw [noDupKeys_iff_pairwise, List.Nodup, List.pairwise_map]

/-- a map with the same size and the same keys slot by slot has the same `NoDupKeys` status -/
theorem NoDupKeys.congr_keys {m m' : IMap P} (hm : NoDupKeys m)
    (h : ∀ j : Nat, (m'[j]?).map (fun e : Item × P => e.1.key) = (m[j]?).map (fun e : Item × P => e.1.key)) : NoDupKeys m' := by
  intro i j a b ha hb hab
  have hi := h i
  have hj := h j
  rw [ha] at hi
  rw [hb] at hj
  cases hai : m[i]? with
  | none => simp [hai] at hi
  | some a' =>
    cases hbj : m[j]? with
    | none => simp [hbj] at hj
    | some b' =>
      rw [hai] at hi; rw [hbj] at hj
      simp at hi hj
      exact hm i j a' b' hai hbj (by omega)

/-! ## `getFull`, `contains`, `lookup` -/

theorem getFull_eq (m : IMap P) (k : Nat) :
    getFull m k = (find? m k).bind fun i => (m[i]?).map fun e => (i, e.1, e.2) := by
  unfold getFull
  cases find? m k with
  | none => rfl
  | some i =>
    simp only [Option.bind_some]
    split <;> simp [*]

theorem getFull_eq_some_iff {m : IMap P} {k i : Nat} {it : Item} {p : P} :
    getFull m k = some (i, it, p) ↔ find? m k = some i ∧ m[i]? = some (it, p) := by
  rw [getFull_eq]
  cases hf : find? m k with
  | none => simp
  | some j =>
    cases hj : m[j]? with
    | none =>
      simp only [Option.bind_some, hj, Option.map_none, reduceCtorEq, Option.some.injEq, false_iff, not_and]
      rintro rfl; simp [hj]
    | some e =>
      simp only [Option.bind_some, hj, Option.map_some, Option.some.injEq, Prod.mk.injEq]
      constructor
      · rintro ⟨rfl, rfl, rfl⟩; simp [hj]
      · rintro ⟨rfl, h⟩; rw [hj] at h; cases h; simp

theorem getFull_eq_none_iff {m : IMap P} {k : Nat} : getFull m k = none ↔ find? m k = none := by
  rw [getFull_eq]
  cases hf : find? m k with
  | none => simp
  | some j =>
    obtain ⟨e, he, _⟩ := find?_getElem? hf
    simp [he]

theorem contains_eq (m : IMap P) (k : Nat) : contains m k = (find? m k).isSome := rfl

theorem contains_eq_true_iff {m : IMap P} {k : Nat} :
    contains m k = true ↔ ∃ (i : Nat) (e : Item × P), m[i]? = some e ∧ e.1.key = k := find?_isSome_iff

theorem contains_eq_false_iff {m : IMap P} {k : Nat} :
    contains m k = false ↔ ∀ (i : Nat) (e : Item × P), m[i]? = some e → e.1.key ≠ k := by
  rw [contains_eq, ← find?_eq_none_iff]; cases find? m k <;> simp

/-- `lookup` is the entry in the slot that `find?` returns -/
theorem lookup_eq_find? (m : IMap P) (k : Nat) :
    lookup m k = (find? m k).bind fun i => m[i]? := by
  cases hf : find? m k with
  | none =>
    simp only [Option.bind_none]
    unfold lookup
    rw [List.find?_eq_none]
    intro x hx
    obtain ⟨i, hi⟩ := Array.mem_iff_getElem?.1 (Array.mem_toList_iff.1 hx)
    simpa using find?_eq_none_iff.1 hf i x hi
  | some i =>
    obtain ⟨⟨e, he, hk⟩, hlt⟩ := find?_eq_some_iff.1 hf
    simp only [Option.bind_some, he]
    unfold lookup
    rw [List.find?_eq_some_iff_getElem]
    obtain ⟨hi, rfl⟩ := Array.getElem?_eq_some_iff.1 he
    refine ⟨by simpa using hk, i, by simpa using hi, by simp, ?_⟩
    intro j hj
    have hjs : j < m.size := by omega
    simpa using hlt j hj m[j] (by simp [hjs])

theorem lookup_eq_some_iff_find? {m : IMap P} {k : Nat} {e : Item × P} :
    lookup m k = some e ↔ ∃ i, find? m k = some i ∧ m[i]? = some e := by
  rw [lookup_eq_find?]; cases find? m k <;> simp

theorem lookup_eq_none_iff {m : IMap P} {k : Nat} :
    lookup m k = none ↔ ∀ (i : Nat) (e : Item × P), m[i]? = some e → e.1.key ≠ k := by
  rw [← find?_eq_none_iff, lookup_eq_find?]
  cases hf : find? m k with
  | none => simp
  | some j =>
    obtain ⟨e, he, _⟩ := find?_getElem? hf
    simp [he]

theorem lookup_eq_none_iff_find? {m : IMap P} {k : Nat} : lookup m k = none ↔ find? m k = none := by
  rw [lookup_eq_none_iff, find?_eq_none_iff]

/-- what `lookup` returns is stored and has the requested key (no `NoDupKeys` needed) -/
theorem lookup_some {m : IMap P} {k : Nat} {e : Item × P} (h : lookup m k = some e) :
    (∃ i : Nat, m[i]? = some e) ∧ e.1.key = k := by
  obtain ⟨i, hf, he⟩ := lookup_eq_some_iff_find?.1 h
  obtain ⟨e', he', hk⟩ := find?_getElem? hf
  rw [he] at he'; cases he'
  exact ⟨⟨i, he⟩, hk⟩

theorem lookup_key {m : IMap P} {k : Nat} {e : Item × P} (h : lookup m k = some e) : e.1.key = k :=
  (lookup_some h).2

theorem lookup_eq_some_iff {m : IMap P} (hm : NoDupKeys m) {k : Nat} {e : Item × P} :
    lookup m k = some e ↔ ∃ i : Nat, m[i]? = some e ∧ e.1.key = k := by
  rw [lookup_eq_some_iff_find?]
  constructor
  · rintro ⟨i, hf, he⟩
    obtain ⟨e', he', hk⟩ := find?_getElem? hf
    rw [he] at he'; cases he'
    exact ⟨i, he, hk⟩
  · rintro ⟨i, he, hk⟩
    exact ⟨i, (find?_eq_some_iff_of_noDup hm).2 ⟨e, he, hk⟩, he⟩

/-- a stored entry is what `lookup` finds for its key -/
theorem lookup_of_getElem? {m : IMap P} (hm : NoDupKeys m) {i : Nat} {e : Item × P}
    (he : m[i]? = some e) : lookup m e.1.key = some e :=
  (lookup_eq_some_iff hm).2 ⟨i, he, rfl⟩

theorem lookup_isSome_eq_contains (m : IMap P) (k : Nat) : (lookup m k).isSome = contains m k := by
  rw [contains_eq]
  cases hf : find? m k with
  | none => rw [lookup_eq_none_iff_find?.2 hf]; rfl
  | some i =>
    cases hl : lookup m k with
    | some e => rfl
    | none => rw [lookup_eq_none_iff_find?.1 hl] at hf; cases hf

theorem getFull_map_eq_lookup (m : IMap P) (k : Nat) :
    (getFull m k).map (fun r => (r.2.1, r.2.2)) = lookup m k := by
  rw [getFull_eq, lookup_eq_find?]
  cases find? m k with
  | none => rfl
  | some i =>
    simp only [Option.bind_some, Option.map_map]
    cases h : m[i]? <;> simp

theorem getFull_eq_some_iff_lookup {m : IMap P} {k i : Nat} {it : Item} {p : P} :
    getFull m k = some (i, it, p) ↔ find? m k = some i ∧ lookup m k = some (it, p) := by
  rw [getFull_eq_some_iff, lookup_eq_find?]
  constructor
  · rintro ⟨h1, h2⟩; simp [h1, h2]
  · rintro ⟨h1, h2⟩; rw [h1] at h2; exact ⟨h1, by simpa using h2⟩

/-- two maps with `NoDupKeys` have the same `lookup` when they hold the same set of entries -/
theorem lookup_congr_of_mem {m m' : IMap P} (hm : NoDupKeys m) (hm' : NoDupKeys m')
    (h : ∀ e : Item × P, (∃ i : Nat, m[i]? = some e) ↔ (∃ i : Nat, m'[i]? = some e)) (k : Nat) :
    lookup m k = lookup m' k := by
  apply Option.ext
  intro e
  rw [lookup_eq_some_iff hm, lookup_eq_some_iff hm']
  constructor
  · rintro ⟨i, he, hk⟩; obtain ⟨j, hj⟩ := (h e).1 ⟨i, he⟩; exact ⟨j, hj, hk⟩
  · rintro ⟨i, he, hk⟩; obtain ⟨j, hj⟩ := (h e).2 ⟨i, he⟩; exact ⟨j, hj, hk⟩

/-! ## `Array.setIfInBounds` replacing an entry by one with the same key -/

/-- replacing slot `i` by an entry with the same key leaves the key sequence unchanged -/
theorem keys_setIfInBounds {m : IMap P} {i : Nat} {e e' : Item × P} (he : m[i]? = some e)
    (hk : e'.1.key = e.1.key) (j : Nat) :
    ((m.setIfInBounds i e')[j]?).map (fun x : Item × P => x.1.key) = (m[j]?).map (fun x : Item × P => x.1.key) := by
  rw [Array.getElem?_setIfInBounds]
  have hi := (Array.getElem?_eq_some_iff.1 he).1
  by_cases hij : i = j
  · subst hij; rw [if_pos rfl, if_pos hi, he]; simp [hk]
  · rw [if_neg hij]

theorem find?_setIfInBounds {m : IMap P} {i : Nat} {e e' : Item × P} (he : m[i]? = some e)
    (hk : e'.1.key = e.1.key) (k : Nat) : find? (m.setIfInBounds i e') k = find? m k :=
  find?_congr_keys (keys_setIfInBounds he hk) k

theorem NoDupKeys.setIfInBounds {m : IMap P} (hm : NoDupKeys m) {i : Nat} {e e' : Item × P}
    (he : m[i]? = some e) (hk : e'.1.key = e.1.key) : NoDupKeys (m.setIfInBounds i e') :=
  hm.congr_keys (keys_setIfInBounds he hk)

/-- no `NoDupKeys` needed: the overwritten slot is seen by `lookup` iff it is the first slot of the key -/
theorem lookup_setIfInBounds' {m : IMap P} {i : Nat} {e e' : Item × P} (he : m[i]? = some e)
    (hk : e'.1.key = e.1.key) (k : Nat) :
    lookup (m.setIfInBounds i e') k = if find? m k = some i then some e' else lookup m k := by
  rw [lookup_eq_find?, find?_setIfInBounds he hk, lookup_eq_find?]
  have hi := (Array.getElem?_eq_some_iff.1 he).1
  cases hf : find? m k with
  | none => simp
  | some j =>
    simp only [Option.bind_some, Array.getElem?_setIfInBounds, Option.some.injEq]
    by_cases hij : i = j
    · subst hij; simp [hi]
    · have : ¬ j = i := fun h => hij h.symm
      simp [hij, this]

theorem lookup_setIfInBounds {m : IMap P} (hm : NoDupKeys m) {i : Nat} {e e' : Item × P}
    (he : m[i]? = some e) (hk : e'.1.key = e.1.key) (k : Nat) :
    lookup (m.setIfInBounds i e') k = if k = e.1.key then some e' else lookup m k := by
  rw [lookup_setIfInBounds' he hk]
  have : find? m k = some i ↔ k = e.1.key := by
    rw [find?_eq_some_iff_of_noDup hm]
    constructor
    · rintro ⟨x, hx, hxk⟩; rw [he] at hx; cases hx; exact hxk.symm
    · intro h; exact ⟨e, he, h.symm⟩
  simp only [this]

/-! ## `setPrio` -/

theorem setPrio_of_getElem? {m : IMap P} {i : Nat} {e : Item × P} (he : m[i]? = some e) (p : P) :
    setPrio m i p = m.setIfInBounds i (e.1, p) := by
  unfold setPrio; rw [he]

theorem setPrio_of_le {m : IMap P} {i : Nat} (h : m.size ≤ i) (p : P) : setPrio m i p = m := by
  unfold setPrio; rw [Array.getElem?_eq_none h]

@[simp] theorem size_setPrio (m : IMap P) (i : Nat) (p : P) : (setPrio m i p).size = m.size := by
  unfold setPrio; split <;> simp

theorem getElem?_setPrio (m : IMap P) (i j : Nat) (p : P) :
    (setPrio m i p)[j]? = if i = j then (m[j]?).map (fun e => (e.1, p)) else m[j]? := by
  cases h : m[i]? with
  | none =>
    rw [setPrio_of_le (Array.getElem?_eq_none_iff.1 h)]
    split
    · subst_vars; simp [h]
    · rfl
  | some e =>
    rw [setPrio_of_getElem? h, Array.getElem?_setIfInBounds]
    have hi := (Array.getElem?_eq_some_iff.1 h).1
    by_cases hij : i = j
    · subst hij; rw [if_pos rfl, if_pos hi, if_pos rfl, h]; rfl
    · rw [if_neg hij, if_neg hij]

@[simp] theorem getElem?_setPrio_self (m : IMap P) (i : Nat) (p : P) :
    (setPrio m i p)[i]? = (m[i]?).map (fun e => (e.1, p)) := by
  simp [getElem?_setPrio]

theorem getElem?_setPrio_ne (m : IMap P) {i j : Nat} (h : i ≠ j) (p : P) :
    (setPrio m i p)[j]? = m[j]? := by
  simp [getElem?_setPrio, h]

theorem keys_setPrio (m : IMap P) (i : Nat) (p : P) (j : Nat) :
    ((setPrio m i p)[j]?).map (fun x : Item × P => x.1.key) = (m[j]?).map (fun x : Item × P => x.1.key) := by
  rw [getElem?_setPrio]; split
  · cases m[j]? <;> rfl
  · rfl

@[simp] theorem find?_setPrio (m : IMap P) (i : Nat) (p : P) (k : Nat) :
    find? (setPrio m i p) k = find? m k := find?_congr_keys (keys_setPrio m i p) k

@[simp] theorem contains_setPrio (m : IMap P) (i : Nat) (p : P) (k : Nat) :
    contains (setPrio m i p) k = contains m k := by simp [contains_eq]

theorem NoDupKeys.setPrio {m : IMap P} (hm : NoDupKeys m) (i : Nat) (p : P) : NoDupKeys (setPrio m i p) :=
  hm.congr_keys (keys_setPrio m i p)

theorem lookup_setPrio {m : IMap P} (hm : NoDupKeys m) {i : Nat} {e : Item × P} (he : m[i]? = some e)
    (p : P) (k : Nat) :
    lookup (setPrio m i p) k = if k = e.1.key then some (e.1, p) else lookup m k := by
  rw [setPrio_of_getElem? he, lookup_setIfInBounds hm he (e' := (e.1, p)) rfl]

/-! ## `setItem` -/

theorem setItem_of_getElem? {m : IMap P} {i : Nat} {e : Item × P} (he : m[i]? = some e) (it : Item) :
    setItem m i it = m.setIfInBounds i (it, e.2) := by
  unfold setItem; rw [he]

theorem setItem_of_le {m : IMap P} {i : Nat} (h : m.size ≤ i) (it : Item) : setItem m i it = m := by
  unfold setItem; rw [Array.getElem?_eq_none h]

@[simp] theorem size_setItem (m : IMap P) (i : Nat) (it : Item) : (setItem m i it).size = m.size := by
  unfold setItem; split <;> simp

theorem getElem?_setItem (m : IMap P) (i j : Nat) (it : Item) :
    (setItem m i it)[j]? = if i = j then (m[j]?).map (fun e => (it, e.2)) else m[j]? := by
  cases h : m[i]? with
  | none =>
    rw [setItem_of_le (Array.getElem?_eq_none_iff.1 h)]
    split
    · subst_vars; simp [h]
    · rfl
  | some e =>
    rw [setItem_of_getElem? h, Array.getElem?_setIfInBounds]
    have hi := (Array.getElem?_eq_some_iff.1 h).1
    by_cases hij : i = j
    · subst hij; rw [if_pos rfl, if_pos hi, if_pos rfl, h]; rfl
    · rw [if_neg hij, if_neg hij]

@[simp] theorem getElem?_setItem_self (m : IMap P) (i : Nat) (it : Item) :
    (setItem m i it)[i]? = (m[i]?).map (fun e => (it, e.2)) := by
  simp [getElem?_setItem]

theorem getElem?_setItem_ne (m : IMap P) {i j : Nat} (h : i ≠ j) (it : Item) :
    (setItem m i it)[j]? = m[j]? := by
  simp [getElem?_setItem, h]

/-- `setItem` with an item of the same key as the stored one keeps the key sequence -/
theorem keys_setItem {m : IMap P} {i : Nat} {it : Item}
    (hk : ∀ e : Item × P, m[i]? = some e → it.key = e.1.key) (j : Nat) :
    ((setItem m i it)[j]?).map (fun x : Item × P => x.1.key) = (m[j]?).map (fun x : Item × P => x.1.key) := by
  rw [getElem?_setItem]
  by_cases hij : i = j
  · subst hij
    rw [if_pos rfl]
    cases h : m[i]? with
    | none => rfl
    | some e => simp [hk e h]
  · rw [if_neg hij]

theorem find?_setItem {m : IMap P} {i : Nat} {it : Item}
    (hk : ∀ e : Item × P, m[i]? = some e → it.key = e.1.key) (k : Nat) :
    find? (setItem m i it) k = find? m k := find?_congr_keys (keys_setItem hk) k

theorem NoDupKeys.setItem {m : IMap P} (hm : NoDupKeys m) {i : Nat} {it : Item}
    (hk : ∀ e : Item × P, m[i]? = some e → it.key = e.1.key) : NoDupKeys (setItem m i it) :=
  hm.congr_keys (keys_setItem hk)

theorem lookup_setItem {m : IMap P} (hm : NoDupKeys m) {i : Nat} {e : Item × P} (he : m[i]? = some e)
    {it : Item} (hk : it.key = e.1.key) (k : Nat) :
    lookup (setItem m i it) k = if k = e.1.key then some (it, e.2) else lookup m k := by
  rw [setItem_of_getElem? he, lookup_setIfInBounds hm he hk]

/-! ## `push` of a fresh key -/

theorem find?_push (m : IMap P) (e : Item × P) (k : Nat) :
    find? (m.push e) k = (find? m k).or (if e.1.key = k then some m.size else none) := by
  unfold find?
  rw [Array.findIdx?_push]
  simp

theorem NoDupKeys.push {m : IMap P} (hm : NoDupKeys m) {e : Item × P} (he : find? m e.1.key = none) :
    NoDupKeys (m.push e) := by
  have hnone := find?_eq_none_iff.1 he
  intro i j a b ha hb hab
  rw [Array.getElem?_push] at ha hb
  split at ha <;> split at hb
  · omega
  · cases ha; exact absurd hab.symm (hnone j b hb)
  · cases hb; exact absurd hab (hnone i a ha)
  · exact hm i j a b ha hb hab

/-- no freshness needed -/
theorem lookup_push' (m : IMap P) (e : Item × P) (k : Nat) :
    lookup (m.push e) k = (lookup m k).or (if e.1.key = k then some e else none) := by
  unfold lookup
  rw [Array.toList_push, List.find?_append]
  congr 1
  by_cases h : e.1.key = k <;> simp [h]

theorem lookup_push {m : IMap P} {e : Item × P} (he : find? m e.1.key = none) (k : Nat) :
    lookup (m.push e) k = if k = e.1.key then some e else lookup m k := by
  rw [lookup_push']
  by_cases h : k = e.1.key
  · subst h; simp [lookup_eq_none_iff_find?.2 he]
  · have : ¬ e.1.key = k := fun h' => h h'.symm
    simp [h, this]

/-! ## `insertFull` -/

theorem insertFull_of_find?_some {m : IMap P} {it : Item} {i : Nat} {e : Item × P}
    (hf : find? m it.key = some i) (he : m[i]? = some e) (p : P) :
    insertFull m it p = (m.setIfInBounds i (e.1, p), i, some e.2) := by
  unfold insertFull; rw [hf]; simp only; rw [he]

theorem insertFull_of_find?_none {m : IMap P} {it : Item} (hf : find? m it.key = none) (p : P) :
    insertFull m it p = (m.push (it, p), m.size, none) := by
  unfold insertFull; rw [hf]

/-- case analysis on `insertFull` (the "unreachable" branch of the definition is indeed unreachable) -/
theorem insertFull_cases (m : IMap P) (it : Item) (p : P) :
    (∃ i e, find? m it.key = some i ∧ m[i]? = some e ∧ e.1.key = it.key ∧
        insertFull m it p = (m.setIfInBounds i (e.1, p), i, some e.2)) ∨
    (find? m it.key = none ∧ insertFull m it p = (m.push (it, p), m.size, none)) := by
  cases hf : find? m it.key with
  | none => exact .inr ⟨rfl, insertFull_of_find?_none hf p⟩
  | some i =>
    obtain ⟨e, he, hk⟩ := find?_getElem? hf
    exact .inl ⟨i, e, rfl, he, hk, insertFull_of_find?_some hf he p⟩

/-- the returned old priority is the one previously stored for the key -/
theorem insertFull_old (m : IMap P) (it : Item) (p : P) :
    (insertFull m it p).2.2 = (lookup m it.key).map (·.2) := by
  rcases insertFull_cases m it p with ⟨i, e, hf, he, hk, h⟩ | ⟨hf, h⟩
  · rw [h, lookup_eq_find?, hf]; simp [he]
  · rw [h, lookup_eq_none_iff_find?.2 hf]; rfl

/-- the returned slot is the slot of the key afterwards -/
theorem insertFull_slot (m : IMap P) (it : Item) (p : P) :
    find? (insertFull m it p).1 it.key = some (insertFull m it p).2.1 := by
  rcases insertFull_cases m it p with ⟨i, e, hf, he, hk, h⟩ | ⟨hf, h⟩
  · rw [h]; simp only; rw [find?_setIfInBounds he (e' := (e.1, p)) rfl, hf]
  · rw [h]; simp only; rw [find?_push, hf]; simp

/-- the returned slot was the slot of the key before, or the fresh last slot -/
theorem insertFull_slot_eq (m : IMap P) (it : Item) (p : P) :
    (insertFull m it p).2.1 = (find? m it.key).getD m.size := by
  rcases insertFull_cases m it p with ⟨i, e, hf, he, hk, h⟩ | ⟨hf, h⟩
  · rw [h, hf]; rfl
  · rw [h, hf]; rfl

/-- the entry in the returned slot afterwards: the *stored* item (if the key was present) with the new priority -/
theorem insertFull_getElem?_slot (m : IMap P) (it : Item) (p : P) :
    (insertFull m it p).1[(insertFull m it p).2.1]? =
      some (((lookup m it.key).map (·.1)).getD it, p) := by
  rcases insertFull_cases m it p with ⟨i, e, hf, he, hk, h⟩ | ⟨hf, h⟩
  · have hi := (Array.getElem?_eq_some_iff.1 he).1
    rw [h, lookup_eq_find?, hf]
    simp only [Array.getElem?_setIfInBounds, if_pos hi, if_true, Option.bind_some, he, Option.map_some,
      Option.getD_some]
  · rw [h, lookup_eq_none_iff_find?.2 hf]; simp

/-- all other slots are untouched -/
theorem insertFull_getElem?_ne (m : IMap P) (it : Item) (p : P) {j : Nat}
    (hj : j ≠ (insertFull m it p).2.1) : (insertFull m it p).1[j]? = m[j]? := by
  rcases insertFull_cases m it p with ⟨i, e, hf, he, hk, h⟩ | ⟨hf, h⟩
  · rw [h] at hj ⊢; simp only at hj ⊢
    rw [Array.getElem?_setIfInBounds, if_neg (fun h' => hj h'.symm)]
  · rw [h] at hj ⊢; simp only at hj ⊢
    rw [Array.getElem?_push, if_neg hj]

theorem size_insertFull (m : IMap P) (it : Item) (p : P) :
    (insertFull m it p).1.size = if contains m it.key then m.size else m.size + 1 := by
  rcases insertFull_cases m it p with ⟨i, e, hf, he, hk, h⟩ | ⟨hf, h⟩
  · rw [h, contains_eq, hf]; simp
  · rw [h, contains_eq, hf]; simp

theorem size_insertFull_of_contains {m : IMap P} {it : Item} (h : contains m it.key = true) (p : P) :
    (insertFull m it p).1.size = m.size := by rw [size_insertFull, if_pos h]

theorem size_insertFull_of_not_contains {m : IMap P} {it : Item} (h : contains m it.key = false) (p : P) :
    (insertFull m it p).1.size = m.size + 1 := by rw [size_insertFull, h]; rfl

/-- the size grows by one iff the key was absent (it never shrinks, never grows by more) -/
theorem size_insertFull_eq_succ_iff (m : IMap P) (it : Item) (p : P) :
    (insertFull m it p).1.size = m.size + 1 ↔ contains m it.key = false := by
  rw [size_insertFull]; cases contains m it.key <;> simp

theorem NoDupKeys.insertFull {m : IMap P} (hm : NoDupKeys m) (it : Item) (p : P) :
    NoDupKeys (insertFull m it p).1 := by
  rcases insertFull_cases m it p with ⟨i, e, hf, he, hk, h⟩ | ⟨hf, h⟩
  · rw [h]; exact hm.setIfInBounds he (e' := (e.1, p)) rfl
  · rw [h]; exact hm.push hf

/-- `lookup` after `insertFull` (no `NoDupKeys` needed): the key maps to the stored item (or `it` when
absent) with the new priority; other keys are unchanged. -/
theorem lookup_insertFull (m : IMap P) (it : Item) (p : P) (k : Nat) :
    lookup (insertFull m it p).1 k =
      if k = it.key then some (((lookup m it.key).map (·.1)).getD it, p) else lookup m k := by
  rcases insertFull_cases m it p with ⟨i, e, hf, he, hk, h⟩ | ⟨hf, h⟩
  · rw [h]; simp only
    rw [lookup_setIfInBounds' he (e' := (e.1, p)) rfl]
    by_cases hkk : k = it.key
    · subst hkk
      rw [if_pos hf, if_pos rfl, lookup_eq_find?, hf]; simp [he]
    · rw [if_neg hkk, if_neg]
      intro hf'
      obtain ⟨e', he', hk'⟩ := find?_getElem? hf'
      rw [he] at he'; cases he'
      exact hkk (hk'.symm.trans hk)
  · rw [h]; simp only
    rw [lookup_push hf, lookup_eq_none_iff_find?.2 hf]; rfl

theorem contains_insertFull (m : IMap P) (it : Item) (p : P) (k : Nat) :
    contains (insertFull m it p).1 k = (k == it.key || contains m k) := by
  rw [← lookup_isSome_eq_contains, lookup_insertFull, ← lookup_isSome_eq_contains]
  by_cases h : k = it.key <;> simp [h]

/-! ## `swapRemoveIndex` -/

theorem swapRemoveIndex_of_lt {m : IMap P} {i : Nat} (h : i < m.size) :
    ∃ e l : Item × P, m[i]? = some e ∧ m[m.size - 1]? = some l ∧
      swapRemoveIndex m i = some (e, (m.setIfInBounds i l).pop) := by
  have h1 : m.size - 1 < m.size := by omega
  refine ⟨m[i], m[m.size - 1], Array.getElem?_eq_getElem h, Array.getElem?_eq_getElem h1, ?_⟩
  unfold swapRemoveIndex
  rw [Array.back?_eq_getElem?, Array.getElem?_eq_getElem h, Array.getElem?_eq_getElem h1]

theorem swapRemoveIndex_eq_none_iff {m : IMap P} {i : Nat} : swapRemoveIndex m i = none ↔ m.size ≤ i := by
  constructor
  · intro h
    apply Nat.le_of_not_lt
    intro hlt
    obtain ⟨e, l, _, _, h'⟩ := swapRemoveIndex_of_lt hlt
    rw [h] at h'; cases h'
  · intro h
    unfold swapRemoveIndex
    rw [Array.getElem?_eq_none h]

theorem swapRemoveIndex_isSome_iff {m : IMap P} {i : Nat} : (swapRemoveIndex m i).isSome = true ↔ i < m.size := by
  rw [← Nat.not_le, ← swapRemoveIndex_eq_none_iff]
  cases swapRemoveIndex m i <;> simp

/-- full description of a successful `swapRemoveIndex` -/
theorem swapRemoveIndex_eq_some {m m' : IMap P} {i : Nat} {e : Item × P}
    (h : swapRemoveIndex m i = some (e, m')) :
    i < m.size ∧ m[i]? = some e ∧ m'.size = m.size - 1 ∧
      ∀ j : Nat, m'[j]? = if j < m.size - 1 then (if j = i then m[m.size - 1]? else m[j]?) else none := by
  have hi : i < m.size := by
    apply Nat.lt_of_not_le
    intro hle
    rw [swapRemoveIndex_eq_none_iff.2 hle] at h; cases h
  obtain ⟨e', l, he', hl, h'⟩ := swapRemoveIndex_of_lt hi
  rw [h] at h'
  simp only [Option.some.injEq, Prod.mk.injEq] at h'
  obtain ⟨rfl, rfl⟩ := h'
  refine ⟨hi, he', by simp, ?_⟩
  intro j
  rw [Array.getElem?_pop, Array.size_setIfInBounds, Array.getElem?_setIfInBounds]
  by_cases hj : j < m.size - 1
  · rw [if_pos hj, if_pos hj]
    by_cases hji : j = i
    · subst hji; rw [if_pos rfl, if_pos rfl, if_pos hi, hl]
    · rw [if_neg hji, if_neg (fun h => hji h.symm)]
  · rw [if_neg hj, if_neg hj]

theorem swapRemoveIndex_lt {m m' : IMap P} {i : Nat} {e : Item × P}
    (h : swapRemoveIndex m i = some (e, m')) : i < m.size := (swapRemoveIndex_eq_some h).1

/-- the removed entry is the one that was in slot `i` -/
theorem swapRemoveIndex_fst {m m' : IMap P} {i : Nat} {e : Item × P}
    (h : swapRemoveIndex m i = some (e, m')) : m[i]? = some e := (swapRemoveIndex_eq_some h).2.1

theorem size_swapRemoveIndex {m m' : IMap P} {i : Nat} {e : Item × P}
    (h : swapRemoveIndex m i = some (e, m')) : m'.size = m.size - 1 := (swapRemoveIndex_eq_some h).2.2.1

theorem getElem?_swapRemoveIndex {m m' : IMap P} {i : Nat} {e : Item × P}
    (h : swapRemoveIndex m i = some (e, m')) (j : Nat) :
    m'[j]? = if j < m.size - 1 then (if j = i then m[m.size - 1]? else m[j]?) else none :=
  (swapRemoveIndex_eq_some h).2.2.2 j

/-- the former last entry moves into slot `i` (when `i` was not the last slot) -/
theorem getElem?_swapRemoveIndex_self {m m' : IMap P} {i : Nat} {e : Item × P}
    (h : swapRemoveIndex m i = some (e, m')) (hi : i < m.size - 1) : m'[i]? = m[m.size - 1]? := by
  rw [getElem?_swapRemoveIndex h, if_pos hi, if_pos rfl]

theorem getElem?_swapRemoveIndex_ne {m m' : IMap P} {i : Nat} {e : Item × P}
    (h : swapRemoveIndex m i = some (e, m')) {j : Nat} (hj : j < m.size - 1) (hji : j ≠ i) : m'[j]? = m[j]? := by
  rw [getElem?_swapRemoveIndex h, if_pos hj, if_neg hji]

/-- the entries afterwards are exactly the entries of the other slots -/
theorem mem_swapRemoveIndex_iff {m m' : IMap P} {i : Nat} {e : Item × P}
    (h : swapRemoveIndex m i = some (e, m')) (x : Item × P) :
    (∃ j : Nat, m'[j]? = some x) ↔ ∃ j : Nat, j ≠ i ∧ m[j]? = some x := by
  obtain ⟨hi, he, hs, hg⟩ := swapRemoveIndex_eq_some h
  constructor
  · rintro ⟨j, hj⟩
    rw [hg] at hj
    by_cases hjs : j < m.size - 1
    · rw [if_pos hjs] at hj
      by_cases hji : j = i
      · rw [if_pos hji] at hj; exact ⟨m.size - 1, by omega, hj⟩
      · rw [if_neg hji] at hj; exact ⟨j, hji, hj⟩
    · rw [if_neg hjs] at hj; cases hj
  · rintro ⟨j, hji, hj⟩
    have hjs := (Array.getElem?_eq_some_iff.1 hj).1
    by_cases hjl : j = m.size - 1
    · refine ⟨i, ?_⟩
      rw [hg, if_pos (by omega), if_pos rfl, ← hjl, hj]
    · refine ⟨j, ?_⟩
      rw [hg, if_pos (by omega), if_neg hji, hj]

theorem NoDupKeys.swapRemoveIndex {m m' : IMap P} (hm : NoDupKeys m) {i : Nat} {e : Item × P}
    (h : swapRemoveIndex m i = some (e, m')) : NoDupKeys m' := by
  obtain ⟨hi, he, hs, hg⟩ := swapRemoveIndex_eq_some h
  intro a b x y ha hb hxy
  have hal := (Array.getElem?_eq_some_iff.1 ha).1
  have hbl := (Array.getElem?_eq_some_iff.1 hb).1
  rw [hg, if_pos (by omega)] at ha hb
  by_cases hai : a = i <;> by_cases hbi : b = i
  · omega
  · rw [if_pos hai] at ha; rw [if_neg hbi] at hb
    have := hm _ _ x y ha hb hxy; omega
  · rw [if_neg hai] at ha; rw [if_pos hbi] at hb
    have := hm _ _ x y ha hb hxy; omega
  · rw [if_neg hai] at ha; rw [if_neg hbi] at hb
    exact hm _ _ x y ha hb hxy

/-- the removed key is gone, every other key is unchanged -/
theorem lookup_swapRemoveIndex {m m' : IMap P} (hm : NoDupKeys m) {i : Nat} {e : Item × P}
    (h : swapRemoveIndex m i = some (e, m')) (k : Nat) :
    lookup m' k = if k = e.1.key then none else lookup m k := by
  have hm' := hm.swapRemoveIndex h
  have he := swapRemoveIndex_fst h
  by_cases hk : k = e.1.key
  · rw [if_pos hk, lookup_eq_none_iff]
    intro j x hx hxk
    obtain ⟨j', hj'i, hj'⟩ := (mem_swapRemoveIndex_iff h x).1 ⟨j, hx⟩
    exact hj'i (hm j' i x e hj' he (hxk.trans hk))
  · rw [if_neg hk]
    apply Option.ext
    intro x
    rw [lookup_eq_some_iff hm', lookup_eq_some_iff hm]
    constructor
    · rintro ⟨j, hj, hxk⟩
      obtain ⟨j', _, hj'⟩ := (mem_swapRemoveIndex_iff h x).1 ⟨j, hj⟩
      exact ⟨j', hj', hxk⟩
    · rintro ⟨j, hj, hxk⟩
      have hji : j ≠ i := by
        rintro rfl
        rw [he] at hj; cases hj
        exact hk hxk.symm
      obtain ⟨j', hj'⟩ := (mem_swapRemoveIndex_iff h x).2 ⟨j, hji, hj⟩
      exact ⟨j', hj', hxk⟩

theorem contains_swapRemoveIndex {m m' : IMap P} (hm : NoDupKeys m) {i : Nat} {e : Item × P}
    (h : swapRemoveIndex m i = some (e, m')) (k : Nat) :
    contains m' k = (k != e.1.key && contains m k) := by
  rw [← lookup_isSome_eq_contains, lookup_swapRemoveIndex hm h, ← lookup_isSome_eq_contains]
  by_cases hk : k = e.1.key <;> simp [hk]

/-! ## `swapRemoveFull` -/

theorem swapRemoveFull_eq (m : IMap P) (k : Nat) :
    swapRemoveFull m k = (find? m k).bind fun i => (swapRemoveIndex m i).map fun r => (i, r.1, r.2) := by
  unfold swapRemoveFull
  cases find? m k with
  | none => rfl
  | some i =>
    simp only [Option.bind_some]
    split <;> simp [*]

theorem swapRemoveFull_eq_none_iff {m : IMap P} {k : Nat} : swapRemoveFull m k = none ↔ find? m k = none := by
  rw [swapRemoveFull_eq]
  cases hf : find? m k with
  | none => simp
  | some i =>
    have := swapRemoveIndex_isSome_iff.2 (find?_lt_size hf)
    obtain ⟨r, hr⟩ := Option.isSome_iff_exists.1 this
    simp [hr]

theorem swapRemoveFull_eq_some_iff {m m' : IMap P} {k i : Nat} {e : Item × P} :
    swapRemoveFull m k = some (i, e, m') ↔ find? m k = some i ∧ swapRemoveIndex m i = some (e, m') := by
  rw [swapRemoveFull_eq]
  cases hf : find? m k with
  | none => simp
  | some j =>
    simp only [Option.bind_some, Option.map_eq_some_iff, Prod.mk.injEq, Option.some.injEq]
    constructor
    · rintro ⟨⟨e', m''⟩, hr, rfl, rfl, rfl⟩; exact ⟨rfl, hr⟩
    · rintro ⟨rfl, hr⟩; exact ⟨(e, m'), hr, rfl, rfl, rfl⟩

/-- a successful `swapRemoveFull` removes an entry with the requested key -/
theorem swapRemoveFull_key {m m' : IMap P} {k i : Nat} {e : Item × P}
    (h : swapRemoveFull m k = some (i, e, m')) : e.1.key = k := by
  obtain ⟨hf, hr⟩ := swapRemoveFull_eq_some_iff.1 h
  obtain ⟨e', he', hk⟩ := find?_getElem? hf
  rw [swapRemoveIndex_fst hr] at he'; cases he'; exact hk

theorem swapRemoveFull_isSome (m : IMap P) (k : Nat) : (swapRemoveFull m k).isSome = contains m k := by
  rw [contains_eq]
  cases hf : find? m k with
  | none => rw [swapRemoveFull_eq_none_iff.2 hf]; rfl
  | some i =>
    cases hs : swapRemoveFull m k with
    | some r => rfl
    | none => rw [swapRemoveFull_eq_none_iff.1 hs] at hf; cases hf

theorem lookup_swapRemoveFull {m m' : IMap P} (hm : NoDupKeys m) {k i : Nat} {e : Item × P}
    (h : swapRemoveFull m k = some (i, e, m')) (k' : Nat) :
    lookup m' k' = if k' = k then none else lookup m k' := by
  rw [← swapRemoveFull_key h]
  exact lookup_swapRemoveIndex hm (swapRemoveFull_eq_some_iff.1 h).2 k'

/-! ## `retain` -/

/-- the per-entry action of `retain` -/
def retainStep (f : Item → P → Bool × Item × P) (e : Item × P) : Option (Item × P) :=
  let r := f e.1 e.2
  if r.1 then some (r.2.1, r.2.2) else none

/-- `retain` keeps, in the same relative order, the images of the entries the closure accepts -/
theorem toList_retain' (m : IMap P) (f : Item → P → Bool × Item × P) :
    (retain m f).toList = m.toList.filterMap (retainStep f) := by
  show _ = m.toList.filterMap (fun e => let r := f e.1 e.2; if r.1 then some (r.2.1, r.2.2) else none)
  have key : ∀ (l : List (Item × P)) (acc : IMap P),
      (l.foldl (fun acc e => let r := f e.1 e.2; if r.1 then acc.push (r.2.1, r.2.2) else acc) acc).toList =
        acc.toList ++ l.filterMap (fun e => let r := f e.1 e.2; if r.1 then some (r.2.1, r.2.2) else none) := by
    intro l
    induction l with
    | nil => intro acc; simp
    | cons x xs ih =>
      intro acc
      rw [List.foldl_cons, ih]
      by_cases hx : (f x.1 x.2).1 = true
      · simp [hx]
      · simp [hx]
  unfold retain
  rw [← Array.foldl_toList, key]
  simp

theorem retainStep_eq_some_iff {f : Item → P → Bool × Item × P} {e x : Item × P} :
    retainStep f e = some x ↔ (f e.1 e.2).1 = true ∧ x = ((f e.1 e.2).2.1, (f e.1 e.2).2.2) := by
  unfold retainStep
  by_cases hr : (f e.1 e.2).1 = true <;> simp [hr, eq_comm]

theorem mem_retain_iff {m : IMap P} {f : Item → P → Bool × Item × P} {x : Item × P} :
    (∃ j : Nat, (retain m f)[j]? = some x) ↔
      ∃ (i : Nat) (e : Item × P), m[i]? = some e ∧ (f e.1 e.2).1 = true ∧ x = ((f e.1 e.2).2.1, (f e.1 e.2).2.2) := by
  rw [← Array.mem_iff_getElem?, ← Array.mem_toList_iff, toList_retain', List.mem_filterMap]
  constructor
  · rintro ⟨e, he, hx⟩
    obtain ⟨i, hi⟩ := Array.mem_iff_getElem?.1 (Array.mem_toList_iff.1 he)
    exact ⟨i, e, hi, retainStep_eq_some_iff.1 hx⟩
  · rintro ⟨i, e, hi, hr⟩
    exact ⟨e, Array.mem_toList_iff.2 (Array.mem_iff_getElem?.2 ⟨i, hi⟩), retainStep_eq_some_iff.2 hr⟩

theorem size_retain_le (m : IMap P) (f : Item → P → Bool × Item × P) : (retain m f).size ≤ m.size := by
  rw [← Array.length_toList, toList_retain', ← Array.length_toList]
  exact List.length_filterMap_le _ _

theorem NoDupKeys.retain {m : IMap P} (hm : NoDupKeys m) {f : Item → P → Bool × Item × P}
    (hf : ∀ it p, (f it p).2.1.key = it.key) : NoDupKeys (retain m f) := by
  rw [noDupKeys_iff_pairwise] at hm ⊢
  rw [toList_retain']
  refine hm.filterMap _ ?_
  intro a a' haa' b hb b' hb'
  rw [(retainStep_eq_some_iff.1 hb).2, (retainStep_eq_some_iff.1 hb').2]
  simp only [hf]
  exact haa'

/-- `lookup` after a key-preserving `retain` -/
theorem lookup_retain {m : IMap P} (hm : NoDupKeys m) {f : Item → P → Bool × Item × P}
    (hf : ∀ it p, (f it p).2.1.key = it.key) (k : Nat) :
    lookup (retain m f) k = (lookup m k).bind (retainStep f) := by
  apply Option.ext
  intro x
  rw [lookup_eq_some_iff (hm.retain hf), Option.bind_eq_some_iff]
  constructor
  · rintro ⟨j, hj, hk⟩
    obtain ⟨i, e, he, hr, rfl⟩ := mem_retain_iff.1 ⟨j, hj⟩
    refine ⟨e, (lookup_eq_some_iff hm).2 ⟨i, he, ?_⟩, ?_⟩
    · rw [← hk]; exact (hf _ _).symm
    · exact retainStep_eq_some_iff.2 ⟨hr, rfl⟩
  · rintro ⟨e, he, hx⟩
    obtain ⟨i, hi, hk⟩ := (lookup_eq_some_iff hm).1 he
    obtain ⟨hr, rfl⟩ := retainStep_eq_some_iff.1 hx
    obtain ⟨j, hj⟩ := mem_retain_iff.2 ⟨i, e, hi, hr, rfl⟩
    exact ⟨j, hj, by simp only [hf]; exact hk⟩

/-! ## Decidability of `NoDupKeys` and sanity examples (the hypotheses used above are satisfiable) -/

instance (m : IMap P) : Decidable (NoDupKeys m) := decidable_of_iff _ noDupKeys_iff_nodup.symm

section Examples
-- `find?` is `Array.findIdx?` (well-founded recursion): plain `decide` gets stuck on it, the kernel does not.
private def ex3 : IMap Nat := #[(⟨1, 10⟩, 5), (⟨2, 20⟩, 7), (⟨3, 30⟩, 6)]

example : NoDupKeys ex3 := by decide
example : ¬ NoDupKeys (ex3.push (⟨2, 0⟩, 9)) := by decide
example : find? ex3 2 = some 1 ∧ find? ex3 4 = none := by decide +kernel
example : lookup ex3 2 = some (⟨2, 20⟩, 7) := by decide
example : lookup (setPrio ex3 1 99) 2 = some (⟨2, 20⟩, 99) := by decide
example : insertFull ex3 ⟨2, 0⟩ 9 = (#[(⟨1, 10⟩, 5), (⟨2, 20⟩, 9), (⟨3, 30⟩, 6)], 1, some 7) := by decide +kernel
example : insertFull ex3 ⟨4, 0⟩ 9 = (ex3.push (⟨4, 0⟩, 9), 3, none) := by decide +kernel
example : swapRemoveIndex ex3 0 = some ((⟨1, 10⟩, 5), #[(⟨3, 30⟩, 6), (⟨2, 20⟩, 7)]) := by decide
example : swapRemoveIndex ex3 3 = none := by decide
example : swapRemoveFull ex3 2 = some (1, (⟨2, 20⟩, 7), #[(⟨1, 10⟩, 5), (⟨3, 30⟩, 6)]) := by decide +kernel
example : retain ex3 (fun it p => (p != 7, it, p + 1)) = #[(⟨1, 10⟩, 6), (⟨3, 30⟩, 7)] := by decide
end Examples

end PQ.IMap
