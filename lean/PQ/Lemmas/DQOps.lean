import PQ.Lemmas.Spec
import PQ.Lemmas.DQSafe
/-!
# `DoublePriorityQueue`: operation-level refinement

With the invariant `DQ.Inv s = s.WF ∧ s.MinMaxHeap` every public operation of `PQ/Model/DPQ.lean` is fault-free,
re-establishes `Inv`, acts on the abstract contents `Store.abs` as the specification says (`absPush`, `absRemove`,
`absSet`, `Store.absStep`), and `peek_min`/`pop_min` address a minimum, `peek_max`/`pop_max` a maximum.

For `push`, `pop_min`, `pop_max`, `peek_min_mut`, `peek_max_mut`, `change_priority`, `change_priority_by` and `remove` that
is the `*_core` theorem of `DQSafe.lean` itself (apply its last clause to `Inv.2`).  The theorems here restate the others
with `Inv` in the conclusion, in the case-split form their users want (the operations that end in `heap_build` need only
`WF` of their arguments).
-/
set_option linter.unusedSectionVars false
namespace PQ
open Arith Store
variable {P : Type} [LT P] [DecidableLT P] [LE P] [Std.IsLinearPreorder P] [Std.LawfulOrderLT P]

namespace DQ

theorem peekMin_inv {s : Store P} (h : Inv s) :
    (s.size = 0 → peekMin s = .ok none) ∧ (0 < s.size → ∃ e, peekMin s = .ok (some e) ∧ s.IsMin e) :=
  ⟨peekMin_empty, peekMin_spec h.1 h.2⟩

theorem peekMax_inv {s : Store P} (h : Inv s) :
    (s.size = 0 → peekMax s = .ok (s, none)) ∧
    (0 < s.size → ∃ k e, peekMax s = .ok (s.tick k, some e) ∧ k ≤ 1 ∧ s.IsMax e) :=
  ⟨peekMax_empty, peekMax_spec h.1 h.2⟩

/-- `push_increase`: absent ⇒ inserted; present with a smaller priority ⇒ updated (old priority returned); otherwise the
state is unchanged up to the one comparison and the offered priority is handed back -/
theorem pushIncrease_spec {s : Store P} (h : Inv s) (it : Item) (p : P) :
    (s.abs it.key = none → ∃ s', pushIncrease s it p = .ok (s', none) ∧ Inv s' ∧ s'.abs = absPush s.abs it p ∧
        s'.size = s.size + 1) ∧
    (∀ e, s.abs it.key = some e → e.2 < p → ∃ s', pushIncrease s it p = .ok (s', some e.2) ∧ Inv s' ∧
        s'.abs = absPush s.abs it p ∧ s'.size = s.size) ∧
    (∀ e, s.abs it.key = some e → ¬ e.2 < p → pushIncrease s it p = .ok (s.tick, some p)) := by
  obtain ⟨s', r, hrun, hwf, h0, h1, hord⟩ := pushIncrease_core h.1 it p
  refine ⟨?_, ?_, ?_⟩
  · intro hl
    obtain ⟨rfl, habs, hsz⟩ := h0 hl
    exact ⟨s', hrun, ⟨hwf, hord h.2⟩, habs, hsz⟩
  · intro e hl hlt
    obtain ⟨rfl, habs, hsz⟩ := (h1 e hl).1 hlt
    exact ⟨s', hrun, ⟨hwf, hord h.2⟩, habs, hsz⟩
  · intro e hl hlt
    obtain ⟨rfl, rfl⟩ := (h1 e hl).2 hlt
    exact hrun

theorem pushDecrease_spec {s : Store P} (h : Inv s) (it : Item) (p : P) :
    (s.abs it.key = none → ∃ s', pushDecrease s it p = .ok (s', none) ∧ Inv s' ∧ s'.abs = absPush s.abs it p ∧
        s'.size = s.size + 1) ∧
    (∀ e, s.abs it.key = some e → p < e.2 → ∃ s', pushDecrease s it p = .ok (s', some e.2) ∧ Inv s' ∧
        s'.abs = absPush s.abs it p ∧ s'.size = s.size) ∧
    (∀ e, s.abs it.key = some e → ¬ p < e.2 → pushDecrease s it p = .ok (s.tick, some p)) := by
  obtain ⟨s', r, hrun, hwf, h0, h1, hord⟩ := pushDecrease_core h.1 it p
  refine ⟨?_, ?_, ?_⟩
  · intro hl
    obtain ⟨rfl, habs, hsz⟩ := h0 hl
    exact ⟨s', hrun, ⟨hwf, hord h.2⟩, habs, hsz⟩
  · intro e hl hlt
    obtain ⟨rfl, habs, hsz⟩ := (h1 e hl).1 hlt
    exact ⟨s', hrun, ⟨hwf, hord h.2⟩, habs, hsz⟩
  · intro e hl hlt
    obtain ⟨rfl, rfl⟩ := (h1 e hl).2 hlt
    exact hrun

theorem inv_tick {s : Store P} (h : Inv s) (k : Nat) : Inv (s.tick k) := ⟨tick_WF.mpr h.1, h.2⟩

/-- the predicate is applied to exactly the entry `peek_min` reports (a minimum); `true` ⇒ the rewritten entry is
returned and its key removed, `false` ⇒ `none` and the entry is rewritten in place; `Inv` in both cases -/
theorem popMinIf_spec {s : Store P} (h : Inv s) (f : Item → P → Bool × Item × P)
    (hf : ∀ it p, (f it p).2.1.key = it.key) :
    (s.size = 0 → popMinIf s f = .ok (s, none)) ∧
    (0 < s.size → ∃ e, peekMin s = .ok (some e) ∧ s.IsMin e ∧
      ((f e.1 e.2).1 = true → ∃ s', popMinIf s f = .ok (s', some ((f e.1 e.2).2.1, (f e.1 e.2).2.2)) ∧ Inv s' ∧
          s'.abs = absRemove s.abs e.1.key ∧ s'.size = s.size - 1) ∧
      ((f e.1 e.2).1 = false → ∃ s', popMinIf s f = .ok (s', none) ∧ Inv s' ∧
          s'.abs = absSet s.abs e.1.key ((f e.1 e.2).2.1, (f e.1 e.2).2.2) ∧ s'.size = s.size)) := by
  obtain ⟨h0, h1⟩ := popMinIf_core h.1 f hf
  refine ⟨h0, fun hn => ?_⟩
  obtain ⟨e, hpk, _, hmin, ht, hfl⟩ := h1 hn
  refine ⟨e, hpk, hmin h.2, ?_, ?_⟩
  · intro hr
    obtain ⟨s', hrun, hwf, habs, hsz, hord⟩ := ht hr
    exact ⟨s', hrun, ⟨hwf, hord h.2⟩, habs, hsz⟩
  · intro hr
    obtain ⟨s', hrun, hwf, habs, hsz, hord⟩ := hfl hr
    exact ⟨s', hrun, ⟨hwf, hord h.2⟩, habs, hsz⟩

theorem popMaxIf_spec {s : Store P} (h : Inv s) (f : Item → P → Bool × Item × P)
    (hf : ∀ it p, (f it p).2.1.key = it.key) :
    (s.size = 0 → popMaxIf s f = .ok (s, none)) ∧
    (0 < s.size → ∃ k e, peekMax s = .ok (s.tick k, some e) ∧ k ≤ 1 ∧ s.IsMax e ∧
      ((f e.1 e.2).1 = true → ∃ s', popMaxIf s f = .ok (s', some ((f e.1 e.2).2.1, (f e.1 e.2).2.2)) ∧ Inv s' ∧
          s'.abs = absRemove s.abs e.1.key ∧ s'.size = s.size - 1) ∧
      ((f e.1 e.2).1 = false → ∃ s', popMaxIf s f = .ok (s', none) ∧ Inv s' ∧
          s'.abs = absSet s.abs e.1.key ((f e.1 e.2).2.1, (f e.1 e.2).2.2) ∧ s'.size = s.size)) := by
  obtain ⟨h0, h1⟩ := popMaxIf_core h.1 f hf
  refine ⟨h0, fun hn => ?_⟩
  obtain ⟨k, e, hpk, hk, _, hmax, ht, hfl⟩ := h1 hn
  refine ⟨k, e, hpk, hk, hmax h.2, ?_, ?_⟩
  · intro hr
    obtain ⟨s', hrun, hwf, habs, hsz, hord⟩ := ht hr
    exact ⟨s', hrun, ⟨hwf, hord h.2⟩, habs, hsz⟩
  · intro hr
    obtain ⟨s', hrun, hwf, habs, hsz, hord⟩ := hfl hr
    exact ⟨s', hrun, ⟨hwf, hord h.2⟩, habs, hsz⟩

/-! ## Bulk operations (`Inv` of the result needs `WF` of the arguments only: they all end in `heap_build`) -/

theorem retainMut_spec {s : Store P} (h : s.WF) (f : Item → P → Bool × Item × P)
    (hf : ∀ it p, (f it p).2.1.key = it.key) :
    ∃ s', retainMut s f = .ok s' ∧ Inv s' ∧ s'.abs = (fun k => (s.abs k).bind (IMap.retainStep f)) ∧
      s'.map.toList = s.map.toList.filterMap (IMap.retainStep f) ∧
      s'.size = (s.map.toList.filterMap (IMap.retainStep f)).length := by
  obtain ⟨s', h1, h2, h3, h4, h5, h6⟩ := retainMut_safe h f hf
  exact ⟨s', h1, ⟨h2, h3⟩, h4, h5, h6⟩

/-- `append`: the union (on a clash the entry of the larger queue — the receiver after the swap — stays); the donor is
left empty -/
theorem append_spec {s o : Store P} (hs : s.WF) (ho : o.WF) :
    ∃ s' o', append s o = .ok (s', o') ∧ Inv s' ∧ Inv o' ∧ o'.size = 0 ∧ (∀ k, o'.abs k = none) ∧
      (∀ k, s'.abs k = if o.size > s.size then (o.abs k).or (s.abs k) else (s.abs k).or (o.abs k)) := by
  obtain ⟨s', o', h1, h2, h3, h4, h5, h6, h7, h8⟩ := append_safe hs ho
  exact ⟨s', o', h1, ⟨h2, h3⟩, ⟨h4, h5⟩, h6, h7, h8⟩

/-- `From<Vec>`: the FIRST pair of each key -/
theorem fromVec_spec (v : Array (Item × P)) :
    ∃ s', fromVec v = .ok s' ∧ Inv s' ∧ (∀ k, s'.abs k = v.toList.find? (fun e => e.1.key == k)) ∧
      s'.size = (v.toList.map (·.1.key)).eraseDups.length := by
  obtain ⟨s', h1, h2, h3, h4, h5⟩ := fromVec_safe v
  exact ⟨s', h1, ⟨h2, h3⟩, h4, h5⟩

/-- `FromIterator` (every `size_hint` lower bound below the capacity limit): the LAST pair of each key -/
theorem fromIter_spec (lo : Nat) (xs : Array (Item × P)) (hlo : lo < capLimit) :
    ∃ s', fromIter lo xs = .ok s' ∧ Inv s' ∧ (∀ k, s'.abs k = xs.toList.reverse.find? (fun e => e.1.key == k)) ∧
      s'.size = (xs.toList.map (·.1.key)).eraseDups.length := by
  obtain ⟨s', h1, h2, h3, h4, h5⟩ := fromIter_safe lo xs hlo
  exact ⟨s', h1, ⟨h2, h3⟩, h4, h5⟩

/-- the deserializer is total: EVERY sequence, under EVERY announced length `hint`, yields a queue satisfying the invariant,
with the contents of `extend` from the empty queue (item of the first, priority of the last pair of each key) -/
theorem deserialize_spec (hint : Option Nat) (xs : Array (Item × P)) :
    ∃ s', deserialize hint xs = .ok s' ∧ Inv s' ∧ s'.abs = xs.foldl Store.absStep (fun _ => none) ∧
      s'.size = (xs.toList.map (·.1.key)).eraseDups.length := by
  obtain ⟨s', h1, h2, h3, h4, h5⟩ := deserialize_safe hint xs
  exact ⟨s', h1, ⟨h2, h3⟩, h4, h5⟩

/-- `From<PriorityQueue>`: any well-formed store becomes a min-max heap with the same contents -/
theorem ofStore_spec {s : Store P} (h : s.WF) :
    ∃ s', ofStore s = .ok s' ∧ Inv s' ∧ s'.abs = s.abs ∧ s'.size = s.size := by
  obtain ⟨s', h1, h2, h3, h4, h5⟩ := ofStore_safe h
  exact ⟨s', h1, ⟨h2, h3⟩, h4, h5⟩

theorem pushAll_spec {s : Store P} (h : Inv s) (es : List (Item × P)) :
    ∃ s', pushAll es s = .ok s' ∧ Inv s' ∧ s'.abs = es.foldl Store.absStep s.abs := by
  obtain ⟨s', h1, h2, h3, h4⟩ := pushAll_core es h.1
  exact ⟨s', h1, ⟨h2, h4 h.2⟩, h3⟩

/-- `Extend::extend`, for EVERY size hint `lo` below the capacity limit: both strategies (rebuild / push one by one) yield
the same contents, payloads included -/
theorem extend_spec {s : Store P} (h : Inv s) (lo : Nat) (xs : Array (Item × P)) (hlo : lo < capLimit) :
    ∃ s', extend s lo xs = .ok s' ∧ Inv s' ∧ s'.abs = xs.foldl Store.absStep s.abs := by
  obtain ⟨s', h1, h2, h3, h4⟩ := extend_core h.1 lo xs hlo
  exact ⟨s', h1, ⟨h2, h4 h.2⟩, h3⟩

theorem sortedRun_nil {Q : Bool → (Nat → Option (Item × P)) → Item × P → Prop} {f f' : Nat → Option (Item × P)} :
    SortedRun Q f [] [] f' ↔ f' = f := by simp [SortedRun]

theorem sortedRun_cons_none {Q : Bool → (Nat → Option (Item × P)) → Item × P → Prop} {f f' : Nat → Option (Item × P)}
    {b : Bool} {bs : List Bool} {outs : List (Option (Item × P))} :
    SortedRun Q f (b :: bs) (none :: outs) f' ↔ (∀ k, f k = none) ∧ SortedRun Q f bs outs f' := by simp [SortedRun]

theorem sortedRun_cons_some {Q : Bool → (Nat → Option (Item × P)) → Item × P → Prop} {f f' : Nat → Option (Item × P)}
    {b : Bool} {bs : List Bool} {e : Item × P} {outs : List (Option (Item × P))} :
    SortedRun Q f (b :: bs) (some e :: outs) f' ↔ Q b f e ∧ SortedRun Q (absRemove f e.1.key) bs outs f' := by
  simp [SortedRun]

theorem extremeQ_false {f : Nat → Option (Item × P)} {e : Item × P} : ExtremeQ false f e ↔ AbsIsMin f e := by
  simp [ExtremeQ]

theorem extremeQ_true {f : Nat → Option (Item × P)} {e : Item × P} : ExtremeQ true f e ↔ AbsIsMax f e := by
  simp [ExtremeQ]

/-- **The double-ended sorted iterator.**  Any interleaving `calls` of `next` (`false`) and `next_back` (`true`) runs
without fault; `SortedRun ExtremeQ` says: each `next` returned a minimum and each `next_back` a maximum of what was held
at that moment (and that key was removed), `none` exactly when nothing was held.  The entries returned have pairwise
distinct keys, the invariant holds afterwards, and the size went down by the number of entries returned. -/
theorem sortedCalls_spec {s : Store P} (h : Inv s) (calls : List Bool) :
    ∃ outs s', sortedCalls calls s = .ok (outs, s') ∧ Inv s' ∧ outs.length = calls.length ∧
      SortedRun ExtremeQ s.abs calls outs s'.abs ∧ ((outs.filterMap id).map (·.1.key)).Nodup ∧
      s'.size = s.size - min s.size calls.length := by
  obtain ⟨outs, s', h1, h2, h3, h4, h5, h6⟩ := sortedCalls_core calls h.1
  exact ⟨outs, s', h1, ⟨h2, (h6 h.2).1⟩, h3, (h6 h.2).2, SortedRun.nodup (fun _ _ _ hq => hq) h5, h4⟩

theorem intoAscendingSortedVec_spec {s : Store P} (h : Inv s) :
    ∃ l, intoAscendingSortedVec s = .ok l ∧ l.length = s.size ∧ (∀ e, e ∈ l ↔ s.Mem e) ∧
      l.Pairwise (fun a b => ¬ b.2 < a.2) ∧ (l.map (·.1.key)).Nodup := by
  obtain ⟨l, h1, h2, h3, h4, h5⟩ := intoAscendingSortedVec_core h.1
  exact ⟨l, h1, h2, h3, h5 h.2, h4⟩

theorem intoDescendingSortedVec_spec {s : Store P} (h : Inv s) :
    ∃ l, intoDescendingSortedVec s = .ok l ∧ l.length = s.size ∧ (∀ e, e ∈ l ↔ s.Mem e) ∧
      l.Pairwise (fun a b => ¬ a.2 < b.2) ∧ (l.map (·.1.key)).Nodup := by
  obtain ⟨l, h1, h2, h3, h4, h5⟩ := intoDescendingSortedVec_core h.1
  exact ⟨l, h1, h2, h3, h5 h.2, h4⟩

theorem drainAsc_spec {s : Store P} (h : Inv s) {fuel : Nat} (hf : s.size < fuel) :
    ∃ l, drainAsc fuel s = .ok l ∧ l.length = s.size ∧ (∀ e, e ∈ l ↔ s.Mem e) ∧
      l.Pairwise (fun a b => ¬ b.2 < a.2) ∧ (l.map (·.1.key)).Nodup := by
  obtain ⟨l, h1, h2, h3, h4, h5⟩ := drainAsc_core fuel h.1 hf
  exact ⟨l, h1, h2, h3, h5 h.2, h4⟩

theorem drainDesc_spec {s : Store P} (h : Inv s) {fuel : Nat} (hf : s.size < fuel) :
    ∃ l, drainDesc fuel s = .ok l ∧ l.length = s.size ∧ (∀ e, e ∈ l ↔ s.Mem e) ∧
      l.Pairwise (fun a b => ¬ a.2 < b.2) ∧ (l.map (·.1.key)).Nodup := by
  obtain ⟨l, h1, h2, h3, h4, h5⟩ := drainDesc_core fuel h.1 hf
  exact ⟨l, h1, h2, h3, h5 h.2, h4⟩

/-! ## Non-vacuity: a concrete queue built by the model satisfies the hypotheses, and the model does what the theorems say -/

/-- nine pairs, key `2` twice (`From<Vec>` keeps the first) -/
def exV : Array (Item × Nat) :=
  #[(⟨1, 0⟩, 50), (⟨2, 0⟩, 20), (⟨3, 0⟩, 70), (⟨4, 0⟩, 10), (⟨5, 0⟩, 60), (⟨6, 0⟩, 30), (⟨2, 9⟩, 99), (⟨7, 0⟩, 40),
    (⟨8, 0⟩, 80)]

/-- the queue `DoublePriorityQueue::from(exV)` as the model computes it -/
def exQ : Store Nat := match fromVec exV with | .ok s => s | .error _ => Store.empty

theorem exQ_inv : Inv exQ := by
  obtain ⟨s', h, hinv, _⟩ := fromVec_spec exV
  have : exQ = s' := by simp [exQ, h]
  exact this ▸ hinv

/-- `exQ`, evaluated: the examples below start from this value instead of running `fromVec exV` each time -/
def exQval : Store Nat :=
  { map := #[(⟨1, 0⟩, 50), (⟨2, 0⟩, 20), (⟨3, 0⟩, 70), (⟨4, 0⟩, 10), (⟨5, 0⟩, 60), (⟨6, 0⟩, 30), (⟨7, 0⟩, 40), (⟨8, 0⟩, 80)],
    heap := #[3, 7, 2, 1, 4, 5, 6, 0], qp := #[7, 3, 2, 0, 4, 5, 6, 1], size := 8, ticks := 15 }

theorem exQ_eq : exQ = exQval := by
  have h : exQ.map = exQval.map ∧ exQ.heap = exQval.heap ∧ exQ.qp = exQval.qp ∧ exQ.size = exQval.size ∧
      exQ.ticks = exQval.ticks := by decide +kernel
  show (⟨exQ.map, exQ.heap, exQ.qp, exQ.size, exQ.ticks⟩ : Store Nat) = _
  rw [h.1, h.2.1, h.2.2.1, h.2.2.2.1, h.2.2.2.2]

example : exQ.size = 8 ∧ exQ.abs 2 = some (⟨2, 0⟩, 20) ∧ exQ.abs 9 = none := by
  rw [exQ_eq]
  decide +kernel
example : Inv exQ ∧ 0 < exQ.size := ⟨exQ_inv, by rw [exQ_eq]; decide +kernel⟩
/-- the key-preserving closures of `DQSafe.lean` are admissible arguments -/
example : (∀ it p, (exPred it p).2.1.key = it.key) ∧ (∀ it, (exWrite it).key = it.key) := ⟨fun _ _ => rfl, fun _ => rfl⟩

-- peeks and pops address the extremes
example : (peekMin exQ).toOption = some (some (⟨4, 0⟩, 10)) := by
  rw [exQ_eq]
  decide +kernel
example : (peekMax exQ).toOption.map (·.2) = some (some (⟨8, 0⟩, 80)) := by
  rw [exQ_eq]
  decide +kernel
example : (peekMinMutWrite exQ exWrite).toOption.map (fun r => (r.2, r.1.abs 4)) =
    some (some (⟨4, 0⟩, 10), some (⟨4, 77⟩, 10)) := by
  rw [exQ_eq]
  decide +kernel
example : (peekMaxMutWrite exQ exWrite).toOption.map (fun r => (r.2, r.1.abs 8)) =
    some (some (⟨8, 0⟩, 80), some (⟨8, 77⟩, 80)) := by
  rw [exQ_eq]
  decide +kernel
example : (popMin exQ).toOption.map (fun r => (r.2, r.1.size, r.1.abs 4)) = some (some (⟨4, 0⟩, 10), 7, none) := by
  rw [exQ_eq]
  decide +kernel
example : (popMax exQ).toOption.map (fun r => (r.2, r.1.size, r.1.abs 8)) = some (some (⟨8, 0⟩, 80), 7, none) := by
  rw [exQ_eq]
  decide +kernel
-- `pop_min_if`: the predicate (`p % 20 == 0`) sees the minimum `10`: it refuses, the entry is rewritten to `(⟨4, 1⟩, 11)`
example : (popMinIf exQ exPred).toOption.map (fun r => (r.2, r.1.size, r.1.abs 4)) = some (none, 8, some (⟨4, 1⟩, 11)) := by
  rw [exQ_eq]
  decide +kernel
-- `pop_max_if`: the maximum `80` is accepted: the REWRITTEN entry is returned and the key is gone
example : (popMaxIf exQ exPred).toOption.map (fun r => (r.2, r.1.size, r.1.abs 8)) = some (some (⟨8, 1⟩, 81), 7, none) := by
  rw [exQ_eq]
  decide +kernel
-- a predicate that would accept `70` is never shown `70`: the maximum is `80`
example : (popMaxIf exQ (fun it p => (p == 70, it, p))).toOption.map (fun r => (r.2, r.1.size, r.1.abs 3)) =
    some (none, 8, some (⟨3, 0⟩, 70)) := by
  rw [exQ_eq]
  decide +kernel
-- `push`: new key / present key (the stored payload stays, the old priority is returned)
example : (push exQ ⟨9, 0⟩ 5).toOption.map (fun r => (r.2, r.1.size, (peekMin r.1).toOption)) =
    some (none, 9, some (some (⟨9, 0⟩, 5))) := by
  rw [exQ_eq]
  decide +kernel
example : (push exQ ⟨2, 5⟩ 90).toOption.map (fun r => (r.2, r.1.size, r.1.abs 2)) =
    some (some 20, 8, some (⟨2, 0⟩, 90)) := by
  rw [exQ_eq]
  decide +kernel
example : ((push exQ ⟨2, 5⟩ 90).toOption.bind fun r => (peekMax r.1).toOption.map (·.2)) =
    some (some (⟨2, 0⟩, 90)) := by
  rw [exQ_eq]
  decide +kernel
-- `push_increase` / `push_decrease`: the three cases
example : (pushIncrease exQ ⟨9, 0⟩ 5).toOption.map (fun r => (r.2, r.1.size)) = some (none, 9) := by
  rw [exQ_eq]
  decide +kernel
example : (pushIncrease exQ ⟨2, 0⟩ 25).toOption.map (fun r => (r.2, r.1.abs 2)) = some (some 20, some (⟨2, 0⟩, 25)) := by
  rw [exQ_eq]
  decide +kernel
example : (pushIncrease exQ ⟨2, 0⟩ 15).toOption.map (fun r => (r.2, r.1.abs 2, r.1.ticks)) =
    some (some 15, some (⟨2, 0⟩, 20), exQ.ticks + 1) := by
  rw [exQ_eq]
  decide +kernel
example : (pushDecrease exQ ⟨2, 0⟩ 15).toOption.map (fun r => (r.2, r.1.abs 2)) = some (some 20, some (⟨2, 0⟩, 15)) := by
  rw [exQ_eq]
  decide +kernel
-- `change_priority`, `change_priority_by`, `remove`: present and absent key
example : (changePriority exQ 3 5).toOption.map (fun r => (r.2, (peekMin r.1).toOption)) =
    some (some 70, some (some (⟨3, 0⟩, 5))) := by
  rw [exQ_eq]
  decide +kernel
example : (changePriority exQ 9 5).toOption.map (fun r => (r.2, r.1.size)) = some (none, 8) := by
  rw [exQ_eq]
  decide +kernel
example : (changePriorityBy exQ 4 (· + 100)).toOption.map (fun r => (r.2, (peekMax r.1).toOption.map (·.2))) =
    some (true, some (some (⟨4, 0⟩, 110))) := by
  rw [exQ_eq]
  decide +kernel
example : (remove exQ 5).toOption.map (fun r => (r.2, r.1.size, r.1.abs 5)) = some (some (⟨5, 0⟩, 60), 7, none) := by
  rw [exQ_eq]
  decide +kernel
example : (remove exQ 9).toOption.map (fun r => (r.2, r.1.size)) = some (none, 8) := by
  rw [exQ_eq]
  decide +kernel
example : (retainMut exQ exPred).toOption.map (fun s => (s.size, s.abs 2, s.abs 1)) = some (4, some (⟨2, 1⟩, 21), none) := by
  rw [exQ_eq]
  decide +kernel
example : (extend exQ 0 #[(⟨2, 7⟩, 1), (⟨9, 1⟩, 2), (⟨9, 2⟩, 3)]).toOption.map (fun s => (s.size, s.abs 2, s.abs 9)) =
    some (9, some (⟨2, 0⟩, 1), some (⟨9, 1⟩, 3)) := by
  rw [exQ_eq]
  decide +kernel
-- a size hint that selects the rebuild strategy: same contents
example : betterToRebuild 8 17 = true := by decide +kernel
example : (extend exQ 17 #[(⟨2, 7⟩, 1), (⟨9, 1⟩, 2), (⟨9, 2⟩, 3)]).toOption.map (fun s => (s.size, s.abs 2, s.abs 9)) =
    some (9, some (⟨2, 0⟩, 1), some (⟨9, 1⟩, 3)) := by
  rw [exQ_eq]
  decide +kernel
example : (deserialize (some 1000000) exV).toOption.map (fun s => (s.size, s.abs 2)) = some (8, some (⟨2, 0⟩, 99)) := by decide +kernel
example : (fromIter 0 exV).toOption.map (fun s => (s.size, s.abs 2)) = some (8, some (⟨2, 9⟩, 99)) := by decide +kernel
example : (append exQ exQ).toOption.map (fun r => (r.1.size, r.2.size)) = some (8, 0) := by
  rw [exQ_eq]
  decide +kernel
-- the double-ended sorted iterator: `next`, `next_back`, `next`, … ; `none` once everything was handed out
example : (sortedCalls [false, true, false, true, true, false, false, true, false, true] exQ).toOption.map
    (fun r => (r.1.map (fun o => o.map (·.2)), r.2.size)) =
    some ([some 10, some 80, some 20, some 70, some 60, some 30, some 40, some 50, none, none], 0) := by
  rw [exQ_eq]
  decide +kernel
example : (intoAscendingSortedVec exQ).toOption.map (fun l => l.map (·.2)) = some [10, 20, 30, 40, 50, 60, 70, 80] := by
  rw [exQ_eq]
  decide +kernel
example : (intoDescendingSortedVec exQ).toOption.map (fun l => l.map (·.2)) = some [80, 70, 60, 50, 40, 30, 20, 10] := by
  rw [exQ_eq]
  decide +kernel
-- the theorems instantiate on the concrete queue
example : ∃ l, intoAscendingSortedVec exQ = .ok l ∧ l.length = 8 ∧ l.Pairwise (fun a b => ¬ b.2 < a.2) := by
  obtain ⟨l, h1, h2, _, h3, _⟩ := intoAscendingSortedVec_spec exQ_inv
  exact ⟨l, h1, by rw [h2, exQ_eq]; decide +kernel, h3⟩

example : ∃ outs s', sortedCalls [false, true, true] exQ = .ok (outs, s') ∧ Inv s' ∧ s'.size = 5 := by
  obtain ⟨outs, s', h1, h2, _, _, _, h3⟩ := sortedCalls_spec exQ_inv [false, true, true]
  exact ⟨outs, s', h1, h2, by rw [h3, exQ_eq]; decide +kernel⟩

end DQ
end PQ
