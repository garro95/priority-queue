import PQ.Props.C14
/-!
# Equality of queues for a priority type whose `==` is coarser than identity (all lemma names carry the prefix `eqvBy_`)

Rust: `impl PartialEq for Store` (src/store.rs) is `self.map == other.map`; IndexMap's `==` is order-insensitive (same
length, and every entry of the left is found by key in the right with an equal VALUE) and compares the values with the
priority type's own `PartialEq` — which need not be identity (the correspondence harness's `Pri` carries a tag that takes
no part in `Eq`/`Ord`).  The model's `IMap.eqv` compares priorities with Lean's `=`.

`IMap.eqvBy peq` is `IMap.eqv` with the priority comparison `peq : P → P → Bool` as a parameter.  It is defined in
`Props/C14.lean`, which proves for it what it needs for `IMap.eqv` itself:

* `eqvBy_decide_eq`: with `peq := (decide (· = ·))` it IS `IMap.eqv`;
* `eqvBy_iff`: on duplicate-free maps, for ANY `peq`: equal iff same length and every key is bound on both sides or on
  neither, with `peq`-related priorities (slot order, `heap`, `qp`, payloads take no part).

This file adds

* `eqvBy_refl_iff` / `eqvBy_symm` / `eqvBy_trans`: reflexive / symmetric / transitive whenever `peq` is (with the exact
  hypotheses: reflexivity only on the stored priorities and unique keys; symmetry needs unique keys on both sides;
  transitivity needs no hypothesis on the maps at all);
* `eqvBy_norm`: if `peq x y = decide (norm x = norm y)` then `eqvBy peq a b = eqv (norm-ed a) (norm-ed b)`: comparing
  normal forms with `=` — what the differential driver does — is comparing with the coarser `==`.
-/
namespace PQ
open IMap
variable {P : Type}

/-- `PartialEq for Store` with the priority comparison `peq`: compares the maps only -/
def Store.eqvBy (peq : P → P → Bool) (a b : Store P) : Bool := IMap.eqvBy peq a.map b.map

/-- what `eqvBy_iff` says about one key: bound on both sides with `peq`-related priorities, or on neither -/
def IMap.keyAgrees (peq : P → P → Bool) (a b : IMap P) (k : Nat) : Bool :=
  match lookup a k, lookup b k with
  | some x, some y => peq x.2 y.2
  | none, none => true
  | _, _ => false

theorem eqvBy_store_decide_eq [DecidableEq P] : Store.eqvBy (fun x y : P => decide (x = y)) = Store.eqv := rfl

theorem eqvBy_iff_keyAgrees {peq : P → P → Bool} {a b : IMap P} (ha : NoDupKeys a) (hb : NoDupKeys b) :
    IMap.eqvBy peq a b = true ↔ a.size = b.size ∧ ∀ k, IMap.keyAgrees peq a b k = true :=
  eqvBy_iff ha hb

theorem eqvBy_store_iff {peq : P → P → Bool} {s t : Store P} (hs : s.WF) (ht : t.WF) :
    Store.eqvBy peq s t = true ↔ s.map.size = t.map.size ∧ ∀ k, IMap.keyAgrees peq s.map t.map k = true :=
  eqvBy_iff hs.nodup ht.nodup

/-- **reflexivity**: a map with unique keys is `==` to itself iff `peq` is reflexive on the priorities it stores (in
Rust: `P: Eq`, which `P: Ord` demands).  Unique keys are necessary (`C14_refl_needs_noDup`). -/
theorem eqvBy_refl_iff {peq : P → P → Bool} {a : IMap P} (ha : NoDupKeys a) :
    IMap.eqvBy peq a a = true ↔ ∀ (i : Nat) (e : Item × P), a[i]? = some e → peq e.2 e.2 = true := by
  rw [eqvBy_iff_forall]
  constructor
  · rintro ⟨_, hall⟩ i e he
    obtain ⟨x, hx, hp⟩ := hall i e he
    rw [lookup_of_getElem? ha he] at hx; cases hx
    exact hp
  · intro h
    exact ⟨rfl, fun i e he => ⟨e, lookup_of_getElem? ha he, h i e he⟩⟩

theorem eqvBy_refl {peq : P → P → Bool} (hrefl : ∀ x, peq x x = true) {a : IMap P} (ha : NoDupKeys a) :
    IMap.eqvBy peq a a = true :=
  (eqvBy_refl_iff ha).2 fun _ e _ => hrefl e.2

/-- **symmetry**: with unique keys on both sides and a symmetric `peq` (only needed on pairs of priorities stored
under the same key, left one in `a`, right one in `b`) -/
theorem eqvBy_symm {peq : P → P → Bool} {a b : IMap P} (ha : NoDupKeys a) (hb : NoDupKeys b)
    (hsymm : ∀ k x y, lookup a k = some x → lookup b k = some y → peq x.2 y.2 = true → peq y.2 x.2 = true)
    (h : IMap.eqvBy peq a b = true) : IMap.eqvBy peq b a = true := by
  obtain ⟨hs, hk⟩ := (eqvBy_iff ha hb).1 h
  refine (eqvBy_iff hb ha).2 ⟨hs.symm, fun k => ?_⟩
  have := hk k
  cases hla : lookup a k with
  | none =>
    cases hlb : lookup b k with
    | none => rfl
    | some y => simp [hla, hlb] at this
  | some x =>
    cases hlb : lookup b k with
    | none => simp [hla, hlb] at this
    | some y =>
      simp only [hla, hlb] at this ⊢
      exact hsymm k x y hla hlb this

theorem eqvBy_symm_eq {peq : P → P → Bool} (hsymm : ∀ x y, peq x y = true → peq y x = true) {a b : IMap P}
    (ha : NoDupKeys a) (hb : NoDupKeys b) : IMap.eqvBy peq a b = IMap.eqvBy peq b a := by
  rw [Bool.eq_iff_iff]
  exact ⟨eqvBy_symm ha hb (fun _ x y _ _ => hsymm x.2 y.2), eqvBy_symm hb ha (fun _ x y _ _ => hsymm x.2 y.2)⟩

/-- **transitivity**: for a transitive `peq`; NO hypothesis on the maps (the "every left entry is found on the right"
relation composes as it is) -/
theorem eqvBy_trans {peq : P → P → Bool} (htrans : ∀ x y z, peq x y = true → peq y z = true → peq x z = true)
    {a b c : IMap P} (hab : IMap.eqvBy peq a b = true) (hbc : IMap.eqvBy peq b c = true) :
    IMap.eqvBy peq a c = true := by
  obtain ⟨hs1, h1⟩ := eqvBy_iff_forall.1 hab
  obtain ⟨hs2, h2⟩ := eqvBy_iff_forall.1 hbc
  refine eqvBy_iff_forall.2 ⟨hs1.trans hs2, fun i e he => ?_⟩
  obtain ⟨x, hx, hp⟩ := h1 i e he
  obtain ⟨⟨j, hj⟩, hkx⟩ := lookup_some hx
  obtain ⟨y, hy, hq⟩ := h2 j x hj
  rw [hkx] at hy
  exact ⟨y, hy, htrans _ _ _ hp hq⟩

/-- **`==` on well-formed queues is an equivalence relation whenever the priority type's `==` is** -/
theorem eqvBy_store_equivalence {peq : P → P → Bool} (hrefl : ∀ x, peq x x = true)
    (hsymm : ∀ x y, peq x y = true → peq y x = true)
    (htrans : ∀ x y z, peq x y = true → peq y z = true → peq x z = true) :
    (∀ s : Store P, s.WF → Store.eqvBy peq s s = true) ∧
    (∀ s t : Store P, s.WF → t.WF → Store.eqvBy peq s t = true → Store.eqvBy peq t s = true) ∧
    (∀ s t u : Store P, Store.eqvBy peq s t = true → Store.eqvBy peq t u = true → Store.eqvBy peq s u = true) :=
  ⟨fun _ hs => eqvBy_refl hrefl hs.nodup,
   fun _ _ hs ht h => eqvBy_symm hs.nodup ht.nodup (fun _ x y _ _ => hsymm x.2 y.2) h,
   fun _ _ _ h1 h2 => eqvBy_trans htrans h1 h2⟩

def IMap.normBy (norm : P → P) (m : IMap P) : IMap P := m.map fun e => (e.1, norm e.2)

theorem eqvBy_lookup_normBy (norm : P → P) (m : IMap P) (k : Nat) :
    lookup (IMap.normBy norm m) k = (lookup m k).map fun e => (e.1, norm e.2) := by
  unfold lookup IMap.normBy
  rw [Array.toList_map, List.find?_map]
  rfl

/-- **comparing normal forms with `=` is comparing with the coarser `==`**: if the priority type's `==` is "equal normal
forms" (`peq x y = decide (norm x = norm y)`), then the crate's `==` on two maps is the model's `IMap.eqv` (which uses
`=`) on the maps with every priority normalised.  No hypothesis on the maps.  This is the fact the differential driver
relies on when it prints `Store.eqv (nm s) (nm o)` for the crate's `s == o`. -/
theorem eqvBy_norm [DecidableEq P] {peq : P → P → Bool} {norm : P → P}
    (hpeq : ∀ x y, peq x y = decide (norm x = norm y)) (a b : IMap P) :
    IMap.eqvBy peq a b = IMap.eqv (a.map fun e => (e.1, norm e.2)) (b.map fun e => (e.1, norm e.2)) := by
  rw [Bool.eq_iff_iff, eqvBy_iff_forall, IMap.eqv_iff_forall]
  simp only [Array.size_map, Array.getElem?_map]
  have hl := eqvBy_lookup_normBy norm b
  unfold IMap.normBy at hl
  constructor
  · rintro ⟨hs, hall⟩
    refine ⟨hs, fun i e he => ?_⟩
    obtain ⟨e0, he0, rfl⟩ := Option.map_eq_some_iff.1 he
    obtain ⟨x, hx, hp⟩ := hall i e0 he0
    rw [hpeq, decide_eq_true_eq] at hp
    rw [hl, hx]
    simp [hp]
  · rintro ⟨hs, hall⟩
    refine ⟨hs, fun i e he => ?_⟩
    have := hall i (e.1, norm e.2) (by rw [he]; rfl)
    rw [hl] at this
    cases hx : lookup b e.1.key with
    | none => simp [hx] at this
    | some x =>
      refine ⟨x, rfl, ?_⟩
      rw [hpeq, decide_eq_true_eq]
      simpa [hx] using this.symm

theorem eqvBy_store_norm [DecidableEq P] {peq : P → P → Bool} {norm : P → P}
    (hpeq : ∀ x y, peq x y = decide (norm x = norm y)) (s t : Store P) :
    Store.eqvBy peq s t =
      Store.eqv { s with map := s.map.map fun e => (e.1, norm e.2) } { t with map := t.map.map fun e => (e.1, norm e.2) } :=
  eqvBy_norm hpeq s.map t.map

/-! Priorities are natural numbers whose three low bits are a tag that `==` ignores (`x == y` iff `x / 8 = y / 8`), like the
`Pri` of the correspondence harness. -/
section Examples

private def peq8 (x y : Nat) : Bool := decide (x / 8 = y / 8)
private def norm8 (x : Nat) : Nat := x / 8

private def mA : IMap Nat := #[(⟨1, 10⟩, 8 * 5 + 1), (⟨2, 20⟩, 8 * 7 + 2), (⟨3, 30⟩, 8 * 6)]
/-- other slot order, other payloads, other tags: equal for `peq8`, unequal for `=` -/
private def mB : IMap Nat := #[(⟨3, 31⟩, 8 * 6 + 7), (⟨1, 11⟩, 8 * 5), (⟨2, 21⟩, 8 * 7 + 3)]
/-- one priority really different -/
private def mC : IMap Nat := #[(⟨3, 31⟩, 8 * 6 + 7), (⟨1, 11⟩, 8 * 4), (⟨2, 21⟩, 8 * 7 + 3)]

example : NoDupKeys mA ∧ NoDupKeys mB ∧ NoDupKeys mC := by decide +kernel

/-- coarser than identity: `mA == mB` although no priority is identical; the model's `eqv` (identity) says no -/
example : IMap.eqvBy peq8 mA mB = true ∧ IMap.eqvBy peq8 mB mA = true ∧ IMap.eqv mA mB = false ∧
    IMap.eqvBy peq8 mA mC = false ∧ IMap.eqvBy peq8 mC mA = false ∧ IMap.eqvBy peq8 mA mA = true := by
  decide +kernel

/-- both sides of `eqvBy_iff` on the concrete maps (all keys that occur, and some that do not) -/
example : mA.size = mB.size ∧ (∀ k, k < 6 → IMap.keyAgrees peq8 mA mB k = true) ∧
    IMap.keyAgrees peq8 mA mC 1 = false := by decide +kernel

/-- the hypotheses of `eqvBy_refl` / `eqvBy_symm_eq` / `eqvBy_trans` / `eqvBy_norm` hold for `peq8`, which is NOT
identity -/
example : (∀ x, peq8 x x = true) ∧ (∀ x y, peq8 x y = true → peq8 y x = true) ∧
    (∀ x y z, peq8 x y = true → peq8 y z = true → peq8 x z = true) ∧
    (∀ x y, peq8 x y = decide (norm8 x = norm8 y)) ∧ peq8 41 40 = true ∧ (41 : Nat) ≠ 40 := by
  refine ⟨fun x => by simp [peq8], fun x y h => ?_, fun x y z h1 h2 => ?_, fun _ _ => rfl, by decide, by decide⟩
  · simp only [peq8, decide_eq_true_eq] at h ⊢; exact h.symm
  · simp only [peq8, decide_eq_true_eq] at h1 h2 ⊢; exact h1.trans h2

/-- `eqvBy_norm` on the concrete maps: both sides evaluated -/
example : IMap.eqv (mA.map fun e => (e.1, norm8 e.2)) (mB.map fun e => (e.1, norm8 e.2)) = true ∧
    IMap.eqv (mA.map fun e => (e.1, norm8 e.2)) (mC.map fun e => (e.1, norm8 e.2)) = false := by decide +kernel

/-- a comparison that is not reflexive (`NaN`-like: 0 is unequal to itself): the queue holding it is not `==` to itself -/
example : IMap.eqvBy (fun x y : Nat => decide (x = y ∧ x ≠ 0)) #[(⟨1, 0⟩, 0)] #[(⟨1, 0⟩, 0)] = false := by decide +kernel

end Examples

end PQ

#print axioms PQ.eqvBy_decide_eq
#print axioms PQ.eqvBy_iff
#print axioms PQ.eqvBy_refl_iff
#print axioms PQ.eqvBy_refl
#print axioms PQ.eqvBy_symm
#print axioms PQ.eqvBy_symm_eq
#print axioms PQ.eqvBy_trans
#print axioms PQ.eqvBy_store_equivalence
#print axioms PQ.eqvBy_norm
#print axioms PQ.eqvBy_store_norm
