import PQ.Lemmas.Defs
/-!
# Index arithmetic of the implicit binary tree (`left right parent level`), the ancestor relation,
left-spine heights and the linear bound `Σ_{i<n} height n i < n` behind the O(n) cost of Floyd's heap
construction.

All lemmas are about the GENERATED definitions of `PQ/Model/Arith.lean` (nothing is restated) and hold for
arbitrary naturals (no `usize` bound is needed).
-/

namespace PQ.Arith

/-! ## Tree shape -/

@[simp] theorem parent_left (i : Nat) : parent (left i) = i := by
  simp only [parent, left]; omega

@[simp] theorem parent_right (i : Nat) : parent (right i) = i := by
  simp only [parent, right]; omega

@[simp] theorem parent_zero : parent 0 = 0 := by decide

theorem left_gt (i : Nat) : i < left i := by simp only [left]; omega
theorem right_gt (i : Nat) : i < right i := by simp only [right]; omega
theorem left_pos (i : Nat) : 0 < left i := by simp only [left]; omega
theorem right_pos (i : Nat) : 0 < right i := by simp only [right]; omega
theorem right_eq (i : Nat) : right i = left i + 1 := by simp only [left, right]
theorem left_lt_right (i : Nat) : left i < right i := by simp only [left, right]; omega
theorem left_ne_right (i j : Nat) : left i ≠ right j := by simp only [left, right]; omega

theorem left_inj {i j : Nat} : left i = left j ↔ i = j := by simp only [left]; omega
theorem right_inj {i j : Nat} : right i = right j ↔ i = j := by simp only [right]; omega
theorem left_lt_left {i j : Nat} : left i < left j ↔ i < j := by simp only [left]; omega
theorem left_mono {i j : Nat} (h : i ≤ j) : left i ≤ left j := by simp only [left]; omega
theorem right_mono {i j : Nat} (h : i ≤ j) : right i ≤ right j := by simp only [right]; omega

theorem parent_lt {i : Nat} (h : 0 < i) : parent i < i := by simp only [parent]; omega
theorem parent_le (i : Nat) : parent i ≤ i := by simp only [parent]; omega
theorem parent_mono {i j : Nat} (h : i ≤ j) : parent i ≤ parent j := by simp only [parent]; omega

theorem left_parent_or {i : Nat} (h : 0 < i) : i = left (parent i) ∨ i = right (parent i) := by
  simp only [parent, left, right]; omega

/-- the parent of a non-root is characterised by the child equations -/
theorem parent_eq_iff {i p : Nat} (h : 0 < i) : parent i = p ↔ i = left p ∨ i = right p := by
  simp only [parent, left, right]; omega

/-- `left i ≤ n ↔ i ≤ parent n` for `1 ≤ n` (false at `n = 0`, `i = 0`: `left 0 = 1 > 0` but `0 ≤ parent 0`) -/
theorem le_parent_iff {i n : Nat} (h : 1 ≤ n) : i ≤ parent n ↔ left i ≤ n := by
  simp only [parent, left]; omega

/-- the right child is in `0..=n` iff `i ≤ parent (n - 1)`, for `2 ≤ n` -/
theorem right_le_iff {i n : Nat} (h : 2 ≤ n) : right i ≤ n ↔ i ≤ parent (n - 1) := by
  simp only [parent, right]; omega

/-- Loop guard of the Rust `heapify_min` (`i <= parent(len - 1)`): for `2 ≤ n` it says exactly that `i` has a
(left) child below `n`.  The side condition `2 ≤ n` is needed: for `n ≤ 1` nobody has a child but
`0 ≤ parent (n - 1) = 0` (see `left_lt_iff_fails_small`). -/
theorem left_lt_iff {i n : Nat} (h : 2 ≤ n) : left i < n ↔ i ≤ parent (n - 1) := by
  simp only [parent, left]; omega

theorem left_lt_iff_fails_small : ¬ (left 0 < 1 ↔ 0 ≤ parent (1 - 1)) := by decide

/-- `parent n` is the last index with a child in `0..=n`: for `1 ≤ n`, `left i < n + 1 ↔ i ≤ parent n`.
The side condition is needed (`n = 0`, `i = 0`). -/
theorem left_lt_succ_iff {i n : Nat} (h : 1 ≤ n) : left i < n + 1 ↔ i ≤ parent n := by
  simp only [parent, left]; omega

/-- Bound of the Rust `heap_build` loop `for i in (0..=parent(len)).rev()`: every `i > parent n` has no child
below `n` — even none at `n` itself.  No side condition is needed. -/
theorem lt_left_of_parent_lt {i n : Nat} (h : parent n < i) : n < left i := by
  simp only [parent, left] at *; omega

theorem le_left_of_parent_lt {i n : Nat} (h : parent n < i) : n ≤ left i :=
  Nat.le_of_lt (lt_left_of_parent_lt h)

/-- for `1 ≤ n`, `lt_left_of_parent_lt` is an equivalence -/
theorem parent_lt_iff {i n : Nat} (h : 1 ≤ n) : parent n < i ↔ n < left i := by
  simp only [parent, left]; omega

/-- a node with a child below `n` is itself below `n` -/
theorem lt_of_left_lt {i n : Nat} (h : left i < n) : i < n := Nat.lt_trans (left_gt i) h

theorem left_lt_of_right_lt {i n : Nat} (h : right i < n) : left i < n :=
  Nat.lt_trans (left_lt_right i) h

example : left 3 < 8 ↔ 3 ≤ parent (8 - 1) := left_lt_iff (by decide)
example : parent 7 < 4 ∧ 7 < left 4 := by decide

/-! ## Levels -/

theorem level_eq (i : Nat) : level i = Nat.log2 (i + 1) := rfl

@[simp] theorem level_zero : level 0 = 0 := by decide
@[simp] theorem level_one : level 1 = 1 := by decide
@[simp] theorem level_two : level 2 = 1 := by decide

@[simp] theorem level_left (i : Nat) : level (left i) = level i + 1 := by
  simp only [level_eq, left]
  have h : i * 2 + 1 + 1 = 2 * (i + 1) := by omega
  rw [h, Nat.log2_two_mul (by omega)]

@[simp] theorem level_right (i : Nat) : level (right i) = level i + 1 := by
  simp only [level_eq, right]
  rw [Nat.log2_def]
  have h1 : 2 ≤ i * 2 + 2 + 1 := by omega
  have h2 : (i * 2 + 2 + 1) / 2 = i + 1 := by omega
  rw [if_pos h1, h2]

theorem level_parent {i : Nat} (h : 0 < i) : level (parent i) + 1 = level i := by
  rcases left_parent_or h with e | e
  · conv => rhs; rw [e, level_left]
  · conv => rhs; rw [e, level_right]

theorem log2_mono {a b : Nat} (h : a ≤ b) : Nat.log2 a ≤ Nat.log2 b := by
  by_cases ha : a = 0
  · subst ha; have : Nat.log2 0 = 0 := by decide
    omega
  · have hb : b ≠ 0 := by omega
    have h1 : a < 2 ^ (Nat.log2 b + 1) := Nat.lt_of_le_of_lt h Nat.lt_log2_self
    have := (Nat.log2_lt ha).2 h1
    omega

theorem level_mono {i j : Nat} (h : i ≤ j) : level i ≤ level j := by
  simp only [level_eq]; exact log2_mono (by omega)

theorem lt_two_pow_level (i : Nat) : i + 1 < 2 ^ (level i + 1) := by
  simp only [level_eq]; exact Nat.lt_log2_self

theorem two_pow_level_le (i : Nat) : 2 ^ level i ≤ i + 1 := by
  simp only [level_eq]; exact Nat.log2_self_le (by omega)

/-- `level i = k` iff `i + 1` lies in the dyadic block `[2^k, 2^(k+1))` -/
theorem level_eq_iff {i k : Nat} : level i = k ↔ 2 ^ k ≤ i + 1 ∧ i + 1 < 2 ^ (k + 1) := by
  simp only [level_eq]
  have hne : i + 1 ≠ 0 := by omega
  have h1 := @Nat.le_log2 (i + 1) k hne
  have h2 := @Nat.log2_lt (i + 1) (k + 1) hne
  omega

theorem level_pos {i : Nat} (h : 0 < i) : 0 < level i := by
  have := level_parent h; omega

theorem level_eq_zero_iff {i : Nat} : level i = 0 ↔ i = 0 := by
  constructor
  · intro h; by_cases h0 : i = 0
    · exact h0
    · have := level_pos (Nat.pos_of_ne_zero h0); omega
  · intro h; subst h; exact level_zero

/-- `level (n - 1) = log2 n` for `1 ≤ n` (the level of the last position of a heap of `n` elements) -/
theorem level_pred {n : Nat} (h : 1 ≤ n) : level (n - 1) = Nat.log2 n := by
  simp only [level_eq]
  have : n - 1 + 1 = n := by omega
  rw [this]

example : level 6 = 2 ∧ level 7 = 3 := by decide

/-! ## Left-spine heights -/

/-- number of edges of the left spine below `i` inside `0..n` (for a heap-shaped tree on `0..n` and `i < n` this is
the height of the subtree rooted at `i`) -/
def height (n : Nat) (i : Nat) : Nat :=
  if left i < n then height n (left i) + 1 else 0
termination_by n - i
decreasing_by
  have := left_gt i
  omega

theorem height_eq (n i : Nat) : height n i = if left i < n then height n (left i) + 1 else 0 := by
  rw [height]

theorem height_of_left_lt {n i : Nat} (h : left i < n) : height n i = height n (left i) + 1 := by
  rw [height_eq, if_pos h]

theorem height_of_not_left_lt {n i : Nat} (h : ¬ left i < n) : height n i = 0 := by
  rw [height_eq, if_neg h]

/-- closed form: the left-spine descendant of `i` at distance `h` is `2^h * (i+1) - 1`, hence
`height n i = ⌊log2 ⌊n / (i+1)⌋⌋` (also for `i ≥ n`, where both sides are `0`) -/
theorem height_eq_log2 (n i : Nat) : height n i = Nat.log2 (n / (i + 1)) := by
  induction hk : n - i using Nat.strongRecOn generalizing i with
  | _ k ih =>
    rw [height_eq, Nat.log2_def]
    have hc : left i < n ↔ 2 ≤ n / (i + 1) := by
      rw [Nat.le_div_iff_mul_le (by omega)]; simp only [left]; omega
    by_cases hl : left i < n
    · rw [if_pos hl, if_pos (hc.1 hl)]
      have hlt : n - left i < k := by have := left_gt i; omega
      rw [ih _ hlt (left i) rfl, Nat.div_div_eq_div_mul]
      have : left i + 1 = (i + 1) * 2 := by simp only [left]; omega
      rw [this]
    · rw [if_neg hl, if_neg (fun h => hl (hc.2 h))]

/-- `height n i ≥ h` iff the left-spine descendant `2^h * (i+1) - 1` at distance `h` is below `n` -/
theorem le_height_iff {n i h : Nat} (hi : i < n) : h ≤ height n i ↔ 2 ^ h * (i + 1) ≤ n := by
  rw [height_eq_log2]
  have hpos : n / (i + 1) ≠ 0 := by
    have : 1 ≤ n / (i + 1) := (Nat.le_div_iff_mul_le (by omega)).2 (by omega)
    omega
  rw [Nat.le_log2 hpos, Nat.le_div_iff_mul_le (by omega)]

theorem height_root (n : Nat) : height n 0 = Nat.log2 n := by
  rw [height_eq_log2]; simp

theorem height_eq_zero_of_le {n i : Nat} (h : n ≤ i) : height n i = 0 := by
  apply height_of_not_left_lt; have := left_gt i; omega

/-- heights decrease to the right (in index order) -/
theorem height_anti (n : Nat) {i j : Nat} (h : i ≤ j) : height n j ≤ height n i := by
  rw [height_eq_log2, height_eq_log2]
  exact log2_mono (Nat.div_le_div_left (by omega) (by omega))

theorem height_right_le (n i : Nat) : height n (right i) ≤ height n (left i) :=
  height_anti n (Nat.le_of_lt (left_lt_right i))

theorem height_mono_len {n m : Nat} (h : n ≤ m) (i : Nat) : height n i ≤ height m i := by
  rw [height_eq_log2, height_eq_log2]
  exact log2_mono (Nat.div_le_div_right h)

/-- strongest form: level plus left-spine height never exceeds `log2 n` -/
theorem level_add_height_le {n i : Nat} (hi : i < n) : level i + height n i ≤ Nat.log2 n := by
  have hn : n ≠ 0 := by omega
  rw [Nat.le_log2 hn, Nat.pow_add]
  have h1 := two_pow_level_le i
  have h2 := (le_height_iff (h := height n i) hi).1 (Nat.le_refl _)
  calc 2 ^ level i * 2 ^ height n i ≤ (i + 1) * 2 ^ height n i := Nat.mul_le_mul_right _ h1
    _ = 2 ^ height n i * (i + 1) := Nat.mul_comm _ _
    _ ≤ n := h2

theorem height_le_level_sub {n i : Nat} (hi : i < n) : height n i ≤ level (n - 1) - level i := by
  have := level_add_height_le hi
  rw [level_pred (by omega)]; omega

theorem height_le_log (n i : Nat) : height n i ≤ Nat.log2 n := by
  rw [← height_root]; exact height_anti n (Nat.zero_le i)

/-- going to a child below `n` loses at least one unit of height: any downward path from `i` inside `0..n`
has at most `height n i` edges -/
theorem height_child_lt {n d : Nat} (hd : 0 < d) (hdn : d < n) : height n d + 1 ≤ height n (parent d) := by
  rcases left_parent_or hd with e | e
  · have hl : left (parent d) < n := by rw [← e]; exact hdn
    rw [height_of_left_lt hl, ← e]; omega
  · have hr : right (parent d) < n := by rw [← e]; exact hdn
    have hl := left_lt_of_right_lt hr
    have := height_right_le n (parent d)
    rw [height_of_left_lt hl]; rw [← e] at this; omega

/-- heights of a level shift: the height of `left i` in `0..n` is the height of `i` in `0..n/2` -/
theorem height_left_half (n i : Nat) : height n (left i) = height (n / 2) i := by
  rw [height_eq_log2, height_eq_log2, Nat.div_div_eq_div_mul]
  have : left i + 1 = 2 * (i + 1) := by simp only [left]; omega
  rw [this]

example : height 10 0 = 3 ∧ height 10 1 = 2 ∧ height 10 2 = 1 ∧ height 10 4 = 1 ∧ height 10 5 = 0 := by
  simp only [height_eq_log2]; decide

/-! ### The linear bound `Σ_{i<n} height n i < n` -/

/-- sums over `List.range` (helper vocabulary of this section) -/
theorem sum_range_succ (f : Nat → Nat) (n : Nat) :
    ((List.range (n + 1)).map f).sum = ((List.range n).map f).sum + f n := by
  simp [List.range_succ]

theorem sum_range_congr {f g : Nat → Nat} {n : Nat} (h : ∀ i, i < n → f i = g i) :
    ((List.range n).map f).sum = ((List.range n).map g).sum := by
  induction n with
  | zero => rfl
  | succ n ih =>
    rw [sum_range_succ, sum_range_succ, ih (fun i hi => h i (by omega)), h n (by omega)]

theorem sum_range_zero_tail {f : Nat → Nat} {m n : Nat} (hmn : m ≤ n)
    (h : ∀ i, m ≤ i → i < n → f i = 0) :
    ((List.range n).map f).sum = ((List.range m).map f).sum := by
  induction n with
  | zero => have : m = 0 := by omega
            subst this; rfl
  | succ n ih =>
    by_cases e : m = n + 1
    · subst e; rfl
    · rw [sum_range_succ, ih (by omega) (fun i h1 h2 => h i h1 (by omega)), h n (by omega) (by omega)]
      rfl

theorem sum_range_add_one (g : Nat → Nat) (m : Nat) :
    ((List.range m).map (fun i => g i + 1)).sum = ((List.range m).map g).sum + m := by
  induction m with
  | zero => rfl
  | succ m ih => rw [sum_range_succ, sum_range_succ, ih]; omega

theorem foldl_add_eq_sum (f : Nat → Nat) (l : List Nat) (a : Nat) :
    l.foldl (fun acc i => acc + f i) a = a + (l.map f).sum := by
  induction l generalizing a with
  | nil => simp
  | cons x xs ih => simp only [List.foldl_cons, List.map_cons, List.sum_cons, ih]; omega

/-- halving recursion of the total height: `S(n) = S(n/2) + n/2` -/
theorem sum_height_half (n : Nat) :
    ((List.range n).map (height n)).sum = ((List.range (n / 2)).map (height (n / 2))).sum + n / 2 := by
  have h1 : ((List.range n).map (height n)).sum = ((List.range (n / 2)).map (height n)).sum :=
    sum_range_zero_tail (by omega) (fun i h1 _ => by
      apply height_of_not_left_lt; simp only [left]; omega)
  have h2 : ((List.range (n / 2)).map (height n)).sum
      = ((List.range (n / 2)).map (fun i => height (n / 2) i + 1)).sum :=
    sum_range_congr (fun i hi => by
      have hl : left i < n := by simp only [left]; omega
      rw [height_of_left_lt hl, height_left_half])
  rw [h1, h2, sum_range_add_one]

/-- **total left-spine height is below the number of nodes** (strict form, `n ≥ 1`) -/
theorem sum_height_lt {n : Nat} (hn : 0 < n) : ((List.range n).map (height n)).sum < n := by
  induction n using Nat.strongRecOn with
  | _ n ih =>
    rw [sum_height_half]
    by_cases h2 : n / 2 = 0
    · rw [h2]; simpa using hn
    · have := ih (n / 2) (by omega) (by omega)
      omega

/-- **Σ_{i<n} height n i ≤ n**: the linear bound behind the O(n) cost of Floyd's heap construction -/
theorem sum_height_le (n : Nat) : ((List.range n).map (height n)).sum ≤ n := by
  by_cases hn : n = 0
  · subst hn; simp
  · exact Nat.le_of_lt (sum_height_lt (by omega))

/-- the same bound in accumulator form -/
theorem sum_height_le_foldl (n : Nat) :
    (List.range n).foldl (fun acc i => acc + height n i) 0 ≤ n := by
  rw [foldl_add_eq_sum, Nat.zero_add]; exact sum_height_le n

theorem sum_height_lt_foldl {n : Nat} (hn : 0 < n) :
    (List.range n).foldl (fun acc i => acc + height n i) 0 < n := by
  rw [foldl_add_eq_sum, Nat.zero_add]; exact sum_height_lt hn

example : ((List.range 10).map (height 10)).sum = 8 := by
  rw [funext (height_eq_log2 10)]; decide

/-! ## `betterToRebuild` -/

theorem two_le_of_betterToRebuild {len1 len2 : Nat} (h : betterToRebuild len1 len2 = true) : 2 ≤ len1 := by
  simp only [betterToRebuild] at h
  by_cases h1 : len1 ≤ 1
  · simp [h1] at h
  · omega

@[simp] theorem betterToRebuild_zero (len1 : Nat) : betterToRebuild len1 0 = false := by
  simp [betterToRebuild, satMul]

example : betterToRebuild 16 100 = true := by decide

end PQ.Arith

namespace PQ
open Arith

/-! ## Ancestors -/

theorem Anc.pos {a d : Nat} (h : Anc a d) : 0 < d := by
  cases h with
  | parent hd => exact hd
  | step hd _ => exact hd

theorem Anc.lt {a d : Nat} (h : Anc a d) : a < d := by
  induction h with
  | parent hd => exact parent_lt hd
  | step hd _ ih => exact Nat.lt_trans ih (parent_lt hd)

theorem not_anc_self (a : Nat) : ¬ Anc a a := fun h => Nat.lt_irrefl _ h.lt

theorem Anc.ne {a d : Nat} (h : Anc a d) : a ≠ d := Nat.ne_of_lt h.lt

theorem Anc.level_lt {a d : Nat} (h : Anc a d) : level a < level d := by
  induction h with
  | parent hd => have := level_parent hd; omega
  | step hd _ ih => have := level_parent hd; omega

theorem Anc.trans {a b c : Nat} (h1 : Anc a b) (h2 : Anc b c) : Anc a c := by
  induction h2 with
  | parent hd => exact Anc.step hd h1
  | step hd _ ih => exact Anc.step hd (ih h1)

theorem Anc.asymm {a d : Nat} (h : Anc a d) : ¬ Anc d a := fun h' => not_anc_self a (h.trans h')

theorem Anc.of_left (i : Nat) : Anc i (left i) := by
  have := Anc.parent (left_pos i); rwa [parent_left] at this

theorem Anc.of_right (i : Nat) : Anc i (right i) := by
  have := Anc.parent (right_pos i); rwa [parent_right] at this

theorem Anc.left_step {a i : Nat} (h : Anc a i) : Anc a (left i) := h.trans (Anc.of_left i)
theorem Anc.right_step {a i : Nat} (h : Anc a i) : Anc a (right i) := h.trans (Anc.of_right i)

/-- bottom-up view (`0 < d` is implied by `Anc a d`, see `Anc.pos`) -/
theorem Anc.cases_child {a d : Nat} (h : Anc a d) : a = Arith.parent d ∨ Anc a (Arith.parent d) := by
  cases h with
  | parent _ => exact Or.inl rfl
  | step _ h' => exact Or.inr h'

theorem anc_iff {a d : Nat} : Anc a d ↔ 0 < d ∧ (a = parent d ∨ Anc a (parent d)) := by
  constructor
  · intro h; exact ⟨h.pos, h.cases_child⟩
  · rintro ⟨hd, h | h⟩
    · subst h; exact Anc.parent hd
    · exact Anc.step hd h

/-- ancestors of a child of `i` are `i` and the ancestors of `i` -/
theorem anc_left_iff {a i : Nat} : Anc a (left i) ↔ a = i ∨ Anc a i := by
  rw [anc_iff, parent_left]; simp [left_pos]

theorem anc_right_iff {a i : Nat} : Anc a (right i) ↔ a = i ∨ Anc a i := by
  rw [anc_iff, parent_right]; simp [right_pos]

/-- top-down view: a strict descendant of `a` is a child of `a` or a strict descendant of a child -/
theorem Anc.cases_top {a d : Nat} (h : Anc a d) :
    d = left a ∨ d = right a ∨ Anc (left a) d ∨ Anc (right a) d := by
  induction h with
  | parent hd => rcases left_parent_or hd with e | e
                 · exact Or.inl e
                 · exact Or.inr (Or.inl e)
  | @step a d hd _ ih =>
    rcases ih with ih | ih | ih | ih
    · right; right; left; have := Anc.parent hd; rwa [ih] at this
    · right; right; right; have := Anc.parent hd; rwa [ih] at this
    · right; right; left; exact Anc.step hd ih
    · right; right; right; exact Anc.step hd ih

/-- the root is an ancestor of everything else -/
theorem Anc.zero {d : Nat} (h : 0 < d) : Anc 0 d := by
  induction d using Nat.strongRecOn with
  | _ d ih =>
    by_cases h1 : Arith.parent d = 0
    · have := Anc.parent h; rwa [h1] at this
    · exact Anc.step h (ih (Arith.parent d) (parent_lt h) (by omega))

theorem not_anc_zero (a : Nat) : ¬ Anc a 0 := fun h => Nat.lt_irrefl _ h.pos

/-- the ancestors of a node form a chain -/
theorem Anc.chain {a b d : Nat} (ha : Anc a d) (hb : Anc b d) : a = b ∨ Anc a b ∨ Anc b a := by
  induction ha generalizing b with
  | parent hd =>
    cases hb with
    | parent _ => exact Or.inl rfl
    | step _ h => exact Or.inr (Or.inr h)
  | step hd h ih =>
    cases hb with
    | parent _ => exact Or.inr (Or.inl h)
    | step _ h' => exact ih h'

/-- two ancestors on the same level coincide -/
theorem Anc.eq_of_level_eq {a b d : Nat} (ha : Anc a d) (hb : Anc b d) (hl : level a = level b) : a = b := by
  rcases ha.chain hb with h | h | h
  · exact h
  · have := h.level_lt; omega
  · have := h.level_lt; omega

/-- along a downward path inside `0..n`, height plus level does not increase: a descendant `d < n` of `a` is at most
`height n a` levels below `a` -/
theorem Anc.level_add_height_le {a d n : Nat} (h : Anc a d) (hd : d < n) :
    level d + height n d ≤ level a + height n a := by
  induction h with
  | parent hd0 =>
    have := height_child_lt hd0 hd
    have := level_parent hd0
    omega
  | step hd0 h' ih =>
    have h1 := height_child_lt hd0 hd
    have h2 := level_parent hd0
    have := ih (Nat.lt_trans (parent_lt hd0) hd)
    omega

theorem Anc.level_le_add_height {a d n : Nat} (h : Anc a d) (hd : d < n) :
    level d ≤ level a + height n a := by
  have := h.level_add_height_le hd; omega

example : Anc 1 9 := by
  have h4 : Anc 1 4 := Anc.of_right 1
  exact h4.left_step
example : ¬ Anc 2 9 := by
  intro h
  have h1 : Anc 1 9 := (Anc.of_right 1).left_step
  have := h.eq_of_level_eq h1 (by decide)
  omega

end PQ
