import PQ.Lemmas.LookupLemmas
import PQ.Lemmas.History
/-!
# A hasher-indexed EXECUTION of the queue operations (definitions and helper lemmas for C18_exec)

The model's `IMap` is searched linearly (`IMap.find?`); `step` / `run` therefore never consult a hash table.  This file defines
an execution that does: every search BY KEY that the crate performs through the IndexMap goes through a lookup function

    look : IMap P → Nat → Option Nat        -- map, key ↦ slot

which `HIndex.lookOf ix` instantiates with the hash-indexed lookup `(ix m).find? m k` of the index `ix m` that the hasher
(and the table's probe order) determine for the current map `m` (`HIndex` of `Lemmas/LookupLemmas.lean`: an arbitrary hash
function and, per hash value, the slots filed under it in an arbitrary probe order).

Everything that searches by key is RE-DEFINED here with `look` in place of `IMap.find?`; the text of each definition is the
text of the model function of the same name with that one replacement:

* IndexMap level (`IMapH`): `contains` (`contains_key`), `getFull` (`get_full` / `get_full_mut` / `get_full_mut2`),
  `insertFull` (`insert_full` / the `entry` API), `swapRemoveFull` (`swap_remove_full`);
* store level (`StoreH`): `changePriority`, `changePriorityBy`, `getPriority`, `getMutWrite`, `remove`, `pushIfAbsent`,
  `append` (AFTER the swap of the two stores the search runs on the map of whichever store is the destination),
  `fromVec`, `extendStep`, `extend`, `fromIterStep`, `fromIter`, `visitSeqStep`, `visitSeq`;
* both queue kinds (`MaxQH`, `DQH`): `push`, `pushIncrease`, `pushDecrease`, `changePriority`, `changePriorityBy`, `remove`,
  `append`, `fromVec`, `fromIter`, `deserialize`, `pushAll`, `extend`;
* `stepL`, `runL` (one operation / a history over a lookup function `look`), and their instances at a family of hash
  indices `stepH`, `runH`, `runHv` (`HIndex.family` / `HIndex.familyRev` are two concrete families; `Look.Agrees` is what the
  theorems need of `look`).

NOT re-defined, because they reach entries by SLOT NUMBER or by heap position only and never search by key (`get_index`,
`get_index_mut2`, `swap_remove_index`, `retain2`, `drain`, `clear`): `pop*`, `pop*_if`, `peek*_mut`, `retain_mut`, `iter_mut`,
`From<the other kind>`, `clear`, `drain`, the capacity operations, and all the sifting (`heapify`, `bubble_up`, `up_heapify`,
`heap_build`).  `stepL` (hence `stepH`) falls through to `step` for them.

How the table is MAINTAINED (insertions filing a new slot, `swap_remove` re-filing the moved slot, `retain2` rebuilding it) is
IndexMap's business and is not modelled: the execution is given, for every map, *some* index (`ix : IMap P → HIndex`), and the
theorems assume only that it is `Valid` for maps with unique keys (IndexMap's own invariant: the table files exactly the stored
slots, each under the hash of its key).
-/
namespace PQ

abbrev Look (P : Type) := IMap P → Nat → Option Nat

/-- the lookup performed through a family of hash indices (one per map): hash the key, probe its bucket, compare keys -/
def HIndex.lookOf {P : Type} (ix : IMap P → HIndex) : Look P := fun m k => (ix m).find? m k

/-- the index family of a hasher `hash` (canonical probe order: ascending slots) -/
def HIndex.family {P : Type} (hash : Nat → Nat) : IMap P → HIndex := fun m => HIndex.ofHash hash m

/-- the index family of a hasher `hash` with the REVERSE probe order inside every bucket -/
def HIndex.familyRev {P : Type} (hash : Nat → Nat) : IMap P → HIndex := fun m =>
  { hash := hash, bucket := fun h => ((HIndex.ofHash hash m).bucket h).reverse }

namespace IMapH
variable {P : Type}

/-- `contains_key` -/
def contains (look : Look P) (m : IMap P) (k : Nat) : Bool := (look m k).isSome

/-- `get_full` -/
def getFull (look : Look P) (m : IMap P) (k : Nat) : Option (Nat × Item × P) :=
  match look m k with
  | some i => (match m[i]? with | some e => some (i, e.1, e.2) | none => none)
  | none => none

/-- `insert_full` / the `entry` API -/
def insertFull (look : Look P) (m : IMap P) (it : Item) (p : P) : IMap P × Nat × Option P :=
  match look m it.key with
  | some i =>
    (match m[i]? with
     | some e => (m.setIfInBounds i (e.1, p), i, some e.2)
     | none => (m, i, none))
  | none => (m.push (it, p), m.size, none)

/-- `swap_remove_full` -/
def swapRemoveFull (look : Look P) (m : IMap P) (k : Nat) : Option (Nat × (Item × P) × IMap P) :=
  match look m k with
  | some i => (match IMap.swapRemoveIndex m i with | some (e, m') => some (i, e, m') | none => none)
  | none => none

end IMapH

namespace StoreH
variable {P : Type}
open Store

def changePriority (look : Look P) (s : Store P) (k : Nat) (p : P) : R (Store P × Option (P × Nat)) :=
  match IMapH.getFull look s.map k with
  | some (index, _, old) => do
    let pos ← getU s.qp index 116
    pure ({ s with map := s.map.setPrio index p }, some (old, pos))
  | none => pure (s, none)

def changePriorityBy (look : Look P) (s : Store P) (k : Nat) (setter : P → P) : R (Store P × Option Nat) :=
  match IMapH.getFull look s.map k with
  | some (index, _, old) => do
    let pos ← getU s.qp index 117
    pure ({ s with map := s.map.setPrio index (setter old) }, some pos)
  | none => pure (s, none)

def getPriority (look : Look P) (s : Store P) (k : Nat) : Option P := (IMapH.getFull look s.map k).map (·.2.2)

def getMutWrite (look : Look P) (s : Store P) (k : Nat) (w : Item → Item) : Store P × Option (Item × P) :=
  match IMapH.getFull look s.map k with
  | some (index, it, p) => ({ s with map := s.map.setItem index (w it) }, some (it, p))
  | none => (s, none)

def remove (look : Look P) (s : Store P) (k : Nat) : R (Store P × Option (Item × P × Nat)) :=
  match IMapH.swapRemoveFull look s.map k with
  | none => pure (s, none)
  | some (i, e, map) => do
    let size ← decC s.size 118
    let (pos, qp) ← swapRemoveC s.qp i 119
    let (_, heap) ← swapRemoveC s.heap pos 120
    let (qp, heap) ←
      if i < size then do
        let qpi ← getU qp i 121
        if qpi = size then do
          let qp ← setU qp i pos 122
          pure (qp, heap)
        else do
          let heap ← setU heap qpi i 123
          pure (qp, heap)
      else pure (qp, heap)
    let (qp, heap) ←
      if pos < size then do
        let hp ← getU heap pos 124
        if hp = size then do
          let heap ← setU heap pos i 125
          pure (qp, heap)
        else do
          let qp ← setU qp hp pos 126
          pure (qp, heap)
      else pure (qp, heap)
    pure ({ s with map := map, heap := heap, qp := qp, size := size }, some (e.1, e.2, pos))

def pushIfAbsent (look : Look P) (s : Store P) (e : Item × P) : Store P :=
  if IMapH.contains look s.map e.1.key then s
  else
    { s with map := s.map.push e, heap := s.heap.push s.size, qp := s.qp.push s.size, size := s.size + 1 }

/-- `append(other)`: the two stores are swapped first when `other` is the larger one; the loop then searches the map of the
destination `s` — whichever of the two that is — through `look` -/
def append (look : Look P) (s o : Store P) : Store P × Store P :=
  let (s, o) := if o.size > s.size then (o, s) else (s, o)
  if o.size = 0 then (s, o)
  else
    let (entries, o) := o.drain
    (entries.foldl (pushIfAbsent look) s, o)

def fromVec (look : Look P) (v : Array (Item × P)) : Store P :=
  v.foldl (pushIfAbsent look) empty

def extendStep (look : Look P) (s : Store P) (e : Item × P) : Store P :=
  match look s.map e.1.key with
  | some i => { s with map := s.map.setPrio i e.2 }
  | none =>
    { s with map := s.map.push e, heap := s.heap.push s.size, qp := s.qp.push s.size, size := s.size + 1 }

def extend (look : Look P) (s : Store P) (xs : Array (Item × P)) : Store P := xs.foldl (extendStep look) s

def fromIterStep (look : Look P) (s : Store P) (e : Item × P) : Store P :=
  match look s.map e.1.key with
  | some i => { s with map := s.map.setIfInBounds i e }
  | none =>
    { s with map := s.map.push e, heap := s.heap.push s.size, qp := s.qp.push s.size, size := s.size + 1 }

def fromIter (look : Look P) (xs : Array (Item × P)) : Store P := xs.foldl (fromIterStep look) empty

def visitSeqStep (look : Look P) (s : Store P) (e : Item × P) : Store P :=
  let (map, _, old) := IMapH.insertFull look s.map e.1 e.2
  match old with
  | some _ => { s with map := map }
  | none => { s with map := map, heap := s.heap.push s.size, qp := s.qp.push s.size, size := s.size + 1 }

def visitSeq (look : Look P) (xs : Array (Item × P)) : Store P := xs.foldl (visitSeqStep look) empty

end StoreH

namespace MaxQH
open PQ.Arith
variable {P : Type} [LT P] [DecidableLT P]

def push (look : Look P) (s : Store P) (it : Item) (p : P) : R (Store P × Option P) :=
  let (map, idx, old) := IMapH.insertFull look s.map it p
  let s := { s with map := map }
  match old with
  | some oldp => do
    let pos ← getU s.qp idx 210
    let s ← MaxQ.upHeapify s pos
    pure (s, some oldp)
  | none => do
    let i := s.size
    let s := { s with qp := s.qp.push i, heap := s.heap.push i }
    let (s, _) ← MaxQ.bubbleUp s i i
    pure ({ s with size := s.size + 1 }, none)

def pushIncrease (look : Look P) (s : Store P) (it : Item) (p : P) : R (Store P × Option P) :=
  match StoreH.getPriority look s it.key with
  | none => push look s it p
  | some q =>
    let s := s.tick
    if q < p then push look s it p else pure (s, some p)

def pushDecrease (look : Look P) (s : Store P) (it : Item) (p : P) : R (Store P × Option P) :=
  match StoreH.getPriority look s it.key with
  | none => push look s it p
  | some q =>
    let s := s.tick
    if p < q then push look s it p else pure (s, some p)

def changePriority (look : Look P) (s : Store P) (k : Nat) (p : P) : R (Store P × Option P) := do
  let (s, r) ← StoreH.changePriority look s k p
  match r with
  | some (old, pos) => do
    let s ← MaxQ.upHeapify s pos
    pure (s, some old)
  | none => pure (s, none)

def changePriorityBy (look : Look P) (s : Store P) (k : Nat) (setter : P → P) : R (Store P × Bool) := do
  let (s, r) ← StoreH.changePriorityBy look s k setter
  match r with
  | some pos => do
    let s ← MaxQ.upHeapify s pos
    pure (s, true)
  | none => pure (s, false)

def remove (look : Look P) (s : Store P) (k : Nat) : R (Store P × Option (Item × P)) := do
  let (s, r) ← StoreH.remove look s k
  match r with
  | some (it, p, pos) =>
    if pos < s.size then do
      let s ← MaxQ.upHeapify s pos
      pure (s, some (it, p))
    else pure (s, some (it, p))
  | none => pure (s, none)

def append (look : Look P) (s o : Store P) : R (Store P × Store P) := do
  let (s, o) := StoreH.append look s o
  let s ← MaxQ.heapBuild s
  pure (s, o)

def fromVec (look : Look P) (v : Array (Item × P)) : R (Store P) := MaxQ.heapBuild (StoreH.fromVec look v)

def fromIter (look : Look P) (lo : Nat) (xs : Array (Item × P)) : R (Store P) := do
  reserveC lo
  MaxQ.heapBuild (StoreH.fromIter look xs)

def deserialize (look : Look P) (hint : Option Nat) (xs : Array (Item × P)) : R (Store P) := do
  match hint with
  | some h => reserveC (min h 4096)
  | none => pure ()
  MaxQ.heapBuild (StoreH.visitSeq look xs)

def pushAll (look : Look P) : List (Item × P) → Store P → R (Store P)
  | [], s => pure s
  | e :: es, s => do
    let (s, _) ← push look s e.1 e.2
    pushAll look es s

def extend (look : Look P) (s : Store P) (lo : Nat) (xs : Array (Item × P)) : R (Store P) := do
  reserveC lo
  let rebuild := if lo ≠ 0 then betterToRebuild s.size lo else false
  if rebuild then MaxQ.heapBuild (StoreH.extend look s xs) else pushAll look xs.toList s

end MaxQH

namespace DQH
open PQ.Arith
variable {P : Type} [LT P] [DecidableLT P]

def push (look : Look P) (s : Store P) (it : Item) (p : P) : R (Store P × Option P) :=
  let (map, idx, old) := IMapH.insertFull look s.map it p
  let s := { s with map := map }
  match old with
  | some oldp => do
    let pos ← getU s.qp idx 331
    let s ← DQ.upHeapify s pos
    pure (s, some oldp)
  | none => do
    let i := s.size
    let s := { s with qp := s.qp.push i, heap := s.heap.push i }
    let (s, _) ← DQ.bubbleUp s i i
    pure ({ s with size := s.size + 1 }, none)

def pushIncrease (look : Look P) (s : Store P) (it : Item) (p : P) : R (Store P × Option P) :=
  match StoreH.getPriority look s it.key with
  | none => push look s it p
  | some q =>
    let s := s.tick
    if q < p then push look s it p else pure (s, some p)

def pushDecrease (look : Look P) (s : Store P) (it : Item) (p : P) : R (Store P × Option P) :=
  match StoreH.getPriority look s it.key with
  | none => push look s it p
  | some q =>
    let s := s.tick
    if p < q then push look s it p else pure (s, some p)

def changePriority (look : Look P) (s : Store P) (k : Nat) (p : P) : R (Store P × Option P) := do
  let (s, r) ← StoreH.changePriority look s k p
  match r with
  | some (old, pos) => do
    let s ← DQ.upHeapify s pos
    pure (s, some old)
  | none => pure (s, none)

def changePriorityBy (look : Look P) (s : Store P) (k : Nat) (setter : P → P) : R (Store P × Bool) := do
  let (s, r) ← StoreH.changePriorityBy look s k setter
  match r with
  | some pos => do
    let s ← DQ.upHeapify s pos
    pure (s, true)
  | none => pure (s, false)

def remove (look : Look P) (s : Store P) (k : Nat) : R (Store P × Option (Item × P)) := do
  let (s, r) ← StoreH.remove look s k
  match r with
  | some (it, p, pos) =>
    if pos < s.size then do
      let s ← DQ.upHeapify s pos
      pure (s, some (it, p))
    else pure (s, some (it, p))
  | none => pure (s, none)

def append (look : Look P) (s o : Store P) : R (Store P × Store P) := do
  let (s, o) := StoreH.append look s o
  let s ← DQ.heapBuild s
  pure (s, o)

def fromVec (look : Look P) (v : Array (Item × P)) : R (Store P) := DQ.heapBuild (StoreH.fromVec look v)

def fromIter (look : Look P) (lo : Nat) (xs : Array (Item × P)) : R (Store P) := do
  reserveC lo
  DQ.heapBuild (StoreH.fromIter look xs)

def deserialize (look : Look P) (hint : Option Nat) (xs : Array (Item × P)) : R (Store P) := do
  match hint with
  | some h => reserveC (min h 4096)
  | none => pure ()
  DQ.heapBuild (StoreH.visitSeq look xs)

def pushAll (look : Look P) : List (Item × P) → Store P → R (Store P)
  | [], s => pure s
  | e :: es, s => do
    let (s, _) ← push look s e.1 e.2
    pushAll look es s

def extend (look : Look P) (s : Store P) (lo : Nat) (xs : Array (Item × P)) : R (Store P) := do
  reserveC lo
  let rebuild := if lo ≠ 0 then betterToRebuild s.size lo else false
  if rebuild then DQ.heapBuild (StoreH.extend look s xs) else pushAll look xs.toList s

end DQH

section exec
variable {P : Type} [LT P] [DecidableLT P]

/-- `step` with every key search through `look`; the operations that never search by key fall through to `step` -/
def stepL (look : Look P) (q : Q P) : Op P → R (Q P × Out P)
  | .push it p => do
    let (s, r) ← (match q.kind with | .pq => MaxQH.push look q.s it p | .dpq => DQH.push look q.s it p)
    pure ({ q with s := s }, .prio r)
  | .pushIncrease it p => do
    let (s, r) ← (match q.kind with | .pq => MaxQH.pushIncrease look q.s it p | .dpq => DQH.pushIncrease look q.s it p)
    pure ({ q with s := s }, .prio r)
  | .pushDecrease it p => do
    let (s, r) ← (match q.kind with | .pq => MaxQH.pushDecrease look q.s it p | .dpq => DQH.pushDecrease look q.s it p)
    pure ({ q with s := s }, .prio r)
  | .changePriority k p => do
    let (s, r) ← (match q.kind with | .pq => MaxQH.changePriority look q.s k p | .dpq => DQH.changePriority look q.s k p)
    pure ({ q with s := s }, .prio r)
  | .changePriorityBy k g => do
    let (s, r) ← (match q.kind with
      | .pq => MaxQH.changePriorityBy look q.s k g | .dpq => DQH.changePriorityBy look q.s k g)
    pure ({ q with s := s }, .bool r)
  | .remove k => do
    let (s, r) ← (match q.kind with | .pq => MaxQH.remove look q.s k | .dpq => DQH.remove look q.s k)
    pure ({ q with s := s }, .entry r)
  | .getMut k w =>
    let (s, r) := StoreH.getMutWrite look q.s k w
    pure ({ q with s := s }, .entry r)
  | .extend lo xs => do
    let s ← (match q.kind with | .pq => MaxQH.extend look q.s lo xs | .dpq => DQH.extend look q.s lo xs)
    pure ({ q with s := s }, .unit)
  | .append o => do
    let (s, o') ← (match q.kind with | .pq => MaxQH.append look q.s o | .dpq => DQH.append look q.s o)
    pure ({ q with s := s }, .other o'.size o'.map.size o'.heap.size o'.qp.size)
  | .fromVec xs => do
    let s ← (match q.kind with | .pq => MaxQH.fromVec look xs | .dpq => DQH.fromVec look xs)
    pure ({ q with s := s }, .unit)
  | .fromIter lo xs => do
    let s ← (match q.kind with | .pq => MaxQH.fromIter look lo xs | .dpq => DQH.fromIter look lo xs)
    pure ({ q with s := s }, .unit)
  | .deserialize hint xs => do
    let s ← (match q.kind with | .pq => MaxQH.deserialize look hint xs | .dpq => DQH.deserialize look hint xs)
    pure ({ q with s := s }, .unit)
  | op => step q op

def runL (look : Look P) (q : Q P) : List (Op P) → R (Q P × List (Out P))
  | [] => pure (q, [])
  | op :: ops => do
    let (q', o) ← stepL look q op
    let (q'', os) ← runL look q' ops
    pure (q'', o :: os)

/-- **the hasher-indexed execution of one public operation**: every key search goes through the hash index `ix m` of the
current map `m` -/
def stepH (ix : IMap P → HIndex) (q : Q P) (op : Op P) : R (Q P × Out P) := stepL (HIndex.lookOf ix) q op

def runH (ix : IMap P → HIndex) (q : Q P) (ops : List (Op P)) : R (Q P × List (Out P)) := runL (HIndex.lookOf ix) q ops

/-- a history in which the index family may be a DIFFERENT one at every operation (`ix t` serves the `t`-th operation): the
hash table of a real IndexMap is a function of the whole past (probe order depends on insertion/removal order, on growth
and rehashing), not of the current entries alone -/
def runHv (ix : Nat → IMap P → HIndex) (t : Nat) (q : Q P) : List (Op P) → R (Q P × List (Out P))
  | [] => pure (q, [])
  | op :: ops => do
    let (q', o) ← stepH (ix t) q op
    let (q'', os) ← runHv ix (t + 1) q' ops
    pure (q'', o :: os)

end exec

/-- `look` finds what the linear search finds on every map with unique keys -/
def Look.Agrees {P : Type} (look : Look P) : Prop := ∀ m : IMap P, m.NoDupKeys → ∀ k, look m k = IMap.find? m k

theorem HIndex.lookOf_agrees {P : Type} (ix : IMap P → HIndex) (hv : ∀ m : IMap P, m.NoDupKeys → (ix m).Valid m) :
    (HIndex.lookOf ix).Agrees :=
  fun m hm k => HIndex.find?_eq_model hm (hv m hm) k

theorem HIndex.family_valid {P : Type} (hash : Nat → Nat) (m : IMap P) : (HIndex.family hash m).Valid m :=
  HIndex.ofHash_valid hash m

theorem HIndex.familyRev_valid {P : Type} (hash : Nat → Nat) (m : IMap P) : (HIndex.familyRev hash m).Valid m := by
  have h := HIndex.ofHash_valid hash m
  constructor
  · intro i e he
    have h1 : i ∈ (HIndex.ofHash hash m).bucket (hash e.1.key) := h.1 i e he
    simpa [HIndex.familyRev] using h1
  · intro b i hi
    have hi' : i ∈ (HIndex.ofHash hash m).bucket b := by simpa [HIndex.familyRev] using hi
    exact h.2 b i hi'

namespace IMapH
variable {P : Type} {look : Look P}

theorem contains_eq (hl : look.Agrees) {m : IMap P} (hm : m.NoDupKeys) (k : Nat) :
    contains look m k = IMap.contains m k := by
  simp only [contains, IMap.contains, hl m hm] <;> rfl

theorem getFull_eq (hl : look.Agrees) {m : IMap P} (hm : m.NoDupKeys) (k : Nat) :
    getFull look m k = IMap.getFull m k := by
  simp only [getFull, IMap.getFull, hl m hm] <;> rfl

theorem insertFull_eq (hl : look.Agrees) {m : IMap P} (hm : m.NoDupKeys) (it : Item) (p : P) :
    insertFull look m it p = IMap.insertFull m it p := by
  simp only [insertFull, IMap.insertFull, hl m hm] <;> rfl

theorem swapRemoveFull_eq (hl : look.Agrees) {m : IMap P} (hm : m.NoDupKeys) (k : Nat) :
    swapRemoveFull look m k = IMap.swapRemoveFull m k := by
  simp only [swapRemoveFull, IMap.swapRemoveFull, hl m hm] <;> rfl

end IMapH

theorem hx_foldl_congr {α β : Type} {f g : β → α → β} (I : β → Prop)
    (hstep : ∀ b a, I b → f b a = g b a) (hinv : ∀ b a, I b → I (g b a)) :
    ∀ (l : List α) (b : β), I b → l.foldl f b = l.foldl g b
  | [], _, _ => rfl
  | a :: l, b, hb => by
    simp only [List.foldl_cons, hstep b a hb]
    exact hx_foldl_congr I hstep hinv l _ (hinv b a hb)

theorem hx_array_foldl_congr {α β : Type} {f g : β → α → β} (I : β → Prop)
    (hstep : ∀ b a, I b → f b a = g b a) (hinv : ∀ b a, I b → I (g b a))
    (xs : Array α) (b : β) (hb : I b) : xs.foldl f b = xs.foldl g b := by
  rw [← Array.foldl_toList, ← Array.foldl_toList]
  exact hx_foldl_congr I hstep hinv xs.toList b hb

namespace StoreH
variable {P : Type} {look : Look P}
open Store

theorem changePriority_eq (hl : look.Agrees) {s : Store P} (h : s.map.NoDupKeys) (k : Nat) (p : P) :
    changePriority look s k p = Store.changePriority s k p := by
  simp only [changePriority, Store.changePriority, IMapH.getFull_eq hl h] <;> rfl

theorem changePriorityBy_eq (hl : look.Agrees) {s : Store P} (h : s.map.NoDupKeys) (k : Nat) (g : P → P) :
    changePriorityBy look s k g = Store.changePriorityBy s k g := by
  simp only [changePriorityBy, Store.changePriorityBy, IMapH.getFull_eq hl h] <;> rfl

theorem getPriority_eq (hl : look.Agrees) {s : Store P} (h : s.map.NoDupKeys) (k : Nat) :
    getPriority look s k = Store.getPriority s k := by
  simp only [getPriority, Store.getPriority, IMapH.getFull_eq hl h] <;> rfl

theorem getMutWrite_eq (hl : look.Agrees) {s : Store P} (h : s.map.NoDupKeys) (k : Nat) (w : Item → Item) :
    getMutWrite look s k w = Store.getMutWrite s k w := by
  simp only [getMutWrite, Store.getMutWrite, IMapH.getFull_eq hl h] <;> rfl

theorem remove_eq (hl : look.Agrees) {s : Store P} (h : s.map.NoDupKeys) (k : Nat) :
    remove look s k = Store.remove s k := by
  simp only [remove, Store.remove, IMapH.swapRemoveFull_eq hl h] <;> rfl

theorem pushIfAbsent_eq (hl : look.Agrees) {s : Store P} (h : s.map.NoDupKeys) (e : Item × P) :
    pushIfAbsent look s e = Store.pushIfAbsent s e := by
  simp only [pushIfAbsent, Store.pushIfAbsent, IMapH.contains_eq hl h] <;> rfl

theorem extendStep_eq (hl : look.Agrees) {s : Store P} (h : s.map.NoDupKeys) (e : Item × P) :
    extendStep look s e = Store.extendStep s e := by
  simp only [extendStep, Store.extendStep, hl _ h] <;> rfl

theorem fromIterStep_eq (hl : look.Agrees) {s : Store P} (h : s.map.NoDupKeys) (e : Item × P) :
    fromIterStep look s e = Store.fromIterStep s e := by
  simp only [fromIterStep, Store.fromIterStep, hl _ h] <;> rfl

theorem visitSeqStep_eq (hl : look.Agrees) {s : Store P} (h : s.map.NoDupKeys) (e : Item × P) :
    visitSeqStep look s e = Store.visitSeqStep s e := by
  simp only [visitSeqStep, Store.visitSeqStep, IMapH.insertFull_eq hl h] <;> rfl

theorem foldl_pushIfAbsent_eq (hl : look.Agrees) (xs : Array (Item × P)) {s : Store P} (h : s.WF) :
    xs.foldl (pushIfAbsent look) s = xs.foldl Store.pushIfAbsent s :=
  hx_array_foldl_congr Store.WF (fun _ e hb => pushIfAbsent_eq hl hb.nodup e) (fun _ e hb => wf_pushIfAbsent hb e) xs s h

theorem fromVec_eq (hl : look.Agrees) (v : Array (Item × P)) : fromVec look v = Store.fromVec v :=
  foldl_pushIfAbsent_eq hl v wf_empty

theorem append_eq (hl : look.Agrees) {s o : Store P} (hs : s.WF) (ho : o.WF) :
    append look s o = Store.append s o := by
  unfold append Store.append
  by_cases hc : o.size > s.size
  · simp only [hc, if_true, drain, foldl_pushIfAbsent_eq hl _ ho]
  · simp only [hc, if_false, drain, foldl_pushIfAbsent_eq hl _ hs]

theorem extend_eq (hl : look.Agrees) {s : Store P} (h : s.WF) (xs : Array (Item × P)) :
    extend look s xs = Store.extend s xs :=
  hx_array_foldl_congr Store.WF (fun _ e hb => extendStep_eq hl hb.nodup e) (fun _ e hb => wf_extendStep hb e) xs s h

theorem fromIter_eq (hl : look.Agrees) (xs : Array (Item × P)) : fromIter look xs = Store.fromIter xs :=
  hx_array_foldl_congr Store.WF (fun _ e hb => fromIterStep_eq hl hb.nodup e) (fun _ e hb => wf_fromIterStep hb e)
    xs empty wf_empty

theorem visitSeq_eq (hl : look.Agrees) (xs : Array (Item × P)) : visitSeq look xs = Store.visitSeq xs :=
  hx_array_foldl_congr Store.WF (fun _ e hb => visitSeqStep_eq hl hb.nodup e) (fun _ e hb => wf_visitSeqStep hb e)
    xs empty wf_empty

end StoreH

namespace MaxQH
variable {P : Type} [LT P] [DecidableLT P] {look : Look P}

theorem push_eq (hl : look.Agrees) {s : Store P} (h : s.map.NoDupKeys) (it : Item) (p : P) :
    push look s it p = MaxQ.push s it p := by
  simp only [push, MaxQ.push, IMapH.insertFull_eq hl h] <;> rfl

theorem pushIncrease_eq (hl : look.Agrees) {s : Store P} (h : s.map.NoDupKeys) (it : Item) (p : P) :
    pushIncrease look s it p = MaxQ.pushIncrease s it p := by
  have ht : s.tick.map.NoDupKeys := h
  simp only [pushIncrease, MaxQ.pushIncrease, StoreH.getPriority_eq hl h, push_eq hl h, push_eq hl ht] <;> rfl

theorem pushDecrease_eq (hl : look.Agrees) {s : Store P} (h : s.map.NoDupKeys) (it : Item) (p : P) :
    pushDecrease look s it p = MaxQ.pushDecrease s it p := by
  have ht : s.tick.map.NoDupKeys := h
  simp only [pushDecrease, MaxQ.pushDecrease, StoreH.getPriority_eq hl h, push_eq hl h, push_eq hl ht] <;> rfl

theorem changePriority_eq (hl : look.Agrees) {s : Store P} (h : s.map.NoDupKeys) (k : Nat) (p : P) :
    changePriority look s k p = MaxQ.changePriority s k p := by
  simp only [changePriority, MaxQ.changePriority, StoreH.changePriority_eq hl h] <;> rfl

theorem changePriorityBy_eq (hl : look.Agrees) {s : Store P} (h : s.map.NoDupKeys) (k : Nat) (g : P → P) :
    changePriorityBy look s k g = MaxQ.changePriorityBy s k g := by
  simp only [changePriorityBy, MaxQ.changePriorityBy, StoreH.changePriorityBy_eq hl h] <;> rfl

theorem remove_eq (hl : look.Agrees) {s : Store P} (h : s.map.NoDupKeys) (k : Nat) :
    remove look s k = MaxQ.remove s k := by
  simp only [remove, MaxQ.remove, StoreH.remove_eq hl h] <;> rfl

theorem append_eq (hl : look.Agrees) {s o : Store P} (hs : s.WF) (ho : o.WF) :
    append look s o = MaxQ.append s o := by
  simp only [append, MaxQ.append, StoreH.append_eq hl hs ho] <;> rfl

theorem fromVec_eq (hl : look.Agrees) (v : Array (Item × P)) : fromVec look v = MaxQ.fromVec v := by
  simp only [fromVec, MaxQ.fromVec, StoreH.fromVec_eq hl] <;> rfl

theorem fromIter_eq (hl : look.Agrees) (lo : Nat) (xs : Array (Item × P)) : fromIter look lo xs = MaxQ.fromIter lo xs := by
  simp only [fromIter, MaxQ.fromIter, StoreH.fromIter_eq hl] <;> rfl

theorem deserialize_eq (hl : look.Agrees) (hint : Option Nat) (xs : Array (Item × P)) :
    deserialize look hint xs = MaxQ.deserialize hint xs := by
  simp only [deserialize, MaxQ.deserialize, StoreH.visitSeq_eq hl] <;> rfl

end MaxQH

namespace DQH
variable {P : Type} [LT P] [DecidableLT P] {look : Look P}

theorem push_eq (hl : look.Agrees) {s : Store P} (h : s.map.NoDupKeys) (it : Item) (p : P) :
    push look s it p = DQ.push s it p := by
  simp only [push, DQ.push, IMapH.insertFull_eq hl h] <;> rfl

theorem pushIncrease_eq (hl : look.Agrees) {s : Store P} (h : s.map.NoDupKeys) (it : Item) (p : P) :
    pushIncrease look s it p = DQ.pushIncrease s it p := by
  have ht : s.tick.map.NoDupKeys := h
  simp only [pushIncrease, DQ.pushIncrease, StoreH.getPriority_eq hl h, push_eq hl h, push_eq hl ht] <;> rfl

theorem pushDecrease_eq (hl : look.Agrees) {s : Store P} (h : s.map.NoDupKeys) (it : Item) (p : P) :
    pushDecrease look s it p = DQ.pushDecrease s it p := by
  have ht : s.tick.map.NoDupKeys := h
  simp only [pushDecrease, DQ.pushDecrease, StoreH.getPriority_eq hl h, push_eq hl h, push_eq hl ht] <;> rfl

theorem changePriority_eq (hl : look.Agrees) {s : Store P} (h : s.map.NoDupKeys) (k : Nat) (p : P) :
    changePriority look s k p = DQ.changePriority s k p := by
  simp only [changePriority, DQ.changePriority, StoreH.changePriority_eq hl h] <;> rfl

theorem changePriorityBy_eq (hl : look.Agrees) {s : Store P} (h : s.map.NoDupKeys) (k : Nat) (g : P → P) :
    changePriorityBy look s k g = DQ.changePriorityBy s k g := by
  simp only [changePriorityBy, DQ.changePriorityBy, StoreH.changePriorityBy_eq hl h] <;> rfl

theorem remove_eq (hl : look.Agrees) {s : Store P} (h : s.map.NoDupKeys) (k : Nat) :
    remove look s k = DQ.remove s k := by
  simp only [remove, DQ.remove, StoreH.remove_eq hl h] <;> rfl

theorem append_eq (hl : look.Agrees) {s o : Store P} (hs : s.WF) (ho : o.WF) :
    append look s o = DQ.append s o := by
  simp only [append, DQ.append, StoreH.append_eq hl hs ho] <;> rfl

theorem fromVec_eq (hl : look.Agrees) (v : Array (Item × P)) : fromVec look v = DQ.fromVec v := by
  simp only [fromVec, DQ.fromVec, StoreH.fromVec_eq hl] <;> rfl

theorem fromIter_eq (hl : look.Agrees) (lo : Nat) (xs : Array (Item × P)) : fromIter look lo xs = DQ.fromIter lo xs := by
  simp only [fromIter, DQ.fromIter, StoreH.fromIter_eq hl] <;> rfl

theorem deserialize_eq (hl : look.Agrees) (hint : Option Nat) (xs : Array (Item × P)) :
    deserialize look hint xs = DQ.deserialize hint xs := by
  simp only [deserialize, DQ.deserialize, StoreH.visitSeq_eq hl] <;> rfl

end DQH

/-! ### the per-element strategy of `extend` needs the order structure (it uses `push_safe`: every push keeps `WF`) -/
section pushAll
variable {P : Type} [LT P] [DecidableLT P] [LE P] [Std.IsLinearPreorder P] [Std.LawfulOrderLT P] {look : Look P}

theorem MaxQH.pushAll_eq (hl : look.Agrees) : ∀ (es : List (Item × P)) {s : Store P}, s.WF →
    MaxQH.pushAll look es s = MaxQ.pushAll es s
  | [], _, _ => rfl
  | e :: es, s, h => by
    obtain ⟨s', he, hwf, _⟩ := MaxQ.push_safe h e.1 e.2
    simp only [MaxQH.pushAll, MaxQ.pushAll, MaxQH.push_eq hl h.nodup, he, bind, Except.bind]
    exact MaxQH.pushAll_eq hl es hwf

theorem MaxQH.extend_eq (hl : look.Agrees) {s : Store P} (h : s.WF) (lo : Nat) (xs : Array (Item × P)) :
    MaxQH.extend look s lo xs = MaxQ.extend s lo xs := by
  simp only [MaxQH.extend, MaxQ.extend, StoreH.extend_eq hl h, MaxQH.pushAll_eq hl _ h] <;> rfl

theorem DQH.pushAll_eq (hl : look.Agrees) : ∀ (es : List (Item × P)) {s : Store P}, s.WF →
    DQH.pushAll look es s = DQ.pushAll es s
  | [], _, _ => rfl
  | e :: es, s, h => by
    obtain ⟨s', he, hwf, _⟩ := DQ.push_safe h e.1 e.2
    simp only [DQH.pushAll, DQ.pushAll, DQH.push_eq hl h.nodup, he, bind, Except.bind]
    exact DQH.pushAll_eq hl es hwf

theorem DQH.extend_eq (hl : look.Agrees) {s : Store P} (h : s.WF) (lo : Nat) (xs : Array (Item × P)) :
    DQH.extend look s lo xs = DQ.extend s lo xs := by
  simp only [DQH.extend, DQ.extend, StoreH.extend_eq hl h, DQH.pushAll_eq hl _ h] <;> rfl

end pushAll

end PQ
