import PQ.Model.Iter
import PQ.Lemmas.Monad
/-!
# Lemmas about the iterator machines (`Cursor`, `PIterMut`, `DIterMut`)

Vocabulary used by `PQ/Props/C09.lean` and `PQ/Props/C13.lean`:

* `slots outs`      – the slot indices emitted (`.slot (some i)`) in `outs`, in order;
* `adv calls`       – number of advancing calls (`.next` / `.nextBack`) in `calls`;
* `slotsOf w calls outs` – the slots emitted in answer to the calls equal to `w`;
* `Cursor.exec`, `DIterMut.exec` – the machine state after a call list.

The main technical facts are proved for `Cursor` started in an *arbitrary* state and then
transferred to `DIterMut` by the simulation lemma `DIterMut.run_exec_eq_cursor`
(under `pos ≤ back ≤ n` the two machines produce the same outputs and `DIterMut` never faults).
What a run emits follows by induction from one case analysis of a call (`Cursor.step_cases`); what is
answered at a position follows from `Cursor.run_getElem?` (the answer of that call in the state `exec`
reaches) and `Cursor.remaining_exec`.
-/
namespace PQ

def slots : List IOut → List Nat
  | [] => []
  | .slot (some i) :: r => i :: slots r
  | _ :: r => slots r

@[simp] theorem slots_nil : slots [] = [] := rfl
@[simp] theorem slots_cons_some (i : Nat) (r : List IOut) : slots (.slot (some i) :: r) = i :: slots r := rfl
@[simp] theorem slots_cons_none (r : List IOut) : slots (.slot none :: r) = slots r := rfl
@[simp] theorem slots_cons_len (k : Nat) (r : List IOut) : slots (.len k :: r) = slots r := rfl
@[simp] theorem slots_cons_hint (lo : Nat) (hi : Option Nat) (r : List IOut) : slots (.hint lo hi :: r) = slots r := rfl
@[simp] theorem slots_cons_unsupported (r : List IOut) : slots (.unsupported :: r) = slots r := rfl

theorem slots_append (a b : List IOut) : slots (a ++ b) = slots a ++ slots b := by
  induction a with
  | nil => rfl
  | cons o a ih =>
    cases o with
    | slot i => cases i <;> simp [ih]
    | len k => simp [ih]
    | hint lo hi => simp [ih]
    | unsupported => simp [ih]

theorem slots_cons (o : IOut) (r : List IOut) : slots (o :: r) = slots [o] ++ slots r := slots_append [o] r

theorem slots_map_some (l : List Nat) : slots (l.map fun i => IOut.slot (some i)) = l := by
  induction l with
  | nil => rfl
  | cons a l ih => simp [ih]

theorem slots_replicate_none (k : Nat) : slots (List.replicate k (IOut.slot none)) = [] := by
  induction k with
  | zero => rfl
  | succ k ih => simp [List.replicate_succ, ih]

def adv (calls : List ICall) : Nat := calls.count .next + calls.count .nextBack

@[simp] theorem adv_nil : adv [] = 0 := rfl
@[simp] theorem adv_cons_next (r : List ICall) : adv (.next :: r) = adv r + 1 := by
  simp [adv]; omega
@[simp] theorem adv_cons_nextBack (r : List ICall) : adv (.nextBack :: r) = adv r + 1 := by
  simp [adv]; omega
@[simp] theorem adv_cons_len (r : List ICall) : adv (.len :: r) = adv r := by
  simp [adv]
@[simp] theorem adv_cons_sizeHint (r : List ICall) : adv (.sizeHint :: r) = adv r := by
  simp [adv]

def slotsOf (w : ICall) (calls : List ICall) (outs : List IOut) : List Nat :=
  slots (((calls.zip outs).filter (fun p => p.1 = w)).map (·.2))

@[simp] theorem slotsOf_nil (w : ICall) : slotsOf w [] [] = [] := rfl
theorem slotsOf_cons_self (w : ICall) (cs : List ICall) (o : IOut) (os : List IOut) :
    slotsOf w (w :: cs) (o :: os) = slots [o] ++ slotsOf w cs os := by
  simp [slotsOf, ← slots_append]
theorem slotsOf_cons_ne (w x : ICall) (h : x ≠ w) (cs : List ICall) (o : IOut) (os : List IOut) :
    slotsOf w (x :: cs) (o :: os) = slotsOf w cs os := by
  simp [slotsOf, h]

theorem slotsOf_cons_of_slots_nil (w x : ICall) (cs : List ICall) {o : IOut} (ho : slots [o] = []) (os : List IOut) :
    slotsOf w (x :: cs) (o :: os) = slotsOf w cs os := by
  by_cases h : x = w
  · rw [h, slotsOf_cons_self, ho, List.nil_append]
  · rw [slotsOf_cons_ne _ _ h]

namespace Cursor

def exec (c : Cursor) : List ICall → Cursor
  | [] => c
  | x :: xs => exec (c.step x).1 xs

theorem run_cons (c : Cursor) (x : ICall) (xs : List ICall) :
    Cursor.run c (x :: xs) = (c.step x).2 :: Cursor.run (c.step x).1 xs := rfl

@[simp] theorem run_nil (c : Cursor) : Cursor.run c [] = [] := rfl

theorem run_length (c : Cursor) (calls : List ICall) : (Cursor.run c calls).length = calls.length := by
  induction calls generalizing c with
  | nil => rfl
  | cons x xs ih => simp [run_cons, ih]

theorem run_append (c : Cursor) (a b : List ICall) :
    Cursor.run c (a ++ b) = Cursor.run c a ++ Cursor.run (c.exec a) b := by
  induction a generalizing c with
  | nil => rfl
  | cons x xs ih => simp [run_cons, exec, ih]

theorem exec_append (c : Cursor) (a b : List ICall) : c.exec (a ++ b) = (c.exec a).exec b := by
  induction a generalizing c with
  | nil => rfl
  | cons x xs ih => exact ih _

theorem run_take (c : Cursor) (calls : List ICall) (j : Nat) :
    (Cursor.run c calls).take j = Cursor.run c (calls.take j) := by
  induction calls generalizing c j with
  | nil => simp
  | cons x xs ih =>
    cases j with
    | zero => simp
    | succ j => simp [run_cons, ih]

theorem run_drop (c : Cursor) (calls : List ICall) (j : Nat) :
    (Cursor.run c calls).drop j = Cursor.run (c.exec (calls.take j)) (calls.drop j) := by
  induction calls generalizing c j with
  | nil => simp [exec]
  | cons x xs ih =>
    cases j with
    | zero => rfl
    | succ j => simpa [run_cons, exec] using ih (c.step x).1 j

theorem run_getElem? (c : Cursor) (calls : List ICall) (j : Nat) :
    (Cursor.run c calls)[j]? = calls[j]?.map fun x => ((c.exec (calls.take j)).step x).2 := by
  induction calls generalizing c j with
  | nil => simp
  | cons x xs ih =>
    cases j with
    | zero => simp [run_cons, exec]
    | succ j => simpa [run_cons, exec] using ih (c.step x).1 j

/-- one call either emits nothing and leaves the cursor where it is (always so when nothing remains, and for `len` /
`size_hint`), or emits the slot at one end of a non-empty window and moves that end inwards -/
theorem step_cases (c : Cursor) (x : ICall) :
    ∃ c' o, c.step x = (c', o) ∧
      ((c' = c ∧ slots [o] = [] ∧ (c.front < c.back → ∀ xs, adv (x :: xs) = adv xs)) ∨
       (c.front < c.back ∧ x = .next ∧ c'.front = c.front + 1 ∧ c'.back = c.back ∧ o = .slot (some c.front) ∧
         c.remaining = c'.remaining + 1) ∨
       (c.front < c.back ∧ x = .nextBack ∧ c'.front = c.front ∧ c'.back = c.back - 1 ∧
         o = .slot (some (c.back - 1)) ∧ c.remaining = c'.remaining + 1)) := by
  by_cases h : c.front < c.back
  · cases x
    · exact ⟨_, _, if_pos h, .inr (.inl ⟨h, rfl, rfl, rfl, rfl, by simp only [remaining]; omega⟩)⟩
    · exact ⟨_, _, if_pos h, .inr (.inr ⟨h, rfl, rfl, rfl, rfl, by simp only [remaining]; omega⟩)⟩
    · exact ⟨_, _, rfl, .inl ⟨rfl, rfl, fun _ => adv_cons_len⟩⟩
    · exact ⟨_, _, rfl, .inl ⟨rfl, rfl, fun _ => adv_cons_sizeHint⟩⟩
  · refine ⟨(c.step x).1, (c.step x).2, rfl, .inl ⟨?_, ?_, fun h' => absurd h' h⟩⟩ <;> cases x <;> simp [step, h]

theorem run_cons_of_step {c c' : Cursor} {x : ICall} {o : IOut} (h : c.step x = (c', o)) (xs : List ICall) :
    Cursor.run c (x :: xs) = o :: Cursor.run c' xs := by
  rw [run_cons, h]

theorem exec_cons_of_step {c c' : Cursor} {x : ICall} {o : IOut} (h : c.step x = (c', o)) (xs : List ICall) :
    c.exec (x :: xs) = c'.exec xs := by
  show Cursor.exec (c.step x).1 xs = _
  rw [h]

theorem step_len_hint (c : Cursor) (x : ICall) :
    (∀ k, (c.step x).2 = .len k → k = c.remaining) ∧
    (∀ lo hi, (c.step x).2 = .hint lo hi → lo = c.remaining ∧ hi = some c.remaining) := by
  cases x <;> simp only [step]
  · split <;> exact ⟨nofun, nofun⟩
  · split <;> exact ⟨nofun, nofun⟩
  · exact ⟨fun k h => (IOut.len.inj h).symm, nofun⟩
  · exact ⟨nofun, fun lo hi h => by cases h; exact ⟨rfl, rfl⟩⟩

theorem step_of_remaining_zero {c : Cursor} (h : c.remaining = 0) (x : ICall) :
    ((x = .next ∨ x = .nextBack) → (c.step x).2 = .slot none) ∧ ∀ s, (c.step x).2 = .slot s → s = none := by
  have hnot : ¬ c.front < c.back := by simp only [remaining] at h; omega
  cases x <;> simp [step, hnot]

theorem remaining_zero_of_step_none {c : Cursor} {x : ICall} (h : (c.step x).2 = .slot none) : c.remaining = 0 := by
  by_cases hlt : c.front < c.back
  · cases x <;> simp [step, hlt] at h
  · simp only [remaining]; omega

theorem slots_bounds (c : Cursor) (calls : List ICall) :
    ∀ i ∈ slots (Cursor.run c calls), c.front ≤ i ∧ i < c.back := by
  induction calls generalizing c with
  | nil => simp
  | cons x xs ih =>
    obtain ⟨c', o, hs, hcase⟩ := step_cases c x
    rw [run_cons_of_step hs]
    rcases hcase with ⟨rfl, ho, _⟩ | ⟨hlt, _, hf, hb, rfl, hr⟩ | ⟨hlt, _, hf, hb, rfl, hr⟩
    · rw [slots_cons, ho]
      exact ih _
    all_goals
      intro i hi
      rcases List.mem_cons.1 hi with rfl | hi
      · omega
      · have := ih c' i hi
        omega

theorem slots_nodup (c : Cursor) (calls : List ICall) : (slots (Cursor.run c calls)).Nodup := by
  induction calls generalizing c with
  | nil => simp
  | cons x xs ih =>
    obtain ⟨c', o, hs, hcase⟩ := step_cases c x
    rw [run_cons_of_step hs]
    rcases hcase with ⟨rfl, ho, _⟩ | ⟨hlt, _, hf, hb, rfl, hr⟩ | ⟨hlt, _, hf, hb, rfl, hr⟩
    · rw [slots_cons, ho]
      exact ih _
    all_goals
      refine List.nodup_cons.2 ⟨fun h => ?_, ih c'⟩
      have := slots_bounds _ _ _ h
      omega

theorem slots_length (c : Cursor) (calls : List ICall) :
    (slots (Cursor.run c calls)).length = min c.remaining (adv calls) := by
  induction calls generalizing c with
  | nil => simp
  | cons x xs ih =>
    obtain ⟨c', o, hs, hcase⟩ := step_cases c x
    rw [run_cons_of_step hs]
    rcases hcase with ⟨rfl, ho, ha⟩ | ⟨_, rfl, _, _, rfl, hr⟩ | ⟨_, rfl, _, _, rfl, hr⟩
    · rw [slots_cons, ho, List.nil_append, ih]
      by_cases hlt : c'.front < c'.back
      · rw [ha hlt]
      · rw [show c'.remaining = 0 from Nat.sub_eq_zero_of_le (Nat.le_of_not_lt hlt), Nat.zero_min, Nat.zero_min]
    · rw [slots_cons_some, List.length_cons, ih, adv_cons_next, hr, Nat.add_min_add_right]
    · rw [slots_cons_some, List.length_cons, ih, adv_cons_nextBack, hr, Nat.add_min_add_right]

theorem remaining_exec (c : Cursor) (calls : List ICall) :
    (c.exec calls).remaining = c.remaining - (slots (Cursor.run c calls)).length := by
  induction calls generalizing c with
  | nil => rfl
  | cons x xs ih =>
    obtain ⟨c', o, hs, hcase⟩ := step_cases c x
    rw [run_cons_of_step hs, exec_cons_of_step hs, ih]
    rcases hcase with ⟨rfl, ho, _⟩ | ⟨hlt, _, hf, hb, rfl, hr⟩ | ⟨hlt, _, hf, hb, rfl, hr⟩
    · rw [slots_cons, ho]
      rfl
    all_goals rw [slots_cons_some, List.length_cons, hr, Nat.add_sub_add_right]

/-- **state invariant**: after any call list started in a state with `front ≤ back`, the new state
`c'` satisfies `front ≤ front' ≤ back' ≤ back`, `remaining' = remaining - #emitted`, and the emitted
set is exactly `{i | front ≤ i < front' ∨ back' ≤ i < back}`. -/
theorem inv (c : Cursor) (hc : c.front ≤ c.back) (calls : List ICall) :
    c.front ≤ (c.exec calls).front ∧ (c.exec calls).front ≤ (c.exec calls).back ∧
    (c.exec calls).back ≤ c.back ∧
    (c.exec calls).back - (c.exec calls).front = (c.back - c.front) - (slots (Cursor.run c calls)).length ∧
    (∀ i, i ∈ slots (Cursor.run c calls) ↔
      (c.front ≤ i ∧ i < (c.exec calls).front) ∨ ((c.exec calls).back ≤ i ∧ i < c.back)) := by
  suffices h : c.front ≤ (c.exec calls).front ∧ (c.exec calls).front ≤ (c.exec calls).back ∧
      (c.exec calls).back ≤ c.back ∧ ∀ i, i ∈ slots (Cursor.run c calls) ↔
        (c.front ≤ i ∧ i < (c.exec calls).front) ∨ ((c.exec calls).back ≤ i ∧ i < c.back) from
    ⟨h.1, h.2.1, h.2.2.1, remaining_exec c calls, h.2.2.2⟩
  induction calls generalizing c with
  | nil => simp [exec]; omega
  | cons x xs ih =>
    obtain ⟨c', o, hs, hcase⟩ := step_cases c x
    rw [run_cons_of_step hs, exec_cons_of_step hs]
    rcases hcase with ⟨rfl, ho, _⟩ | ⟨hlt, _, hf, hb, rfl, hr⟩ | ⟨hlt, _, hf, hb, rfl, hr⟩
    · rw [slots_cons, ho]
      exact ih _ hc
    all_goals
      obtain ⟨h1, h2, h3, h5⟩ := ih c' (by omega)
      refine ⟨by omega, h2, by omega, fun i => ?_⟩
      rw [slots_cons_some, List.mem_cons, h5]
      omega

theorem slots_perm (c : Cursor) (calls : List ICall) (h : c.remaining ≤ adv calls) :
    (slots (Cursor.run c calls)).Perm (List.range' c.front c.remaining) := by
  refine (List.perm_ext_iff_of_nodup (slots_nodup c calls) (List.nodup_range' 1)).2 fun i => ?_
  have hlen := slots_length c calls
  rw [Nat.min_eq_left h] at hlen
  rw [List.mem_range'_1]
  by_cases hc : c.front ≤ c.back
  · obtain ⟨_, _, _, h4, h5⟩ := inv c hc calls
    rw [h5]
    simp only [remaining] at hlen ⊢
    omega
  · have h0 : slots (Cursor.run c calls) = [] :=
      List.eq_nil_of_length_eq_zero (by simp only [remaining] at hlen; omega)
    simp only [h0, remaining, List.not_mem_nil, false_iff]
    omega

theorem front_back_order (c : Cursor) (calls : List ICall) :
    ∃ m1 m2, m1 + m2 = (slots (Cursor.run c calls)).length ∧
      slotsOf .next calls (Cursor.run c calls) = List.range' c.front m1 ∧
      slotsOf .nextBack calls (Cursor.run c calls) = (List.range m2).map (fun j => c.back - 1 - j) := by
  induction calls generalizing c with
  | nil => exact ⟨0, 0, by simp⟩
  | cons x xs ih =>
    obtain ⟨c', o, hs, hcase⟩ := step_cases c x
    rw [run_cons_of_step hs]
    rcases hcase with ⟨rfl, ho, _⟩ | ⟨hlt, rfl, hf, hb, rfl, _⟩ | ⟨hlt, rfl, hf, hb, rfl, _⟩
    · obtain ⟨m1, m2, h0, h1, h2⟩ := ih c'
      exact ⟨m1, m2, by rw [slots_cons, ho]; exact h0, by rw [slotsOf_cons_of_slots_nil _ _ _ ho, h1],
        by rw [slotsOf_cons_of_slots_nil _ _ _ ho, h2]⟩
    · obtain ⟨m1, m2, h0, h1, h2⟩ := ih c'
      refine ⟨m1 + 1, m2, by rw [slots_cons_some, List.length_cons]; omega, ?_, ?_⟩
      · rw [slotsOf_cons_self, h1, hf, List.range'_succ]; rfl
      · rw [slotsOf_cons_ne _ _ (by decide), h2, hb]
    · obtain ⟨m1, m2, h0, h1, h2⟩ := ih c'
      refine ⟨m1, m2 + 1, by rw [slots_cons_some, List.length_cons]; omega, ?_, ?_⟩
      · rw [slotsOf_cons_ne _ _ (by decide), h1, hf]
      · rw [slotsOf_cons_self, h2, hb, List.range_succ_eq_map]
        simp only [slots_cons_some, slots_nil, List.cons_append, List.nil_append, List.map_cons,
          List.map_map, Nat.sub_zero, List.cons.injEq, true_and]
        apply List.map_congr_left
        intro a _
        simp only [Function.comp, Nat.succ_eq_add_one]; omega

theorem exact_at (c : Cursor) (calls : List ICall) (j : Nat) (o : IOut)
    (h : (Cursor.run c calls)[j]? = some o) :
    (∀ k, o = .len k → k = c.remaining - (slots ((Cursor.run c calls).take j)).length) ∧
    (∀ lo hi, o = .hint lo hi → lo = c.remaining - (slots ((Cursor.run c calls).take j)).length ∧
      hi = some (c.remaining - (slots ((Cursor.run c calls).take j)).length)) := by
  rw [run_getElem?, Option.map_eq_some_iff] at h
  obtain ⟨x, _, rfl⟩ := h
  rw [run_take, ← remaining_exec]
  exact step_len_hint _ x

theorem still_yield (c : Cursor) (calls : List ICall) (j : Nat) (o : IOut)
    (h : (Cursor.run c calls)[j]? = some o) :
    (∀ k, o = .len k → (slots ((Cursor.run c calls).drop j)).length = min k (adv (calls.drop j))) ∧
    (∀ lo hi, o = .hint lo hi →
      (slots ((Cursor.run c calls).drop j)).length = min lo (adv (calls.drop j))) := by
  rw [run_getElem?, Option.map_eq_some_iff] at h
  obtain ⟨x, _, rfl⟩ := h
  rw [run_drop, slots_length]
  have hx := step_len_hint (c.exec (calls.take j)) x
  exact ⟨fun k hk => by rw [hx.1 k hk], fun lo hi hk => by rw [(hx.2 lo hi hk).1]⟩

theorem none_from (c : Cursor) (calls : List ICall) {j j' : Nat} (hj : j ≤ j')
    (h : (c.exec (calls.take j)).remaining = 0) :
    ((calls[j']? = some .next ∨ calls[j']? = some .nextBack) → (Cursor.run c calls)[j']? = some (.slot none)) ∧
    (∀ s, (Cursor.run c calls)[j']? = some (.slot s) → s = none) := by
  obtain ⟨d, rfl⟩ := Nat.exists_eq_add_of_le hj
  have h0 : (c.exec (calls.take (j + d))).remaining = 0 := by
    rw [List.take_add, exec_append, remaining_exec, h, Nat.zero_sub]
  rw [run_getElem?]
  refine ⟨fun hx => ?_, fun s hs => ?_⟩
  · rcases hx with hx | hx <;> rw [hx, Option.map_some, (step_of_remaining_zero h0 _).1 (by simp)]
  · obtain ⟨x, _, hx⟩ := Option.map_eq_some_iff.1 hs
    exact (step_of_remaining_zero h0 x).2 s hx

theorem none_forever (c : Cursor) (calls : List ICall) (j : Nat)
    (h : (slots ((Cursor.run c calls).take j)).length = c.remaining) (j' : Nat) (hj : j ≤ j') :
    ((calls[j']? = some .next ∨ calls[j']? = some .nextBack) → (Cursor.run c calls)[j']? = some (.slot none)) ∧
    (∀ s, (Cursor.run c calls)[j']? = some (.slot s) → s = none) :=
  none_from c calls hj (by rw [remaining_exec, ← run_take, h, Nat.sub_self])

theorem none_then_none (c : Cursor) (calls : List ICall) (j j' : Nat) (hj : j ≤ j')
    (h : (Cursor.run c calls)[j]? = some (.slot none)) :
    ((calls[j']? = some .next ∨ calls[j']? = some .nextBack) → (Cursor.run c calls)[j']? = some (.slot none)) ∧
    (∀ s, (Cursor.run c calls)[j']? = some (.slot s) → s = none) := by
  rw [run_getElem?, Option.map_eq_some_iff] at h
  obtain ⟨x, _, hx⟩ := h
  exact none_from c calls hj (remaining_zero_of_step_none hx)

end Cursor

namespace PIterMut

theorem run_cons (n : Nat) (it : PIterMut) (x : ICall) (xs : List ICall) :
    PIterMut.run n it (x :: xs) = (it.step n x).2 :: PIterMut.run n (it.step n x).1 xs := rfl

@[simp] theorem run_nil (n : Nat) (it : PIterMut) : PIterMut.run n it [] = [] := rfl

theorem slots_eq (n : Nat) (it : PIterMut) (calls : List ICall) :
    slots (PIterMut.run n it calls) = List.range' it.pos (min (n - it.pos) (calls.count .next)) := by
  induction calls generalizing it with
  | nil => simp
  | cons x xs ih =>
    rw [run_cons]
    cases x <;> simp only [PIterMut.step]
    · split
      · next hlt =>
        have e : min (n - it.pos) (List.count ICall.next (ICall.next :: xs))
            = min (n - (it.pos + 1)) (List.count ICall.next xs) + 1 := by
          simp only [List.count_cons_self]; omega
        rw [slots_cons_some, ih, e, List.range'_succ]
      · next hlt =>
        have e : n - it.pos = 0 := by omega
        have e' : n - (it.pos + 1) = 0 := by omega
        rw [slots_cons_none, ih]
        simp [e, e']
    · simp [ih]
    · simp [ih]
    · simp [ih]

/-- the answer at position `j`: by then the position has advanced once per earlier `.next` -/
theorem run_getElem? (n : Nat) (it : PIterMut) (calls : List ICall) (j : Nat) :
    (PIterMut.run n it calls)[j]? =
      calls[j]?.map fun x => (PIterMut.step n ⟨it.pos + (calls.take j).count .next⟩ x).2 := by
  induction calls generalizing it j with
  | nil => simp
  | cons x xs ih =>
    cases j with
    | zero => simp [run_cons]
    | succ j =>
      have e : (it.step n x).1.pos + (xs.take j).count .next = it.pos + (x :: xs.take j).count .next := by
        cases x <;> simp [PIterMut.step] <;> omega
      rw [run_cons, List.getElem?_cons_succ, ih, List.getElem?_cons_succ, List.take_succ_cons, e]

theorem none_forever (n : Nat) (it : PIterMut) (calls : List ICall) (j j' : Nat) (hj : j ≤ j')
    (h : (PIterMut.run n it calls)[j]? = some (.slot none)) :
    ∀ s, (PIterMut.run n it calls)[j']? = some (.slot s) → s = none := by
  intro s hs
  rw [run_getElem?, Option.map_eq_some_iff] at h hs
  obtain ⟨x, _, hx⟩ := h
  obtain ⟨y, _, hy⟩ := hs
  have hmono : (calls.take j).count .next ≤ (calls.take j').count .next :=
    (List.take_sublist_take_left hj).count_le _
  cases x <;> simp [PIterMut.step] at hx
  cases y <;> simp [PIterMut.step] at hy
  rw [← hy, if_neg (by omega)]

theorem no_exact_size (n : Nat) (it : PIterMut) (calls : List ICall) (j : Nat) :
    (∀ k, (PIterMut.run n it calls)[j]? ≠ some (.len k)) ∧
    (∀ lo hi, (PIterMut.run n it calls)[j]? = some (.hint lo hi) → lo = 0 ∧ hi = none) := by
  rw [run_getElem?]
  cases calls[j]? with
  | none => simp
  | some x => cases x <;> simp [PIterMut.step]

theorem run_replicate_next_of_ge (n : Nat) : ∀ (k p : Nat), n ≤ p →
    PIterMut.run n ⟨p⟩ (List.replicate k .next) = List.replicate k (IOut.slot none)
  | 0, _, _ => rfl
  | k + 1, p, h => by
    rw [List.replicate_succ, run_cons, List.replicate_succ]
    simp only [PIterMut.step, if_neg (Nat.not_lt.2 h)]
    rw [run_replicate_next_of_ge n k (p + 1) (by omega)]

theorem run_replicate_next (n p d k : Nat) (hd : p + d = n) :
    PIterMut.run n ⟨p⟩ (List.replicate (d + k) .next)
      = (List.range' p d).map (fun i => IOut.slot (some i)) ++ List.replicate k (IOut.slot none) := by
  induction d generalizing p with
  | zero =>
    rw [Nat.zero_add]
    exact run_replicate_next_of_ge n k p (by omega)
  | succ d ih =>
    have hlt : p < n := by omega
    rw [show d + 1 + k = (d + k) + 1 by omega, List.replicate_succ, run_cons]
    simp only [PIterMut.step, hlt, if_true, List.range'_succ, List.map_cons, List.cons_append,
      List.cons.injEq, true_and]
    exact ih (p + 1) (by omega)

end PIterMut

namespace DIterMut

def exec (n : Nat) (it : DIterMut) : List ICall → R DIterMut
  | [] => pure it
  | x :: xs => do
    let (it', _) ← it.step n x
    exec n it' xs

/-- the cursor that a well-formed `DIterMut` state simulates -/
def toCursor (it : DIterMut) : Cursor := ⟨it.pos, it.back⟩

theorem step_eq_cursor (n : Nat) (it : DIterMut) (h1 : it.pos ≤ it.back) (h2 : it.back ≤ n) (x : ICall) :
    it.step n x = .ok (⟨(it.toCursor.step x).1.front, (it.toCursor.step x).1.back⟩, (it.toCursor.step x).2) := by
  cases x <;> simp only [DIterMut.step, Cursor.step, toCursor, Cursor.remaining, pure, Except.pure]
  · by_cases h : it.pos < it.back
    · have h' : ¬ it.pos ≥ it.back := by omega
      have h'' : it.pos < n := by omega
      simp [h, h', h'']
    · have h' : it.pos ≥ it.back := by omega
      simp [h, h']
  · by_cases h : it.pos < it.back
    · have h' : ¬ it.pos ≥ it.back := by omega
      have h'' : it.back - 1 < n := by omega
      simp [h, h', h'']
    · have h' : it.pos ≥ it.back := by omega
      simp [h, h']
  · have h' : ¬ it.back < it.pos := by omega
    simp [h']
  · have h' : ¬ it.back < it.pos := by omega
    simp [h']

theorem cursor_step_wf (c : Cursor) (n : Nat) (h1 : c.front ≤ c.back) (h2 : c.back ≤ n) (x : ICall) :
    (c.step x).1.front ≤ (c.step x).1.back ∧ (c.step x).1.back ≤ n := by
  cases x <;> simp only [Cursor.step]
  · split <;> simp only <;> omega
  · split <;> simp only <;> omega
  · omega
  · omega

theorem run_exec_eq_cursor (n : Nat) (it : DIterMut) (h1 : it.pos ≤ it.back) (h2 : it.back ≤ n)
    (calls : List ICall) :
    DIterMut.run n it calls = .ok (Cursor.run it.toCursor calls) ∧
    DIterMut.exec n it calls = .ok ⟨(it.toCursor.exec calls).front, (it.toCursor.exec calls).back⟩ := by
  induction calls generalizing it with
  | nil => exact ⟨rfl, rfl⟩
  | cons x xs ih =>
    have hw := cursor_step_wf it.toCursor n h1 h2 x
    have := ih ⟨(it.toCursor.step x).1.front, (it.toCursor.step x).1.back⟩ hw.1 hw.2
    exact ⟨(bind_of_ok (step_eq_cursor n it h1 h2 x) _).trans (bind_of_ok this.1 _),
      (bind_of_ok (step_eq_cursor n it h1 h2 x) _).trans this.2⟩

theorem run_eq_cursor (n : Nat) (calls : List ICall) :
    DIterMut.run n (DIterMut.new n) calls = .ok (Cursor.run (Cursor.new n) calls) :=
  (run_exec_eq_cursor n (DIterMut.new n) (Nat.zero_le _) (Nat.le_refl _) calls).1

theorem exec_eq_cursor (n : Nat) (calls : List ICall) :
    DIterMut.exec n (DIterMut.new n) calls
      = .ok ⟨((Cursor.new n).exec calls).front, ((Cursor.new n).exec calls).back⟩ :=
  (run_exec_eq_cursor n (DIterMut.new n) (Nat.zero_le _) (Nat.le_refl _) calls).2

end DIterMut

end PQ
