import PQ.Model.Basic
/-!
# Binds of the model's `Except` monad whose first result is known
-/
namespace PQ
variable {ε α β : Type}

theorem ok_bind (a : α) (f : α → Except ε β) : ((Except.ok a : Except ε α) >>= f) = f a := rfl
theorem error_bind (e : ε) (f : α → Except ε β) : ((Except.error e : Except ε α) >>= f) = .error e := rfl

theorem bind_of_ok {x : Except ε α} {a : α} (h : x = .ok a) (f : α → Except ε β) : x >>= f = f a := by rw [h]; rfl
theorem bind_of_error {x : Except ε α} {e : ε} (h : x = .error e) (f : α → Except ε β) : x >>= f = .error e := by
  rw [h]; rfl

theorem bind_eq_ok {x : Except ε α} {f : α → Except ε β} {b : β} :
    (x >>= f) = .ok b ↔ ∃ a, x = .ok a ∧ f a = .ok b := by
  cases x with
  | error e => exact ⟨nofun, fun ⟨_, h, _⟩ => nomatch h⟩
  | ok a => exact ⟨fun h => ⟨a, rfl, h⟩, fun ⟨_, h, hb⟩ => by cases h; exact hb⟩

theorem pure_eq_ok {a b : α} : (pure a : Except ε α) = .ok b ↔ a = b :=
  ⟨fun h => by cases h; rfl, fun h => h ▸ rfl⟩

end PQ
