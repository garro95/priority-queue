import PQ.Model.Stateful
import PQ.Lemmas.History
/-!
# Stateful closures: the twins are the plain functions, and the closure is called exactly once per named element
-/
namespace PQ
variable {P σ : Type}

/-- the closure's state after `retain`: ONE call per stored entry, in slot order, whatever the closure answers -/
theorem IMap.retainS_fst (m : IMap P) (f : PredS σ P) (st : σ) :
    (m.retainS f st).1 = m.toList.foldl (fun a e => (f a e.1 e.2).1) st := by
  unfold IMap.retainS
  rw [← Array.foldl_toList]
  generalize (#[] : IMap P) = acc
  induction m.toList generalizing st acc with
  | nil => rfl
  | cons e es ih => simp only [List.foldl_cons]; exact ih _ _

theorem IMap.retainS_lift (m : IMap P) (g : Item → P → Bool × Item × P) (st : σ) :
    m.retainS (PredS.lift g) st = (st, m.retain g) := by
  unfold IMap.retainS IMap.retain PredS.lift
  rw [← Array.foldl_toList, ← Array.foldl_toList]
  generalize (#[] : IMap P) = acc
  induction m.toList generalizing acc with
  | nil => rfl
  | cons e es ih => simp only [List.foldl_cons]; exact ih _

theorem Store.retainMutS_fst (s : Store P) (f : PredS σ P) (st : σ) :
    (s.retainMutS f st).1 = s.map.toList.foldl (fun a e => (f a e.1 e.2).1) st := by
  simp [Store.retainMutS, IMap.retainS_fst]

theorem Store.retainMutS_lift (s : Store P) (g : Item → P → Bool × Item × P) (st : σ) :
    s.retainMutS (PredS.lift g) st = (st, s.retainMut g) := by
  simp [Store.retainMutS, Store.retainMut, IMap.retainS_lift]

/-- the call log of a logging closure is the list of stored entries in slot order: every element exactly once -/
theorem Store.retainMutS_log (s : Store P) (g : Item → P → Bool × Item × P) :
    (s.retainMutS (fun (log : List (Item × P)) it p => (log ++ [(it, p)], g it p)) []).1 = s.map.toList := by
  rw [Store.retainMutS_fst]
  suffices h : ∀ (l : List (Item × P)) (acc : List (Item × P)),
      l.foldl (fun a e => a ++ [(e.1, e.2)]) acc = acc ++ l by simpa using h s.map.toList []
  intro l
  induction l with
  | nil => intro acc; simp
  | cons e es ih => intro acc; simp [ih]

theorem Store.swapRemoveIfS_lift (s : Store P) (pos : Nat) (g : Item → P → Bool × Item × P) (st : σ) :
    s.swapRemoveIfS pos (PredS.lift g) st = (s.swapRemoveIf pos g).map (fun r => (st, r.1, r.2)) := by
  unfold Store.swapRemoveIfS Store.swapRemoveIf PredS.lift
  cases h1 : getU s.heap pos 114 with
  | error e => rfl
  | ok head =>
    simp only [bind, Except.bind]
    cases h2 : unwrapO (s.map.getIndex head) 115 with
    | error e => rfl
    | ok e =>
      simp only []
      by_cases hk : (g e.1 e.2).1 = true
      · simp only [hk, if_true]
        cases h3 : Store.swapRemove { s with map := s.map.setIfInBounds head ((g e.1 e.2).2.1, (g e.1 e.2).2.2) } pos <;>
          simp [pure, Except.pure, Except.map]
      · simp [hk, pure, Except.pure, Except.map]

/-- the predicate of `swap_remove_if` runs exactly once, on the entry found at the position (when the call returns) -/
theorem Store.swapRemoveIfS_calls {s s' : Store P} {pos : Nat} {f : PredS σ P} {st st' : σ} {o : Option (Item × P)}
    (h : s.swapRemoveIfS pos f st = .ok (st', s', o)) :
    ∃ e, s.entryAt pos = some e ∧ st' = (f st e.1 e.2).1 := by
  unfold Store.swapRemoveIfS at h
  obtain ⟨head, h1, h⟩ := bind_eq_ok.1 h
  obtain ⟨e, h2, h⟩ := bind_eq_ok.1 h
  have hh : s.heap[pos]? = some head := getU_eq_ok_iff.1 h1
  have he : s.map[head]? = some e := unwrapO_eq_ok_iff.1 h2
  refine ⟨e, by simp [Store.entryAt, hh, he], ?_⟩
  by_cases hk : (f st e.1 e.2).2.1 = true
  · simp only [hk, if_true] at h
    obtain ⟨⟨s2, o2⟩, _, h⟩ := bind_eq_ok.1 h
    simp only [pure, Except.pure, Except.ok.injEq, Prod.mk.injEq] at h
    exact h.1.symm
  · simp [hk, pure, Except.pure] at h
    exact h.1.symm

/-- whatever sift follows `swap_remove_if`, it does not touch the closure's state: the predicate ran once, on the entry at
the position -/
private theorem calls_of_sift {s s' : Store P} {pos : Nat} {f : PredS σ P} {st st' : σ} {o : Option (Item × P)}
    (sift : Store P → R (Store P))
    (h : (s.swapRemoveIfS pos f st >>= fun x => sift x.2.1 >>= fun s2 => pure (x.1, s2, x.2.2)) = .ok (st', s', o)) :
    ∃ e, s.entryAt pos = some e ∧ st' = (f st e.1 e.2).1 := by
  obtain ⟨⟨st1, s1, o1⟩, h1, h⟩ := bind_eq_ok.1 h
  obtain ⟨s2, _, h⟩ := bind_eq_ok.1 h
  simp only [pure, Except.pure, Except.ok.injEq, Prod.mk.injEq] at h
  obtain ⟨e, he, hst⟩ := Store.swapRemoveIfS_calls h1
  exact ⟨e, he, h.1 ▸ hst⟩

theorem Store.changePriorityByS_lift (s : Store P) (k : Nat) (g : P → P) (st : σ) :
    s.changePriorityByS k (SetterS.lift g) st = (s.changePriorityBy k g).map (fun r => (st, r.1, r.2)) := by
  unfold Store.changePriorityByS Store.changePriorityBy SetterS.lift
  cases s.map.getFull k with
  | none => rfl
  | some x =>
    obtain ⟨index, it, old⟩ := x
    cases hq : getU s.qp index 117 <;> simp [hq, bind, Except.bind, pure, Except.pure, Except.map]

/-- the setter of `change_priority_by` runs once if the item is present (on its stored priority) and not at all otherwise -/
theorem Store.changePriorityByS_calls {s s' : Store P} {k : Nat} {f : SetterS σ P} {st st' : σ} {o : Option Nat}
    (h : s.changePriorityByS k f st = .ok (st', s', o)) :
    (∀ x, s.map.getFull k = some x → st' = (f st x.2.2).1) ∧ (s.map.getFull k = none → st' = st) := by
  unfold Store.changePriorityByS at h
  cases hg : s.map.getFull k with
  | none => simp [hg, pure, Except.pure] at h; simp [h.1]
  | some x =>
    obtain ⟨index, it, old⟩ := x
    simp only [hg] at h
    obtain ⟨pos, _, h⟩ := bind_eq_ok.1 h
    simp [(Prod.mk.inj (pure_eq_ok.1 h)).1.symm]

variable [LT P] [DecidableLT P]

theorem MaxQ.retainMutS_lift (s : Store P) (g : Item → P → Bool × Item × P) (st : σ) :
    MaxQ.retainMutS s (PredS.lift g) st = (MaxQ.retainMut s g).map (fun r => (st, r)) := by
  unfold MaxQ.retainMutS MaxQ.retainMut
  rw [Store.retainMutS_lift]
  dsimp only
  cases MaxQ.heapBuild (s.retainMut g) <;> rfl

theorem DQ.retainMutS_lift (s : Store P) (g : Item → P → Bool × Item × P) (st : σ) :
    DQ.retainMutS s (PredS.lift g) st = (DQ.retainMut s g).map (fun r => (st, r)) := by
  unfold DQ.retainMutS DQ.retainMut
  rw [Store.retainMutS_lift]
  dsimp only
  cases DQ.heapBuild (s.retainMut g) <;> rfl

/-- the state after `retain_mut` of either kind: the fold over the stored entries in slot order (when the call returns) -/
theorem MaxQ.retainMutS_fst {s s' : Store P} {f : PredS σ P} {st st' : σ} (h : MaxQ.retainMutS s f st = .ok (st', s')) :
    st' = s.map.toList.foldl (fun a e => (f a e.1 e.2).1) st := by
  obtain ⟨x, _, h⟩ := bind_eq_ok.1 h
  rw [← (Prod.mk.inj (pure_eq_ok.1 h)).1, Store.retainMutS_fst]

theorem DQ.retainMutS_fst {s s' : Store P} {f : PredS σ P} {st st' : σ} (h : DQ.retainMutS s f st = .ok (st', s')) :
    st' = s.map.toList.foldl (fun a e => (f a e.1 e.2).1) st := by
  obtain ⟨x, _, h⟩ := bind_eq_ok.1 h
  rw [← (Prod.mk.inj (pure_eq_ok.1 h)).1, Store.retainMutS_fst]

theorem MaxQ.popIfS_lift (s : Store P) (g : Item → P → Bool × Item × P) (st : σ) :
    MaxQ.popIfS s (PredS.lift g) st = (MaxQ.popIf s g).map (fun r => (st, r.1, r.2)) := by
  unfold MaxQ.popIfS MaxQ.popIf
  rcases hs : s.size with _ | _ | n
  · rfl
  · simp only [Store.swapRemoveIfS_lift]
  · simp only [Store.swapRemoveIfS_lift]
    cases h : s.swapRemoveIf 0 g with
    | error e => rfl
    | ok r =>
      simp only [bind, Except.bind, Except.map]
      cases MaxQ.heapify r.1 0 <;> rfl

theorem DQ.popMinIfS_lift (s : Store P) (g : Item → P → Bool × Item × P) (st : σ) :
    DQ.popMinIfS s (PredS.lift g) st = (DQ.popMinIf s g).map (fun r => (st, r.1, r.2)) := by
  unfold DQ.popMinIfS DQ.popMinIf
  cases hf : DQ.findMin s with
  | none => rfl
  | some i =>
    simp only [Store.swapRemoveIfS_lift]
    cases h : s.swapRemoveIf i g with
    | error e => rfl
    | ok r =>
      simp only [bind, Except.bind, Except.map]
      cases DQ.heapify r.1 i <;> rfl

theorem DQ.popMaxIfS_lift (s : Store P) (g : Item → P → Bool × Item × P) (st : σ) :
    DQ.popMaxIfS s (PredS.lift g) st = (DQ.popMaxIf s g).map (fun r => (st, r.1, r.2)) := by
  unfold DQ.popMaxIfS DQ.popMaxIf
  cases hf : DQ.findMax s with
  | error e => rfl
  | ok x =>
    obtain ⟨s1, r⟩ := x
    simp only [bind, Except.bind]
    cases r with
    | none => rfl
    | some i =>
      simp only [Store.swapRemoveIfS_lift]
      cases h : s1.swapRemoveIf i g with
      | error e => rfl
      | ok r =>
        simp only [Except.map]
        cases DQ.upHeapify r.1 i <;> rfl

omit [LT P] [DecidableLT P] in
private theorem entryAt_ok {s : Store P} {pos site : Nat} {e : Item × P} (h : s.entryAt pos = some e) :
    DQ.entryAt s pos site = .ok (some e) := by
  unfold Store.entryAt at h
  cases hh : s.heap[pos]? with
  | none => simp [hh] at h
  | some i => simpa [DQ.entryAt, getU_ok hh, IMap.getIndex, bind, Except.bind, pure, Except.pure, hh] using h

theorem MaxQ.popIfS_calls {s s' : Store P} {f : PredS σ P} {st st' : σ} {o : Option (Item × P)}
    (h : MaxQ.popIfS s f st = .ok (st', s', o)) :
    (s.size = 0 → st' = st ∧ o = none) ∧ (0 < s.size → ∃ e, MaxQ.peek s = some e ∧ st' = (f st e.1 e.2).1) := by
  unfold MaxQ.popIfS at h
  have hpk : ∀ e, s.entryAt 0 = some e → MaxQ.peek s = some e := by
    intro e he
    unfold Store.entryAt at he; unfold MaxQ.peek IMap.getIndex
    cases hh : s.heap[0]? with
    | none => simp [hh] at he
    | some i => simpa [hh] using he
  rcases hs : s.size with _ | _ | n
  · simp only [hs, pure, Except.pure] at h
    cases h; exact ⟨fun _ => ⟨rfl, rfl⟩, fun h0 => absurd h0 (by omega)⟩
  · simp only [hs] at h
    obtain ⟨e, he, hst⟩ := Store.swapRemoveIfS_calls h
    exact ⟨fun h0 => by omega, fun _ => ⟨e, hpk e he, hst⟩⟩
  · simp only [hs] at h
    obtain ⟨e, he, hst⟩ := calls_of_sift (MaxQ.heapify · 0) h
    exact ⟨fun h0 => by omega, fun _ => ⟨e, hpk e he, hst⟩⟩

theorem DQ.popMinIfS_calls {s s' : Store P} {f : PredS σ P} {st st' : σ} {o : Option (Item × P)}
    (h : DQ.popMinIfS s f st = .ok (st', s', o)) :
    (s.size = 0 → st' = st ∧ o = none) ∧
      (0 < s.size → ∃ e, DQ.peekMin s = .ok (some e) ∧ st' = (f st e.1 e.2).1) := by
  unfold DQ.popMinIfS at h
  unfold DQ.peekMin
  unfold DQ.findMin at h ⊢
  by_cases h0 : s.size = 0
  · simp only [h0, if_true, pure, Except.pure] at h
    cases h; exact ⟨fun _ => ⟨rfl, rfl⟩, fun hp => absurd hp (by omega)⟩
  · refine ⟨fun hz => absurd hz h0, fun _ => ?_⟩
    simp only [h0, if_false] at h ⊢
    obtain ⟨e, he, hst⟩ := calls_of_sift (DQ.heapify · 0) h
    exact ⟨e, entryAt_ok he, hst⟩

theorem DQ.popMaxIfS_calls {s s' : Store P} {f : PredS σ P} {st st' : σ} {o : Option (Item × P)}
    (h : DQ.popMaxIfS s f st = .ok (st', s', o)) :
    (s.size = 0 → st' = st ∧ o = none) ∧
      (0 < s.size → ∃ s1 e, DQ.peekMax s = .ok (s1, some e) ∧ st' = (f st e.1 e.2).1) := by
  unfold DQ.popMaxIfS at h
  unfold DQ.peekMax
  obtain ⟨⟨s1, r⟩, hf, h⟩ := bind_eq_ok.1 h
  simp only [hf, bind, Except.bind]
  have hr : r = none ↔ s.size = 0 := by
    unfold DQ.findMax at hf
    rcases hs : s.size with _ | _ | _ | n <;> simp only [hs, pure, Except.pure] at hf
    · cases hf; simp
    · cases hf; simp
    · cases hf; simp
    · obtain ⟨p1, _, hf⟩ := bind_eq_ok.1 hf
      obtain ⟨p2, _, hf⟩ := bind_eq_ok.1 hf
      cases hf
      simp
  cases r with
  | none =>
    simp only [pure, Except.pure] at h
    cases h
    exact ⟨fun _ => ⟨rfl, rfl⟩, fun hp => absurd (hr.1 rfl) (by omega)⟩
  | some i =>
    refine ⟨fun hz => (by cases hr.2 hz), fun _ => ?_⟩
    obtain ⟨e, he, hst⟩ := calls_of_sift (DQ.upHeapify · i) h
    exact ⟨s1, e, by simp only [entryAt_ok he]; rfl, hst⟩

end PQ
