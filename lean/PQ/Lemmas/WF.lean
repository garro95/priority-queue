import PQ.Lemmas.Basic
/-!
# Table well-formedness: basic consequences, pairs of inverse index tables and what `swap` / `swap_remove` do to them

The last section is about something else: the capacity request (`reserveC`) at the head of `extend` / `from_iter` /
`deserialize` of both queue kinds.
-/
set_option linter.unusedSimpArgs false
namespace PQ
/-- `swap_remove(x)` of an array whose last element is `l` -/
theorem getElem?_swapPop {α : Type} {a : Array α} {n : Nat} {l : α} (hs : a.size = n) (hl : a[n - 1]? = some l) (x : Nat)
    {p : Nat} (hp : p < n - 1) : ((a.setIfInBounds x l).pop)[p]? = a[if p = x then n - 1 else p]? := by
  subst hs
  rw [Array.getElem?_pop, Array.size_setIfInBounds, if_pos hp, Array.getElem?_setIfInBounds]
  by_cases hpx : p = x
  · rw [if_pos hpx.symm, if_pos hpx, if_pos (by omega), hl]
  · rw [if_neg (Ne.symm hpx), if_neg hpx]

/-- overwriting the one place `z` where `v` occurs by `w` renames `v` to `w` -/
theorem getElem?_rename {a : Array Nat} {z v w : Nat} (hz : ∀ p, a[p]? = some v ↔ p = z ∧ z < a.size) (p : Nat) :
    (a.setIfInBounds z w)[p]? = (a[p]?).map fun i => if i = v then w else i := by
  rw [Array.getElem?_setIfInBounds]
  by_cases hzp : z = p
  · subst hzp
    rw [if_pos rfl]
    by_cases hzs : z < a.size
    · rw [if_pos hzs, (hz z).2 ⟨rfl, hzs⟩, Option.map_some, if_pos rfl]
    · rw [if_neg hzs, Array.getElem?_eq_none (by omega)]; rfl
  · rw [if_neg hzp]
    cases hi : a[p]? with
    | none => rfl
    | some i =>
      have : i ≠ v := fun hc => hzp ((hz p).1 (hc ▸ hi)).1.symm
      rw [Option.map_some, if_neg this]

namespace Store

/-- the position permutation performed by a swap -/
def swapPos (a b p : Nat) : Nat := if p = a then b else if p = b then a else p

theorem swapPos_left (a b : Nat) : swapPos a b a = b := if_pos rfl

theorem swapPos_right (a b : Nat) : swapPos a b b = a := by
  unfold swapPos; split
  · next h => exact h
  · exact if_pos rfl

theorem swapPos_of_ne {a b p : Nat} (ha : p ≠ a) (hb : p ≠ b) : swapPos a b p = p := by
  unfold swapPos; rw [if_neg ha, if_neg hb]
end Store

/-- exchanging the entries at `i` and `j` -/
theorem getElem?_swapEntries {α : Type} {a : Array α} {i j : Nat} {x y : α} (hi : a[i]? = some x) (hj : a[j]? = some y)
    (p : Nat) : ((a.setIfInBounds i y).setIfInBounds j x)[p]? = a[Store.swapPos i j p]? := by
  have hil := lt_size_of_getElem? hi
  have hjl := lt_size_of_getElem? hj
  rw [Array.getElem?_setIfInBounds, Array.getElem?_setIfInBounds, Array.size_setIfInBounds]
  by_cases hpj : p = j
  · subst hpj; rw [if_pos rfl, if_pos hjl, Store.swapPos_right, hi]
  · rw [if_neg (Ne.symm hpj)]
    by_cases hpi : p = i
    · subst hpi; rw [if_pos rfl, if_pos hil, Store.swapPos_left, hj]
    · rw [if_neg (Ne.symm hpi), Store.swapPos_of_ne hpi hpj]

/-- two index tables of length `n` that are inverse to each other -/
structure InvTables (t u : Array Nat) (n : Nat) : Prop where
  size_left : t.size = n
  size_right : u.size = n
  iff : ∀ {p i : Nat}, t[p]? = some i ↔ u[i]? = some p

namespace InvTables
variable {t u : Array Nat} {n : Nat}

theorem symm (h : InvTables t u n) : InvTables u t n := ⟨h.size_right, h.size_left, h.iff.symm⟩

theorem lt (h : InvTables t u n) {p i : Nat} (hp : t[p]? = some i) : p < n ∧ i < n :=
  ⟨h.size_left ▸ lt_size_of_getElem? hp, h.size_right ▸ lt_size_of_getElem? (h.iff.1 hp)⟩

theorem get (h : InvTables t u n) {p : Nat} (hp : p < n) : ∃ i, t[p]? = some i :=
  ⟨t[p]'(h.size_left ▸ hp), Array.getElem?_eq_getElem _⟩

theorem pair (h : InvTables t u n) {p : Nat} (hp : p < n) : ∃ i, t[p]? = some i ∧ u[i]? = some p :=
  (h.get hp).imp fun _ hi => ⟨hi, h.iff.1 hi⟩

/-- from the two halves in the form in which `Store.TWF` states them -/
theorem of_forall (hs : t.size = n) (hu : u.size = n) (h1 : ∀ p, p < n → ∃ i, t[p]? = some i ∧ u[i]? = some p)
    (h2 : ∀ i, i < n → ∃ p, u[i]? = some p ∧ t[p]? = some i) : InvTables t u n := by
  have key : ∀ {t u : Array Nat}, t.size = n → (∀ p, p < n → ∃ i, t[p]? = some i ∧ u[i]? = some p) →
      ∀ {p i : Nat}, t[p]? = some i → u[i]? = some p := by
    intro t u hs h1 p i hp
    obtain ⟨i', e1, e2⟩ := h1 p (hs ▸ lt_size_of_getElem? hp)
    rw [hp] at e1; cases e1; exact e2
  exact ⟨hs, hu, key hs h1, key hu h2⟩

theorem inj (h : InvTables t u n) {p q i : Nat} (hp : t[p]? = some i) (hq : t[q]? = some i) : p = q :=
  Option.some.inj ((h.iff.1 hp).symm.trans (h.iff.1 hq))

/-- where the last index occurs in `t`: at the last entry of `u` -/
theorem eq_last_iff (h : InvTables t u n) {q : Nat} (hq : u[n - 1]? = some q) {p : Nat} :
    t[p]? = some (n - 1) ↔ p = q := by
  rw [h.iff, hq, Option.some.injEq, eq_comm]

theorem last_iff (h : InvTables t u n) {a q : Nat} (ha : t[n - 1]? = some a) (hq : u[n - 1]? = some q) :
    a = n - 1 ↔ q = n - 1 := by
  rw [eq_comm (a := q), ← h.eq_last_iff hq, ha, Option.some.injEq]

/-- Removing the pair `x ↦ y` from `t`, first filling `x` with the last entry `a` of `t`, then giving the name `y` to what
was called `n - 1` (found through the last entry `q` of `u`): entry `p` is the old entry `p`, or the last one at `x`, renamed. -/
theorem swapPop_rename (h : InvTables t u n) {x y a q p : Nat} (hx : t[x]? = some y) (ha : t[n - 1]? = some a)
    (hq : u[n - 1]? = some q) (hp : p < n - 1) :
    ∃ i, t[if p = x then n - 1 else p]? = some i ∧
      (if y < n - 1 then ((t.setIfInBounds x a).pop).setIfInBounds (if q = n - 1 then x else q) y
        else (t.setIfInBounds x a).pop)[p]? = some (if i = n - 1 then y else i) := by
  obtain ⟨i, hi⟩ := h.get (p := if p = x then n - 1 else p) (by split <;> omega)
  refine ⟨i, hi, ?_⟩
  have hA := getElem?_swapPop h.size_left ha x hp
  have hxy := h.lt hx
  by_cases hy : y < n - 1
  · rw [if_pos hy, getElem?_rename (v := n - 1) ?_, hA, hi]; rfl
    intro p'
    have hqa := h.last_iff ha hq
    have hxq : x ≠ q := fun hc => by rw [← h.eq_last_iff hq, hx] at hc; cases hc; omega
    have hql := (h.symm.lt hq).2
    rw [Array.size_pop, Array.size_setIfInBounds, h.size_left]
    by_cases hp' : p' < n - 1
    · rw [getElem?_swapPop h.size_left ha x hp', h.eq_last_iff hq]
      split <;> split <;> omega
    · rw [Array.getElem?_eq_none (by simp [h.size_left]; omega)]
      split <;> simp <;> omega
  · rw [if_neg hy, hA, hi]
    have := (h.lt hi).2
    congr 1; split <;> omega

/-- the same removal done in the other order: first `n - 1` is renamed to `y` (it is found at the last entry `q` of `u`), then
`x` is filled with the last entry -/
theorem rename_swapPop (h : InvTables t u n) {x y a q p : Nat} (hx : t[x]? = some y) (ha : t[n - 1]? = some a)
    (hq : u[n - 1]? = some q) (hp : p < n - 1) :
    ∃ i, t[if p = x then n - 1 else p]? = some i ∧
      (((if y < n - 1 then t.setIfInBounds q y else t).setIfInBounds x (if a = n - 1 then y else a)).pop)[p]? =
        some (if i = n - 1 then y else i) := by
  obtain ⟨i, hi⟩ := h.get (p := if p = x then n - 1 else p) (by split <;> omega)
  refine ⟨i, hi, ?_⟩
  have hs := h.size_left
  have hxy := h.lt hx
  have hql := (h.symm.lt hq).2
  have hqa := h.last_iff ha hq
  have hil := (h.lt hi).2
  have hl : (if y < n - 1 then t.setIfInBounds q y else t)[n - 1]? = some (if a = n - 1 then y else a) := by
    split
    · rw [Array.getElem?_setIfInBounds]
      split
      · rw [if_pos (by omega), if_pos (by omega)]
      · rw [ha, if_neg (by omega)]
    · rw [ha]; congr 1; split <;> omega
  rw [getElem?_swapPop (by split <;> simp [hs]) hl x hp]
  by_cases hy : y < n - 1
  · rw [if_pos hy, getElem?_rename (v := n - 1) (fun p' => by rw [h.eq_last_iff hq]; omega), hi]; rfl
  · rw [if_neg hy, hi]
    congr 1; split <;> omega

/-- tables described entry by entry as "the pair `x ↦ y` removed" are inverse to each other again -/
theorem removed (h : InvTables t u n) {x y : Nat} (hx : t[x]? = some y) {t' u' : Array Nat}
    (ht : ∀ p, p < n - 1 → ∃ i, t[if p = x then n - 1 else p]? = some i ∧ t'[p]? = some (if i = n - 1 then y else i))
    (hu : ∀ j, j < n - 1 → ∃ k, u[if j = y then n - 1 else j]? = some k ∧ u'[j]? = some (if k = n - 1 then x else k))
    (p : Nat) (hp : p < n - 1) : ∃ i, t'[p]? = some i ∧ u'[i]? = some p := by
  obtain ⟨i, hi, hi'⟩ := ht p hp
  refine ⟨_, hi', ?_⟩
  have hil := (h.lt hi).2
  have hyl := (h.lt hx).2
  have hσ : (if p = x then n - 1 else p) ≠ x := by split <;> omega
  have hiy : i ≠ y := fun hc => hσ (h.inj hi (hc ▸ hx))
  obtain ⟨k, hk, hk'⟩ := hu (if i = n - 1 then y else i) (by split <;> omega)
  have hback : (if (if i = n - 1 then y else i) = y then n - 1 else (if i = n - 1 then y else i)) = i := by
    by_cases hc : i = n - 1
    · rw [if_pos hc, if_pos rfl, hc]
    · rw [if_neg hc, if_neg hiy]
  rw [hback, h.iff.1 hi] at hk
  cases hk
  rw [hk']
  congr 1
  split <;> split <;> omega

theorem of_removed (h : InvTables t u n) {x y : Nat} (hx : t[x]? = some y) {t' u' : Array Nat} (hs : t'.size = n - 1)
    (hu' : u'.size = n - 1)
    (ht : ∀ p, p < n - 1 → ∃ i, t[if p = x then n - 1 else p]? = some i ∧ t'[p]? = some (if i = n - 1 then y else i))
    (hu : ∀ j, j < n - 1 → ∃ k, u[if j = y then n - 1 else j]? = some k ∧ u'[j]? = some (if k = n - 1 then x else k)) :
    InvTables t' u' (n - 1) :=
  .of_forall hs hu' (h.removed hx ht hu) (h.symm.removed (h.iff.1 hx) hu ht)

/-- exchanging two entries of `t` and the two entries of `u` that point at them -/
theorem swap (h : InvTables t u n) {a b ia ib : Nat} (ha : t[a]? = some ia) (hb : t[b]? = some ib) :
    InvTables ((t.setIfInBounds a ib).setIfInBounds b ia) ((u.setIfInBounds ia b).setIfInBounds ib a) n := by
  have key : ∀ {t u : Array Nat} {a b ia ib p i : Nat}, InvTables t u n → t[a]? = some ia → t[b]? = some ib →
      ((t.setIfInBounds a ib).setIfInBounds b ia)[p]? = some i → ((u.setIfInBounds ia b).setIfInBounds ib a)[i]? = some p := by
    intro t u a b ia ib p i h ha hb hp
    rw [getElem?_swapEntries ha hb] at hp
    rw [getElem?_swapEntries (h.iff.1 ha) (h.iff.1 hb), ← h.iff]
    by_cases hpa : p = a
    · rw [hpa, Store.swapPos_left, hb] at hp
      rw [← Option.some.inj hp, Store.swapPos_right, hpa]; exact ha
    · by_cases hpb : p = b
      · rw [hpb, Store.swapPos_right, ha] at hp
        rw [← Option.some.inj hp, Store.swapPos_left, hpb]; exact hb
      · rw [Store.swapPos_of_ne hpa hpb] at hp
        rw [Store.swapPos_of_ne (fun hc : i = ia => hpa (h.inj hp (hc ▸ ha))) (fun hc : i = ib => hpb (h.inj hp (hc ▸ hb)))]
        exact hp
  exact ⟨by simp [h.size_left], by simp [h.size_right], key h ha hb, key h.symm (h.iff.1 ha) (h.iff.1 hb)⟩

/-- one more index at the end of both tables, pointing at itself -/
theorem push (h : InvTables t u n) : InvTables (t.push n) (u.push n) (n + 1) := by
  have key : ∀ {t u : Array Nat} {p i : Nat}, InvTables t u n → (t.push n)[p]? = some i → (u.push n)[i]? = some p := by
    intro t u p i h hp
    rw [Array.getElem?_push, h.size_left] at hp
    rw [Array.getElem?_push, h.size_right]
    by_cases hpn : p = n
    · rw [if_pos hpn] at hp; cases hp; rw [if_pos rfl, hpn]
    · rw [if_neg hpn] at hp; rw [if_neg (Nat.ne_of_lt (h.lt hp).2)]; exact h.iff.1 hp
  exact ⟨by simp [h.size_left], by simp [h.size_right], key h, key h.symm⟩

end InvTables

namespace Store
variable {P : Type}

theorem TWF.inv {s : Store P} {n : Nat} (h : s.TWF n) : InvTables s.heap s.qp n :=
  .of_forall h.heap_size h.qp_size h.heap_qp h.qp_heap

theorem TWF.qp_of_heap {s : Store P} {n p i : Nat} (h : s.TWF n) (hp : s.heap[p]? = some i) : s.qp[i]? = some p :=
  h.inv.iff.1 hp

theorem TWF.heap_of_qp {s : Store P} {n p i : Nat} (h : s.TWF n) (hi : s.qp[i]? = some p) : s.heap[p]? = some i :=
  h.inv.iff.2 hi

theorem TWF.heap_lt {s : Store P} {n p i : Nat} (h : s.TWF n) (hp : s.heap[p]? = some i) : i < n := (h.inv.lt hp).2

theorem TWF.qp_lt {s : Store P} {n p i : Nat} (h : s.TWF n) (hi : s.qp[i]? = some p) : p < n := (h.inv.symm.lt hi).2

theorem TWF.heap_inj {s : Store P} {n p q i : Nat} (h : s.TWF n) (hp : s.heap[p]? = some i) (hq : s.heap[q]? = some i) : p = q :=
  h.inv.inj hp hq

theorem TWF.of_inv {s : Store P} {n : Nat} (hm : s.map.size = n) (h : InvTables s.heap s.qp n) (hd : s.map.NoDupKeys) :
    s.TWF n :=
  ⟨hm, h.size_left, h.size_right, fun _ => h.pair, fun _ => h.symm.pair, hd⟩

theorem TWF.heap_some {s : Store P} {n p : Nat} (h : s.TWF n) (hp : p < n) : ∃ i, s.heap[p]? = some i ∧ i < n := by
  obtain ⟨i, h1, _⟩ := h.heap_qp p hp
  exact ⟨i, h1, h.heap_lt h1⟩

theorem TWF.qp_some {s : Store P} {n i : Nat} (h : s.TWF n) (hi : i < n) : ∃ p, s.qp[i]? = some p ∧ p < n := by
  obtain ⟨p, h1, _⟩ := h.qp_heap i hi
  exact ⟨p, h1, h.qp_lt h1⟩

theorem TWF.map_some {s : Store P} {n i : Nat} (h : s.TWF n) (hi : i < n) : ∃ e, s.map[i]? = some e := by
  have : i < s.map.size := by rw [h.map_size]; exact hi
  exact ⟨s.map[i], by simp [this]⟩

theorem TWF.pr_some {s : Store P} {n p : Nat} (h : s.TWF n) (hp : p < n) : ∃ x, s.pr p = some x := by
  obtain ⟨i, h1, h2⟩ := h.heap_some hp
  obtain ⟨e, he⟩ := h.map_some h2
  exact ⟨e.2, by simp [pr, h1, he]⟩

theorem TWF.entryAt_some {s : Store P} {n p : Nat} (h : s.TWF n) (hp : p < n) : ∃ e, s.entryAt p = some e := by
  obtain ⟨i, h1, h2⟩ := h.heap_some hp
  obtain ⟨e, he⟩ := h.map_some h2
  exact ⟨e, by simp [entryAt, h1, he]⟩

theorem pr_eq_entryAt (s : Store P) (p : Nat) : s.pr p = (s.entryAt p).map (·.2) := by
  unfold pr entryAt; split <;> rfl

/-- `get_priority_from_position` succeeds exactly when the position holds a priority -/
theorem prioAt_eq_ok_iff {s : Store P} {pos : Nat} {x : P} : s.prioAt pos = .ok x ↔ s.pr pos = some x := by
  unfold prioAt pr getU IMap.getIndex unwrapO
  cases h1 : s.heap[pos]? with
  | none => simp [bind, Except.bind]
  | some i =>
    cases h2 : s.map[i]? with
    | none => simp [bind, Except.bind, h2]
    | some e => simp [bind, Except.bind, h2, pure, Except.pure]

theorem TWF.prioAt_ok {s : Store P} {n p : Nat} (h : s.TWF n) (hp : p < n) : ∃ x, s.prioAt p = .ok x ∧ s.pr p = some x := by
  obtain ⟨x, hx⟩ := h.pr_some hp
  exact ⟨x, prioAt_eq_ok_iff.mpr hx, hx⟩

/-- ticking changes nothing but the ghost counter -/
@[simp] theorem tick_map (s : Store P) (k : Nat) : (s.tick k).map = s.map := rfl
@[simp] theorem tick_heap (s : Store P) (k : Nat) : (s.tick k).heap = s.heap := rfl
@[simp] theorem tick_qp (s : Store P) (k : Nat) : (s.tick k).qp = s.qp := rfl
@[simp] theorem tick_size (s : Store P) (k : Nat) : (s.tick k).size = s.size := rfl
@[simp] theorem tick_ticks (s : Store P) (k : Nat) : (s.tick k).ticks = s.ticks + k := rfl
@[simp] theorem tick_pr (s : Store P) (k p : Nat) : (s.tick k).pr p = s.pr p := rfl
@[simp] theorem tick_entryAt (s : Store P) (k p : Nat) : (s.tick k).entryAt p = s.entryAt p := rfl
theorem tick_TWF {s : Store P} {n k : Nat} : (s.tick k).TWF n ↔ s.TWF n :=
  ⟨fun h => ⟨h.1, h.2, h.3, h.4, h.5, h.6⟩, fun h => ⟨h.1, h.2, h.3, h.4, h.5, h.6⟩⟩
theorem tick_tick (s : Store P) (a b : Nat) : (s.tick a).tick b = s.tick (a + b) := by
  simp [tick, Nat.add_assoc]
theorem tick_zero (s : Store P) : s.tick 0 = s := rfl
@[simp] theorem tick_prioAt (s : Store P) (k p : Nat) : (s.tick k).prioAt p = s.prioAt p := rfl

theorem swap_tick (s : Store P) (k a b : Nat) :
    (s.tick k).swap a b = (match s.swap a b with | .ok s' => .ok (s'.tick k) | .error e => .error e) := by
  unfold swap
  simp only [tick_heap, tick_qp, bind, Except.bind, pure, Except.pure]
  cases getU s.heap a 101 with
  | error e => rfl
  | ok ia =>
    cases getU s.heap b 102 with
    | error e => rfl
    | ok ib =>
      dsimp only
      cases swapC s.qp ia ib 103 with
      | error e => rfl
      | ok qp =>
        dsimp only
        cases swapC s.heap a b 104 with
        | error e => rfl
        | ok heap => rfl

/-- `Store::swap` on two occupied positions; it reads nothing but the tables -/
theorem swap_eval {s : Store P} {n a b ia ib : Nat} (h : InvTables s.heap s.qp n) (hia : s.heap[a]? = some ia)
    (hib : s.heap[b]? = some ib) :
    s.swap a b = .ok { s with qp := (s.qp.setIfInBounds ia b).setIfInBounds ib a,
                              heap := (s.heap.setIfInBounds a ib).setIfInBounds b ia } := by
  simp [swap, getU_ok hia, getU_ok hib, swapC_ok (h.iff.1 hia) (h.iff.1 hib), swapC_ok hia hib, bind, Except.bind, pure,
    Except.pure]

/-- **`Store::swap`** on two valid positions: succeeds, keeps the tables well-formed, leaves the map alone and
exchanges what the two positions hold. -/
theorem swap_spec {s : Store P} {n a b : Nat} (h : s.TWF n) (ha : a < n) (hb : b < n) :
    ∃ s', s.swap a b = .ok s' ∧ s'.TWF n ∧ s'.map = s.map ∧ s'.size = s.size ∧ s'.ticks = s.ticks ∧
      (∀ p, s'.heap[p]? = s.heap[swapPos a b p]?) := by
  obtain ⟨ia, hia⟩ := h.inv.get ha
  obtain ⟨ib, hib⟩ := h.inv.get hb
  exact ⟨_, swap_eval h.inv hia hib, TWF.of_inv h.map_size (h.inv.swap hia hib) h.nodup, rfl, rfl, rfl,
    getElem?_swapEntries hia hib⟩

end Store

/-! ## the capacity request at the head of `extend` / `from_iter` / `deserialize`

`extend` and `from_iter` start with `reserveC lo`: below `capLimit` they are the plain strategies, from `capLimit` on they
are the capacity-overflow panic and nothing else.  `deserialize` caps its request at 4096: the announced length never
matters. -/
section Capacity
open Arith
variable {P : Type} [LT P] [DecidableLT P]

theorem MaxQ.extend_of_lt {s : Store P} {lo : Nat} (xs : Array (Item × P)) (h : lo < capLimit) :
    MaxQ.extend s lo xs =
      if (if lo ≠ 0 then betterToRebuild s.size lo else false) = true then MaxQ.heapBuild (s.extend xs)
      else MaxQ.pushAll xs.toList s := by
  unfold MaxQ.extend; exact reserveC_bind_of_lt _ h

theorem MaxQ.extend_of_ge {s : Store P} {lo : Nat} (xs : Array (Item × P)) (h : capLimit ≤ lo) :
    MaxQ.extend s lo xs = .error .capacity := by
  unfold MaxQ.extend; exact reserveC_bind_of_ge _ h

theorem MaxQ.extend_ok_lt {s s' : Store P} {lo : Nat} {xs : Array (Item × P)} (h : MaxQ.extend s lo xs = .ok s') :
    lo < capLimit := by
  unfold MaxQ.extend at h; exact (reserveC_bind_eq_ok.1 h).1

theorem DQ.extend_of_lt {s : Store P} {lo : Nat} (xs : Array (Item × P)) (h : lo < capLimit) :
    DQ.extend s lo xs =
      if (if lo ≠ 0 then betterToRebuild s.size lo else false) = true then DQ.heapBuild (s.extend xs)
      else DQ.pushAll xs.toList s := by
  unfold DQ.extend; exact reserveC_bind_of_lt _ h

theorem DQ.extend_of_ge {s : Store P} {lo : Nat} (xs : Array (Item × P)) (h : capLimit ≤ lo) :
    DQ.extend s lo xs = .error .capacity := by
  unfold DQ.extend; exact reserveC_bind_of_ge _ h

theorem DQ.extend_ok_lt {s s' : Store P} {lo : Nat} {xs : Array (Item × P)} (h : DQ.extend s lo xs = .ok s') :
    lo < capLimit := by
  unfold DQ.extend at h; exact (reserveC_bind_eq_ok.1 h).1

theorem MaxQ.fromIter_of_lt {lo : Nat} (xs : Array (Item × P)) (h : lo < capLimit) :
    MaxQ.fromIter lo xs = MaxQ.heapBuild (Store.fromIter xs) := by
  unfold MaxQ.fromIter; exact reserveC_bind_of_lt _ h

theorem MaxQ.fromIter_of_ge {lo : Nat} (xs : Array (Item × P)) (h : capLimit ≤ lo) :
    MaxQ.fromIter lo xs = .error .capacity := by
  unfold MaxQ.fromIter; exact reserveC_bind_of_ge _ h

theorem MaxQ.fromIter_eq_ok {lo : Nat} {xs : Array (Item × P)} {s' : Store P} :
    MaxQ.fromIter lo xs = .ok s' ↔ lo < capLimit ∧ MaxQ.heapBuild (Store.fromIter xs) = .ok s' := by
  unfold MaxQ.fromIter; exact reserveC_bind_eq_ok

theorem DQ.fromIter_of_lt {lo : Nat} (xs : Array (Item × P)) (h : lo < capLimit) :
    DQ.fromIter lo xs = DQ.heapBuild (Store.fromIter xs) := by
  unfold DQ.fromIter; exact reserveC_bind_of_lt _ h

theorem DQ.fromIter_of_ge {lo : Nat} (xs : Array (Item × P)) (h : capLimit ≤ lo) :
    DQ.fromIter lo xs = .error .capacity := by
  unfold DQ.fromIter; exact reserveC_bind_of_ge _ h

theorem DQ.fromIter_eq_ok {lo : Nat} {xs : Array (Item × P)} {s' : Store P} :
    DQ.fromIter lo xs = .ok s' ↔ lo < capLimit ∧ DQ.heapBuild (Store.fromIter xs) = .ok s' := by
  unfold DQ.fromIter; exact reserveC_bind_eq_ok

/-- the announced length never matters: the pre-allocation is capped -/
theorem MaxQ.deserialize_eq (hint : Option Nat) (xs : Array (Item × P)) :
    MaxQ.deserialize hint xs = MaxQ.heapBuild (Store.visitSeq xs) := by
  unfold MaxQ.deserialize
  cases hint with
  | none => rfl
  | some h => simp only [reserveC_min_4096]; rfl

theorem DQ.deserialize_eq (hint : Option Nat) (xs : Array (Item × P)) :
    DQ.deserialize hint xs = DQ.heapBuild (Store.visitSeq xs) := by
  unfold DQ.deserialize
  cases hint with
  | none => rfl
  | some h => simp only [reserveC_min_4096]; rfl

end Capacity
end PQ
