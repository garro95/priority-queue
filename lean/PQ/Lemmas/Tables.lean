import PQ.Lemmas.WF
import PQ.Lemmas.IMapLemmas
/-!
# The table repairs of `Store.swapRemove` / `Store.remove`, and the store-level specs of the point updates
-/
set_option linter.unusedSimpArgs false
namespace PQ
namespace Store
variable {P : Type}

/-! ## Abstract description of "position `pos` / slot `head` removed"

Position `size-1` is dropped and what it held moves to `pos`; slot `size-1` is dropped and renamed `head`. -/

structure Removed (s s' : Store P) (pos head : Nat) (e : Item × P) : Prop where
  size : s'.size = s.size - 1
  ticks : s'.ticks = s.ticks
  heap_size : s'.heap.size = s.size - 1
  qp_size : s'.qp.size = s.size - 1
  heap : ∀ p, p < s.size - 1 → ∃ i, s.heap[if p = pos then s.size - 1 else p]? = some i ∧
      s'.heap[p]? = some (if i = s.size - 1 then head else i)
  qp : ∀ j, j < s.size - 1 → ∃ x, s.qp[if j = head then s.size - 1 else j]? = some x ∧
      s'.qp[j]? = some (if x = s.size - 1 then pos else x)
  map : s.map.swapRemoveIndex head = some (e, s'.map)

theorem Removed.wf {s s' : Store P} {pos head : Nat} {e : Item × P} (h : s.WF)
    (hh : s.heap[pos]? = some head) (r : Removed s s' pos head e) : s'.WF := by
  unfold WF
  rw [r.size]
  exact .of_inv (by rw [IMap.size_swapRemoveIndex r.map, h.map_size])
    (h.inv.of_removed hh r.heap_size r.qp_size r.heap r.qp) (h.nodup.swapRemoveIndex r.map)

theorem Removed.entryAt_pos {s s' : Store P} {pos head : Nat} {e : Item × P}
    (hh : s.heap[pos]? = some head) (r : Removed s s' pos head e) : s.entryAt pos = some e := by
  unfold entryAt; rw [hh]; exact IMap.swapRemoveIndex_fst r.map

theorem Removed.entryAt {s s' : Store P} {pos head : Nat} {e : Item × P} (h : s.WF)
    (hh : s.heap[pos]? = some head) (r : Removed s s' pos head e) (p : Nat) (hpL : p < s.size - 1) :
    s'.entryAt p = s.entryAt (if p = pos then s.size - 1 else p) := by
  obtain ⟨i, hi, hi'⟩ := r.heap p hpL
  have hil := h.heap_lt hi
  have hhl := h.heap_lt hh
  have hσ : (if p = pos then s.size - 1 else p) ≠ pos := by split <;> omega
  have hih : i ≠ head := fun hc => hσ (h.heap_inj hi (hc ▸ hh))
  have hj : (if i = s.size - 1 then head else i) < s.size - 1 := by split <;> omega
  unfold Store.entryAt
  rw [hi, hi']
  simp only
  rw [IMap.getElem?_swapRemoveIndex r.map, h.map_size, if_pos hj]
  by_cases hc : i = s.size - 1
  · simp [hc]
  · simp [hc, hih]

theorem Removed.lookup {s s' : Store P} {pos head : Nat} {e : Item × P} (h : s.WF)
    (r : Removed s s' pos head e) (k : Nat) :
    IMap.lookup s'.map k = if k = e.1.key then none else IMap.lookup s.map k :=
  IMap.lookup_swapRemoveIndex h.nodup r.map k

/-! ## `swapRemove` -/

/-- the store `swap_remove(pos)` computes, with `head = heap[pos]`, `a = heap[size-1]`, `q = qp[size-1]` -/
def swapRemoveResult (s : Store P) (pos head a q : Nat) (m' : IMap P) : Store P :=
  { s with
    map := m'
    heap :=
      if head < s.size - 1 then
        ((s.heap.setIfInBounds pos a).pop).setIfInBounds (if q = s.size - 1 then pos else q) head
      else (s.heap.setIfInBounds pos a).pop
    qp := ((if pos < s.size - 1 then s.qp.setIfInBounds a pos else s.qp).setIfInBounds head
            (if q = s.size - 1 then pos else q)).pop
    size := s.size - 1 }

theorem swapRemoveResult_heap_size {s : Store P} (hs : s.heap.size = s.size) (pos head a q : Nat) (m' : IMap P) :
    (swapRemoveResult s pos head a q m').heap.size = s.size - 1 := by
  unfold swapRemoveResult; dsimp only; split <;> simp [hs]

theorem swapRemoveResult_qp_size {s : Store P} (qs : s.qp.size = s.size) (pos head a q : Nat) (m' : IMap P) :
    (swapRemoveResult s pos head a q m').qp.size = s.size - 1 := by
  unfold swapRemoveResult; dsimp only; split <;> simp [qs]

/-- symbolic evaluation of `swap_remove(pos)`: of the store only the tables have to be in order; the map decides between
the two answers and is not looked at otherwise -/
theorem swapRemove_eval {s : Store P} {pos head a q : Nat} (h : InvTables s.heap s.qp s.size)
    (hh : s.heap[pos]? = some head) (ha : s.heap[s.size - 1]? = some a) (hq : s.qp[s.size - 1]? = some q) :
    s.swapRemove pos = .ok (match s.map.swapRemoveIndex head with
      | some (e, m') => (swapRemoveResult s pos head a q m', some e)
      | none => (swapRemoveResult s pos head a q s.map, none)) := by
  unfold swapRemoveResult
  have hs := h.size_left; have qs := h.size_right
  have hp := (h.lt hh).1
  have hhl := (h.lt hh).2
  have hal := (h.lt ha).2
  have hql := (h.symm.lt hq).2
  have e1 : swapRemoveC s.heap pos 107 = .ok (head, (s.heap.setIfInBounds pos a).pop) :=
    swapRemoveC_eq_ok_iff.2 ⟨a, hh, by rw [back?_eq, hs]; exact ha, rfl⟩
  have e2 : decC s.size 108 = .ok (s.size - 1) := decC_eq_ok_iff.2 ⟨by omega, rfl⟩
  unfold swapRemove
  simp only [e1, e2, bind, Except.bind, pure, Except.pure]
  have hqa := h.last_iff ha hq
  have qs1 : (if pos < s.size - 1 then s.qp.setIfInBounds a pos else s.qp).size = s.size := by
    split
    · rw [Array.size_setIfInBounds, qs]
    · exact qs
  -- the value written over `qp[head]`: the position of the last slot after the first repair
  have hlast : (if pos < s.size - 1 then s.qp.setIfInBounds a pos else s.qp)[s.size - 1]? =
      some (if q = s.size - 1 then pos else q) := by
    by_cases hpL : pos < s.size - 1
    · rw [if_pos hpL, Array.getElem?_setIfInBounds]
      by_cases haL : a = s.size - 1
      · rw [if_pos haL, if_pos (by omega), if_pos (hqa.1 haL)]
      · rw [if_neg haL, hq, if_neg (mt hqa.2 haL)]
    · rw [if_neg hpL, hq]
      congr 1; split <;> omega
  have hxl : head < s.size - 1 → (if q = s.size - 1 then pos else q) < s.size - 1 := by
    intro hhL
    have : pos = s.size - 1 → head = a := fun hc => by rw [hc, ha] at hh; exact (Option.some.inj hh).symm
    split <;> omega
  have e5 := swapRemoveC_eq_ok_iff (site := 111).2
    ⟨_, Array.getElem?_eq_getElem (qs1 ▸ hhl), by rw [back?_eq, qs1]; exact hlast, rfl⟩
  have e3 : pos < s.size - 1 → getU (s.heap.setIfInBounds pos a).pop pos 109 = .ok a := fun hpL =>
    getU_ok (by rw [getElem?_swapPop hs ha pos hpL, if_pos rfl]; exact ha)
  have e4 := setU_ok (a := s.qp) (site := 110) pos (show a < s.qp.size by omega)
  have e6 : head < s.size - 1 → getU ((if pos < s.size - 1 then s.qp.setIfInBounds a pos else s.qp).setIfInBounds head
      (if q = s.size - 1 then pos else q)).pop head 112 =
        .ok (if q = s.size - 1 then pos else q) := fun hhL =>
    getU_ok (by rw [getElem?_swapPop qs1 hlast head hhL, if_pos rfl]; exact hlast)
  have e7 : head < s.size - 1 → setU (s.heap.setIfInBounds pos a).pop
      (if q = s.size - 1 then pos else q) head 113 =
        .ok ((s.heap.setIfInBounds pos a).pop.setIfInBounds (if q = s.size - 1 then pos else q) head) := fun hhL =>
    setU_ok _ (by rw [Array.size_pop, Array.size_setIfInBounds, hs]; exact hxl hhL)
  by_cases hpL : pos < s.size - 1 <;> by_cases hhL : head < s.size - 1
  · have e6' := e6 hhL; have e7' := e7 hhL
    simp only [hpL, hhL, if_true, true_and] at e5 e6' e7' ⊢
    simp only [e3 hpL, e4, e5, e6', e7']
    rcases s.map.swapRemoveIndex head with _ | ⟨e, m⟩ <;> rfl
  · simp only [hpL, hhL, if_true, if_false, true_and] at e5 ⊢
    simp only [e3 hpL, e4, e5]
    rcases s.map.swapRemoveIndex head with _ | ⟨e, m⟩ <;> rfl
  · have e6' := e6 hhL; have e7' := e7 hhL
    simp only [hpL, hhL, if_true, if_false, false_and] at e5 e6' e7' ⊢
    simp only [e5, e6', e7']
    rcases s.map.swapRemoveIndex head with _ | ⟨e, m⟩ <;> rfl
  · simp only [hpL, hhL, if_true, if_false, false_and] at e5 ⊢
    simp only [e5]
    rcases s.map.swapRemoveIndex head with _ | ⟨e, m⟩ <;> rfl

theorem swapRemoveResult_removed {s : Store P} {pos head a q : Nat} {e : Item × P} {m' : IMap P}
    (h : InvTables s.heap s.qp s.size) (hh : s.heap[pos]? = some head) (ha : s.heap[s.size - 1]? = some a)
    (hq : s.qp[s.size - 1]? = some q) (hm : s.map.swapRemoveIndex head = some (e, m')) :
    Removed s (swapRemoveResult s pos head a q m') pos head e :=
  ⟨rfl, rfl, swapRemoveResult_heap_size h.size_left .., swapRemoveResult_qp_size h.size_right ..,
    fun _ => h.swapPop_rename hh ha hq, fun _ => h.symm.rename_swapPop (h.iff.1 hh) hq ha, hm⟩

/-- the tables `swap_remove` leaves are inverse to each other again, whatever happened to the map -/
theorem swapRemoveResult_inv {s : Store P} {pos head a q : Nat} (h : InvTables s.heap s.qp s.size)
    (hh : s.heap[pos]? = some head) (ha : s.heap[s.size - 1]? = some a) (hq : s.qp[s.size - 1]? = some q) (m' : IMap P) :
    InvTables (swapRemoveResult s pos head a q m').heap (swapRemoveResult s pos head a q m').qp (s.size - 1) :=
  h.of_removed hh (swapRemoveResult_heap_size h.size_left ..) (swapRemoveResult_qp_size h.size_right ..)
    (fun _ => h.swapPop_rename hh ha hq) fun _ => h.symm.rename_swapPop (h.iff.1 hh) hq ha

/-- **`Store::swap_remove(pos)`** on a valid position: succeeds, returns the entry at `pos`, keeps the store
well-formed, moves the entry of the last position to `pos` and nothing else; as a map exactly that key disappears. -/
theorem swapRemove_spec {s : Store P} {pos : Nat} (h : s.WF) (hp : pos < s.size) :
    ∃ s' e, s.swapRemove pos = .ok (s', some e) ∧ s.entryAt pos = some e ∧ s'.WF ∧ s'.size = s.size - 1 ∧
      s'.ticks = s.ticks ∧
      (∀ p, p < s.size - 1 → s'.entryAt p = s.entryAt (if p = pos then s.size - 1 else p)) ∧
      (∀ k, IMap.lookup s'.map k = if k = e.1.key then none else IMap.lookup s.map k) := by
  obtain ⟨head, hh, hhl⟩ := h.heap_some hp
  obtain ⟨a, ha, _⟩ := h.heap_some (show s.size - 1 < s.size by omega)
  obtain ⟨q, hq, _⟩ := h.qp_some (show s.size - 1 < s.size by omega)
  obtain ⟨e, l, he, _, hm⟩ := IMap.swapRemoveIndex_of_lt (m := s.map) (i := head) (by rw [h.map_size]; exact hhl)
  have r := swapRemoveResult_removed h.inv hh ha hq hm
  exact ⟨_, e, by rw [swapRemove_eval h.inv hh ha hq, hm], r.entryAt_pos hh, r.wf h hh, r.size, r.ticks,
    r.entryAt h hh, r.lookup h⟩

/-! ## `remove` -/

/-- the store `remove(item)` computes, with `i` the slot of the item, `pos = qp[i]`, `a = heap[size-1]`, `q = qp[size-1]` -/
def removeResult (s : Store P) (i pos a q : Nat) (m' : IMap P) : Store P :=
  { s with
    map := m'
    heap :=
      if i < s.size - 1 then
        ((s.heap.setIfInBounds pos a).pop).setIfInBounds (if q = s.size - 1 then pos else q) i
      else (s.heap.setIfInBounds pos a).pop
    qp :=
      if pos < s.size - 1 then
        ((s.qp.setIfInBounds i q).pop).setIfInBounds (if a = s.size - 1 then i else a) pos
      else (s.qp.setIfInBounds i q).pop
    size := s.size - 1 }

theorem removeResult_heap_size {s : Store P} (hs : s.heap.size = s.size) (i pos a q : Nat) (m' : IMap P) :
    (removeResult s i pos a q m').heap.size = s.size - 1 := by
  unfold removeResult; dsimp only; split <;> simp [hs]

theorem removeResult_qp_size {s : Store P} (qs : s.qp.size = s.size) (i pos a q : Nat) (m' : IMap P) :
    (removeResult s i pos a q m').qp.size = s.size - 1 := by
  unfold removeResult; dsimp only; split <;> simp [qs]

theorem remove_eval {s : Store P} {k i pos a q : Nat} {e : Item × P} {m' : IMap P} (h : InvTables s.heap s.qp s.size)
    (hf : s.map.swapRemoveFull k = some (i, e, m')) (hi : s.qp[i]? = some pos) (ha : s.heap[s.size - 1]? = some a)
    (hq : s.qp[s.size - 1]? = some q) :
    s.remove k = .ok (removeResult s i pos a q m', some (e.1, e.2, pos)) := by
  have hs := h.size_left; have qs := h.size_right
  have hpl := (h.symm.lt hi).2
  have hal := (h.lt ha).2
  have hql := (h.symm.lt hq).2
  have hil := (h.symm.lt hi).1
  have e1 : decC s.size 118 = .ok (s.size - 1) := decC_eq_ok_iff.2 ⟨by omega, rfl⟩
  have e2 : swapRemoveC s.qp i 119 = .ok (pos, (s.qp.setIfInBounds i q).pop) :=
    swapRemoveC_eq_ok_iff.2 ⟨q, hi, by rw [back?_eq, qs]; exact hq, rfl⟩
  have e3 : swapRemoveC s.heap pos 120 = .ok (i, (s.heap.setIfInBounds pos a).pop) :=
    swapRemoveC_eq_ok_iff.2 ⟨a, h.iff.2 hi, by rw [back?_eq, hs]; exact ha, rfl⟩
  unfold remove removeResult
  simp only [hf, e1, e2, e3, bind, Except.bind, pure, Except.pure]
  have hqaL := (h.last_iff ha hq).symm
  have hLi : i = s.size - 1 → pos = q := fun hc => by rw [hc, hq] at hi; exact (Option.some.inj hi).symm
  have hLp : pos = s.size - 1 → i = a := fun hc => by
    have := h.iff.2 hi; rw [hc, ha] at this; exact (Option.some.inj this).symm
  have hqp : i < s.size - 1 → q ≠ pos := by
    intro hiL hc; subst hc
    have := h.iff.2 hi; rw [h.iff.2 hq] at this; have := Option.some.inj this; omega
  have hil' : s.size - 1 ≤ i → s.size - 1 = i := by omega
  have haL1 : a ≠ s.size - 1 → a < s.size - 1 := by omega
  have haL2 : a ≠ s.size - 1 → q < s.size - 1 := by omega
  by_cases hiL : i < s.size - 1 <;> by_cases hpL : pos < s.size - 1 <;> by_cases haL : a = s.size - 1
  -- three of the eight combinations cannot occur
  any_goals omega
  all_goals
    simp [hiL, hpL, haL, hqaL, getU, setU, Array.getElem?_pop, Array.getElem?_setIfInBounds, hs, qs, hqp, haL1, haL2, hil']

theorem removeResult_removed {s : Store P} {i pos a q : Nat} {e : Item × P} {m' : IMap P}
    (h : InvTables s.heap s.qp s.size) (hi : s.qp[i]? = some pos) (ha : s.heap[s.size - 1]? = some a)
    (hq : s.qp[s.size - 1]? = some q) (hm : s.map.swapRemoveIndex i = some (e, m')) :
    Removed s (removeResult s i pos a q m') pos i e :=
  ⟨rfl, rfl, removeResult_heap_size h.size_left .., removeResult_qp_size h.size_right ..,
    fun _ => h.swapPop_rename (h.iff.2 hi) ha hq, fun _ => h.symm.swapPop_rename hi hq ha, hm⟩

theorem removeResult_inv {s : Store P} {i pos a q : Nat} (h : InvTables s.heap s.qp s.size) (hi : s.qp[i]? = some pos)
    (ha : s.heap[s.size - 1]? = some a) (hq : s.qp[s.size - 1]? = some q) (m' : IMap P) :
    InvTables (removeResult s i pos a q m').heap (removeResult s i pos a q m').qp (s.size - 1) :=
  h.of_removed (h.iff.2 hi) (removeResult_heap_size h.size_left ..) (removeResult_qp_size h.size_right ..)
    (fun _ => h.swapPop_rename (h.iff.2 hi) ha hq) fun _ => h.symm.swapPop_rename hi hq ha

/-- **`Store::remove(item)`** of a stored key: succeeds, returns the stored entry and its heap position, keeps the
store well-formed; the effect on positions and on the map is that of `swap_remove` at that position. -/
theorem remove_spec_some {s : Store P} {k : Nat} {e : Item × P} (h : s.WF) (hl : IMap.lookup s.map k = some e) :
    ∃ s' pos, s.remove k = .ok (s', some (e.1, e.2, pos)) ∧ pos < s.size ∧ s.entryAt pos = some e ∧ s'.WF ∧
      s'.size = s.size - 1 ∧ s'.ticks = s.ticks ∧
      (∀ p, p < s.size - 1 → s'.entryAt p = s.entryAt (if p = pos then s.size - 1 else p)) ∧
      (∀ k', IMap.lookup s'.map k' = if k' = k then none else IMap.lookup s.map k') := by
  obtain ⟨i, hfi, hei⟩ := IMap.lookup_eq_some_iff_find?.1 hl
  have hil : i < s.size := by have := lt_size_of_getElem? hei; rw [h.map_size] at this; exact this
  obtain ⟨e', l, he', _, hm⟩ := IMap.swapRemoveIndex_of_lt (m := s.map) (i := i) (by rw [h.map_size]; exact hil)
  rw [hei] at he'; cases he'
  have hf := IMap.swapRemoveFull_eq_some_iff.2 ⟨hfi, hm⟩
  obtain ⟨pos, hi, hpl⟩ := h.qp_some hil
  obtain ⟨a, ha, _⟩ := h.heap_some (show s.size - 1 < s.size by omega)
  obtain ⟨q, hq, _⟩ := h.qp_some (show s.size - 1 < s.size by omega)
  have hh := h.heap_of_qp hi
  have r := removeResult_removed h.inv hi ha hq hm
  refine ⟨_, pos, remove_eval h.inv hf hi ha hq, hpl, r.entryAt_pos hh, r.wf h hh, r.size, r.ticks,
    r.entryAt h hh, ?_⟩
  intro k'
  rw [r.lookup h, IMap.lookup_key hl]

/-- `remove` of an absent key does nothing -/
theorem remove_spec_none {s : Store P} {k : Nat} (hl : IMap.lookup s.map k = none) : s.remove k = .ok (s, none) := by
  unfold remove
  rw [IMap.swapRemoveFull_eq_none_iff.2 (IMap.lookup_eq_none_iff_find?.1 hl)]
  rfl

/-! ## Replacing the entry of a slot by one with the same key -/

/-- `s` with the map entry of slot `i` replaced -/
def setEntry (s : Store P) (i : Nat) (e' : Item × P) : Store P := { s with map := s.map.setIfInBounds i e' }

@[simp] theorem setEntry_heap (s : Store P) (i : Nat) (e' : Item × P) : (s.setEntry i e').heap = s.heap := rfl
@[simp] theorem setEntry_qp (s : Store P) (i : Nat) (e' : Item × P) : (s.setEntry i e').qp = s.qp := rfl
@[simp] theorem setEntry_size (s : Store P) (i : Nat) (e' : Item × P) : (s.setEntry i e').size = s.size := rfl
@[simp] theorem setEntry_ticks (s : Store P) (i : Nat) (e' : Item × P) : (s.setEntry i e').ticks = s.ticks := rfl
@[simp] theorem setEntry_map (s : Store P) (i : Nat) (e' : Item × P) :
    (s.setEntry i e').map = s.map.setIfInBounds i e' := rfl

theorem setEntry_TWF {s : Store P} {n i : Nat} {e e' : Item × P} (h : s.TWF n) (he : s.map[i]? = some e)
    (hk : e'.1.key = e.1.key) : (s.setEntry i e').TWF n :=
  ⟨by simp [h.map_size], h.heap_size, h.qp_size, h.heap_qp, h.qp_heap, h.nodup.setIfInBounds he hk⟩

/-- replacing the entry in the slot of heap position `pos` by one with the same key: tables untouched,
well-formedness kept, only position `pos` / only that key see the new entry -/
theorem setEntry_spec {s : Store P} {n pos i : Nat} {e e' : Item × P} (h : s.TWF n) (hh : s.heap[pos]? = some i)
    (he : s.map[i]? = some e) (hk : e'.1.key = e.1.key) :
    (s.setEntry i e').TWF n ∧
      (∀ q, (s.setEntry i e').entryAt q = if q = pos then some e' else s.entryAt q) ∧
      (∀ k, IMap.lookup (s.setEntry i e').map k = if k = e.1.key then some e' else IMap.lookup s.map k) := by
  refine ⟨setEntry_TWF h he hk, ?_, ?_⟩
  · intro q
    have hi := lt_size_of_getElem? he
    unfold entryAt
    simp only [setEntry_heap, setEntry_map]
    by_cases hq : q = pos
    · subst hq; rw [hh]; simp [Array.getElem?_setIfInBounds, hi]
    · rw [if_neg hq]
      cases hj : s.heap[q]? with
      | none => rfl
      | some j =>
        have : i ≠ j := fun hc => hq (h.heap_inj (hc ▸ hj) hh)
        simp [Array.getElem?_setIfInBounds, this]
  · intro k
    exact IMap.lookup_setIfInBounds h.nodup he hk k

/-- the slot and heap position of a stored key -/
theorem lookup_slot_pos {s : Store P} {k : Nat} {e : Item × P} (h : s.WF) (hl : IMap.lookup s.map k = some e) :
    ∃ i pos, IMap.getFull s.map k = some (i, e.1, e.2) ∧ s.map[i]? = some e ∧ s.qp[i]? = some pos ∧
      s.heap[pos]? = some i ∧ pos < s.size ∧ s.entryAt pos = some e := by
  obtain ⟨i, hfi, hei⟩ := IMap.lookup_eq_some_iff_find?.1 hl
  have hil : i < s.size := by have := lt_size_of_getElem? hei; rw [h.map_size] at this; exact this
  obtain ⟨pos, hi, hpl⟩ := h.qp_some hil
  have hh := h.heap_of_qp hi
  exact ⟨i, pos, IMap.getFull_eq_some_iff.2 ⟨hfi, hei⟩, hei, hi, hh, hpl, by simp [entryAt, hh, hei]⟩

/-! ## `change_priority`, `change_priority_by`, `get_mut`, `get`, `get_priority` -/

theorem changePriority_spec_some {s : Store P} {k : Nat} {e : Item × P} (h : s.WF)
    (hl : IMap.lookup s.map k = some e) (p : P) :
    ∃ s' pos, s.changePriority k p = .ok (s', some (e.2, pos)) ∧ pos < s.size ∧ s.entryAt pos = some e ∧ s'.WF ∧
      s'.size = s.size ∧ s'.heap = s.heap ∧ s'.qp = s.qp ∧ s'.ticks = s.ticks ∧
      (∀ q, s'.entryAt q = if q = pos then some (e.1, p) else s.entryAt q) ∧
      (∀ k', IMap.lookup s'.map k' = if k' = k then some (e.1, p) else IMap.lookup s.map k') := by
  obtain ⟨i, pos, hg, hei, hi, hh, hpl, hep⟩ := lookup_slot_pos h hl
  obtain ⟨h1, h2, h3⟩ := setEntry_spec (e' := (e.1, p)) h hh hei rfl
  refine ⟨s.setEntry i (e.1, p), pos, ?_, hpl, hep, h1, rfl, rfl, rfl, rfl, h2, ?_⟩
  · unfold changePriority
    rw [hg]
    simp only [getU_ok hi, bind, Except.bind, pure, Except.pure, IMap.setPrio_of_getElem? hei]
    rfl
  · intro k'; rw [h3, IMap.lookup_key hl]

theorem changePriority_spec_none {s : Store P} {k : Nat} (hl : IMap.lookup s.map k = none) (p : P) :
    s.changePriority k p = .ok (s, none) := by
  unfold changePriority
  rw [IMap.getFull_eq_none_iff.2 (IMap.lookup_eq_none_iff_find?.1 hl)]
  rfl

theorem changePriorityBy_spec_some {s : Store P} {k : Nat} {e : Item × P} (h : s.WF)
    (hl : IMap.lookup s.map k = some e) (setter : P → P) :
    ∃ s' pos, s.changePriorityBy k setter = .ok (s', some pos) ∧ pos < s.size ∧ s.entryAt pos = some e ∧ s'.WF ∧
      s'.size = s.size ∧ s'.heap = s.heap ∧ s'.qp = s.qp ∧ s'.ticks = s.ticks ∧
      (∀ q, s'.entryAt q = if q = pos then some (e.1, setter e.2) else s.entryAt q) ∧
      (∀ k', IMap.lookup s'.map k' = if k' = k then some (e.1, setter e.2) else IMap.lookup s.map k') := by
  obtain ⟨i, pos, hg, hei, hi, hh, hpl, hep⟩ := lookup_slot_pos h hl
  obtain ⟨h1, h2, h3⟩ := setEntry_spec (e' := (e.1, setter e.2)) h hh hei rfl
  refine ⟨s.setEntry i (e.1, setter e.2), pos, ?_, hpl, hep, h1, rfl, rfl, rfl, rfl, h2, ?_⟩
  · unfold changePriorityBy
    rw [hg]
    simp only [getU_ok hi, bind, Except.bind, pure, Except.pure, IMap.setPrio_of_getElem? hei]
    rfl
  · intro k'; rw [h3, IMap.lookup_key hl]

theorem changePriorityBy_spec_none {s : Store P} {k : Nat} (hl : IMap.lookup s.map k = none) (setter : P → P) :
    s.changePriorityBy k setter = .ok (s, none) := by
  unfold changePriorityBy
  rw [IMap.getFull_eq_none_iff.2 (IMap.lookup_eq_none_iff_find?.1 hl)]
  rfl

/-- `get_mut` followed by a write that keeps the key (it is only required of the stored item) -/
theorem getMutWrite_spec_some {s : Store P} {k : Nat} {e : Item × P} (h : s.WF)
    (hl : IMap.lookup s.map k = some e) (w : Item → Item) (hw : (w e.1).key = e.1.key) :
    ∃ s' pos, s.getMutWrite k w = (s', some e) ∧ pos < s.size ∧ s.entryAt pos = some e ∧ s'.WF ∧
      s'.size = s.size ∧ s'.heap = s.heap ∧ s'.qp = s.qp ∧ s'.ticks = s.ticks ∧
      (∀ q, s'.entryAt q = if q = pos then some (w e.1, e.2) else s.entryAt q) ∧
      (∀ k', IMap.lookup s'.map k' = if k' = k then some (w e.1, e.2) else IMap.lookup s.map k') := by
  obtain ⟨i, pos, hg, hei, hi, hh, hpl, hep⟩ := lookup_slot_pos h hl
  obtain ⟨h1, h2, h3⟩ := setEntry_spec (e' := (w e.1, e.2)) h hh hei hw
  refine ⟨s.setEntry i (w e.1, e.2), pos, ?_, hpl, hep, h1, rfl, rfl, rfl, rfl, h2, ?_⟩
  · unfold getMutWrite
    rw [hg]
    simp only [IMap.setItem_of_getElem? hei]
    rfl
  · intro k'; rw [h3, IMap.lookup_key hl]

theorem getMutWrite_spec_none {s : Store P} {k : Nat} (hl : IMap.lookup s.map k = none) (w : Item → Item) :
    s.getMutWrite k w = (s, none) := by
  unfold getMutWrite
  rw [IMap.getFull_eq_none_iff.2 (IMap.lookup_eq_none_iff_find?.1 hl)]

theorem get_eq_lookup (s : Store P) (k : Nat) : s.get k = IMap.lookup s.map k :=
  IMap.getFull_map_eq_lookup s.map k

theorem getPriority_eq_lookup (s : Store P) (k : Nat) : s.getPriority k = (IMap.lookup s.map k).map (·.2) := by
  rw [← IMap.getFull_map_eq_lookup, Option.map_map]; rfl

/-! ## `swap_remove_if` -/

theorem swapRemoveIf_eval {s : Store P} {pos i : Nat} {e : Item × P} (f : Item → P → Bool × Item × P)
    (hh : s.heap[pos]? = some i) (he : s.map[i]? = some e) :
    s.swapRemoveIf pos f =
      if (f e.1 e.2).1 = true then (s.setEntry i ((f e.1 e.2).2.1, (f e.1 e.2).2.2)).swapRemove pos
      else .ok (s.setEntry i ((f e.1 e.2).2.1, (f e.1 e.2).2.2), none) := by
  unfold swapRemoveIf
  have e2 : unwrapO (s.map.getIndex i) 115 = .ok e := unwrapO_eq_ok_iff.2 he
  simp only [getU_ok hh, e2, bind, Except.bind, pure, Except.pure]
  rfl

/-- **`Store::swap_remove_if(pos, f)`** with a key-preserving callback: the entry `e` at `pos` is first rewritten to
`e' = ((f e).2.1, (f e).2.2)`.  If `f` says *remove*, the result is that of `swap_remove(pos)` and `e'` is returned;
otherwise only the entry at `pos` changed. -/
theorem swapRemoveIf_spec {s : Store P} {pos : Nat} (f : Item → P → Bool × Item × P) (h : s.WF) (hp : pos < s.size)
    (hf : ∀ it p, (f it p).2.1.key = it.key) :
    ∃ e, s.entryAt pos = some e ∧
      ((f e.1 e.2).1 = true →
        ∃ s', s.swapRemoveIf pos f = .ok (s', some ((f e.1 e.2).2.1, (f e.1 e.2).2.2)) ∧ s'.WF ∧
          s'.size = s.size - 1 ∧ s'.ticks = s.ticks ∧
          (∀ p, p < s.size - 1 → s'.entryAt p = s.entryAt (if p = pos then s.size - 1 else p)) ∧
          (∀ k, IMap.lookup s'.map k = if k = e.1.key then none else IMap.lookup s.map k)) ∧
      ((f e.1 e.2).1 = false →
        ∃ s1, s.swapRemoveIf pos f = .ok (s1, none) ∧ s1.WF ∧ s1.size = s.size ∧ s1.heap = s.heap ∧ s1.qp = s.qp ∧
          s1.ticks = s.ticks ∧
          (∀ p, s1.entryAt p = if p = pos then some ((f e.1 e.2).2.1, (f e.1 e.2).2.2) else s.entryAt p) ∧
          (∀ k, IMap.lookup s1.map k =
            if k = e.1.key then some ((f e.1 e.2).2.1, (f e.1 e.2).2.2) else IMap.lookup s.map k)) := by
  obtain ⟨i, hh, hil⟩ := h.heap_some hp
  obtain ⟨e, he⟩ := h.map_some hil
  have hep : s.entryAt pos = some e := by simp [entryAt, hh, he]
  obtain ⟨h1, h2, h3⟩ := setEntry_spec (e' := ((f e.1 e.2).2.1, (f e.1 e.2).2.2)) h hh he (hf _ _)
  refine ⟨e, hep, ?_, ?_⟩
  · intro hr
    have h1' : (s.setEntry i ((f e.1 e.2).2.1, (f e.1 e.2).2.2)).WF := h1
    obtain ⟨s', e'', g1, g2, g3, g4, g5, g6, g7⟩ := swapRemove_spec h1' (pos := pos) hp
    rw [h2, if_pos rfl] at g2
    cases g2
    simp only [setEntry_size, setEntry_ticks] at g4 g5 g6
    refine ⟨s', ?_, g3, g4, g5, ?_, ?_⟩
    · rw [swapRemoveIf_eval f hh he, if_pos hr]; exact g1
    · intro p hpL
      rw [g6 p hpL, h2, if_neg]
      split <;> omega
    · intro k
      rw [g7 k, h3]
      simp only [hf]
      split <;> rfl
  · intro hr
    refine ⟨_, ?_, h1, rfl, rfl, rfl, rfl, h2, h3⟩
    rw [swapRemoveIf_eval f hh he, if_neg (by simp [hr])]

/-! ## Membership: every stored entry sits at exactly one heap position -/

theorem entryAt_mem {s : Store P} {p : Nat} {e : Item × P} (he : s.entryAt p = some e) : s.Mem e := by
  unfold entryAt at he
  split at he
  · exact ⟨_, he⟩
  · cases he

theorem mem_entryAt {s : Store P} {e : Item × P} (h : s.WF) (hm : s.Mem e) :
    ∃ p, p < s.size ∧ s.entryAt p = some e := by
  obtain ⟨i, hi⟩ := hm
  have hil : i < s.size := by have := lt_size_of_getElem? hi; rw [h.map_size] at this; exact this
  obtain ⟨p, hp, hpl⟩ := h.qp_some hil
  exact ⟨p, hpl, by simp [entryAt, h.heap_of_qp hp, hi]⟩

theorem mem_iff_entryAt {s : Store P} {e : Item × P} (h : s.WF) :
    s.Mem e ↔ ∃ p, p < s.size ∧ s.entryAt p = some e :=
  ⟨mem_entryAt h, fun ⟨_, _, hp⟩ => entryAt_mem hp⟩

theorem mem_iff_lookup {s : Store P} {e : Item × P} (h : s.WF) :
    s.Mem e ↔ IMap.lookup s.map e.1.key = some e := by
  rw [IMap.lookup_eq_some_iff h.nodup]
  exact ⟨fun ⟨i, hi⟩ => ⟨i, hi, rfl⟩, fun ⟨i, hi, _⟩ => ⟨i, hi⟩⟩

/-- `lookup` read through the heap positions -/
theorem lookup_eq_some_iff_entryAt {s : Store P} {k : Nat} {e : Item × P} (h : s.WF) :
    IMap.lookup s.map k = some e ↔ ∃ p, p < s.size ∧ s.entryAt p = some e ∧ e.1.key = k := by
  constructor
  · intro hl
    obtain ⟨_, pos, _, _, _, _, hpl, hep⟩ := lookup_slot_pos h hl
    exact ⟨pos, hpl, hep, IMap.lookup_key hl⟩
  · rintro ⟨p, _, hp, rfl⟩
    exact (mem_iff_lookup h).1 (entryAt_mem hp)

/-- distinct positions hold distinct keys -/
theorem entryAt_key_inj {s : Store P} {p q : Nat} {a b : Item × P} (h : s.WF) (ha : s.entryAt p = some a)
    (hb : s.entryAt q = some b) (hk : a.1.key = b.1.key) : p = q := by
  unfold entryAt at ha hb
  cases hi : s.heap[p]? with
  | none => rw [hi] at ha; cases ha
  | some i =>
    cases hj : s.heap[q]? with
    | none => rw [hj] at hb; cases hb
    | some j =>
      rw [hi] at ha; rw [hj] at hb
      have := h.nodup i j a b ha hb hk
      subst this
      exact h.heap_inj hi hj

/-! ## Decidability of `TWF` (for concrete examples) -/

theorem TWF_iff_check {s : Store P} {n : Nat} :
    s.TWF n ↔ s.map.size = n ∧ s.heap.size = n ∧ s.qp.size = n ∧
      (∀ p, p < n → (s.heap[p]?).bind (fun i => s.qp[i]?) = some p) ∧
      (∀ i, i < n → (s.qp[i]?).bind (fun p => s.heap[p]?) = some i) ∧ s.map.NoDupKeys := by
  constructor
  · intro h
    refine ⟨h.map_size, h.heap_size, h.qp_size, ?_, ?_, h.nodup⟩
    · intro p hp; obtain ⟨i, h1, h2⟩ := h.heap_qp p hp; simp [h1, h2]
    · intro i hi; obtain ⟨p, h1, h2⟩ := h.qp_heap i hi; simp [h1, h2]
  · rintro ⟨h1, h2, h3, h4, h5, h6⟩
    refine ⟨h1, h2, h3, ?_, ?_, h6⟩
    · intro p hp; obtain ⟨i, hi, hi'⟩ := Option.bind_eq_some_iff.1 (h4 p hp); exact ⟨i, hi, hi'⟩
    · intro i hi; obtain ⟨p, hp, hp'⟩ := Option.bind_eq_some_iff.1 (h5 i hi); exact ⟨p, hp, hp'⟩

instance (s : Store P) (n : Nat) : Decidable (s.TWF n) := decidable_of_iff _ TWF_iff_check.symm
instance (s : Store P) : Decidable s.WF := inferInstanceAs (Decidable (s.TWF s.size))

/-! ## Non-vacuity: the hypotheses above hold of a concrete store, and the operations do what the specs say -/
section Examples

/-- four entries; the last slot (3) is not at the last position, the last position holds slot 2 -/
private def ex4 : Store Nat :=
  { map := #[(⟨1, 10⟩, 5), (⟨2, 20⟩, 7), (⟨3, 30⟩, 6), (⟨4, 40⟩, 1)], heap := #[1, 3, 0, 2], qp := #[2, 0, 3, 1], size := 4 }

private def ex1 : Store Nat := { map := #[(⟨1, 10⟩, 5)], heap := #[0], qp := #[0], size := 1 }

private def okStore {α : Type} (r : R (Store Nat × α)) (map : IMap Nat) (heap qp : Array Nat) (size : Nat) (x : α) : Prop :=
  match r with
  | .ok (s', y) => s'.map = map ∧ s'.heap = heap ∧ s'.qp = qp ∧ s'.size = size ∧ y = x
  | .error _ => False

private instance {α : Type} [DecidableEq α] (r : R (Store Nat × α)) (map : IMap Nat) (heap qp : Array Nat) (size : Nat)
    (x : α) : Decidable (okStore r map heap qp size x) := by
  unfold okStore; split <;> infer_instance

example : ex4.WF ∧ 1 < ex4.size := by decide
example : ex1.WF ∧ 0 < ex1.size := by decide
-- `swap_remove(1)`: slot 3 (the last slot) leaves, slot 2 (at the last position) moves to position 1
example : okStore (ex4.swapRemove 1) #[(⟨1, 10⟩, 5), (⟨2, 20⟩, 7), (⟨3, 30⟩, 6)] #[1, 2, 0] #[2, 0, 1] 3
    (some (⟨4, 40⟩, 1)) := by decide +kernel
-- `swap_remove(0)`: slot 1 leaves, last slot 3 is renamed 1, last position (slot 2) moves to position 0
example : okStore (ex4.swapRemove 0) #[(⟨1, 10⟩, 5), (⟨4, 40⟩, 1), (⟨3, 30⟩, 6)] #[2, 1, 0] #[2, 1, 0] 3
    (some (⟨2, 20⟩, 7)) := by decide +kernel
example : okStore (ex1.swapRemove 0) #[] #[] #[] 0 (some (⟨1, 10⟩, 5)) := by decide +kernel
example : IMap.lookup ex4.map 2 = some (⟨2, 20⟩, 7) ∧ IMap.lookup ex4.map 9 = none := by decide
example : okStore (ex4.remove 2) #[(⟨1, 10⟩, 5), (⟨4, 40⟩, 1), (⟨3, 30⟩, 6)] #[2, 1, 0] #[2, 1, 0] 3
    (some (⟨2, 20⟩, 7, 0)) := by decide +kernel
example : okStore (ex4.remove 9) ex4.map ex4.heap ex4.qp 4 none := by decide +kernel
example : okStore (ex4.changePriority 2 100) #[(⟨1, 10⟩, 5), (⟨2, 20⟩, 100), (⟨3, 30⟩, 6), (⟨4, 40⟩, 1)]
    ex4.heap ex4.qp 4 (some (7, 0)) := by decide +kernel
example : okStore (ex4.changePriorityBy 2 (· + 1)) #[(⟨1, 10⟩, 5), (⟨2, 20⟩, 8), (⟨3, 30⟩, 6), (⟨4, 40⟩, 1)]
    ex4.heap ex4.qp 4 (some 0) := by decide +kernel
example : (ex4.getMutWrite 2 (fun it => ⟨it.key, 99⟩)).2 = some (⟨2, 20⟩, 7) ∧
    (ex4.getMutWrite 2 (fun it => ⟨it.key, 99⟩)).1.map = #[(⟨1, 10⟩, 5), (⟨2, 99⟩, 7), (⟨3, 30⟩, 6), (⟨4, 40⟩, 1)] := by
  decide +kernel
-- a key-preserving callback for `swap_remove_if`, both answers
example : ∀ (it : Item) (p : Nat), ((fun (it : Item) (p : Nat) => (p == 7, (⟨it.key, 99⟩ : Item), p + 1)) it p).2.1.key = it.key :=
  fun _ _ => rfl
example : okStore (ex4.swapRemoveIf 0 (fun it p => (p == 7, ⟨it.key, 99⟩, p + 1)))
    #[(⟨1, 10⟩, 5), (⟨4, 40⟩, 1), (⟨3, 30⟩, 6)] #[2, 1, 0] #[2, 1, 0] 3 (some (⟨2, 99⟩, 8)) := by decide +kernel
example : okStore (ex4.swapRemoveIf 1 (fun it p => (p == 7, ⟨it.key, 99⟩, p + 1)))
    #[(⟨1, 10⟩, 5), (⟨2, 20⟩, 7), (⟨3, 30⟩, 6), (⟨4, 99⟩, 2)] ex4.heap ex4.qp 4 none := by decide +kernel
example : ex4.entryAt 1 = some (⟨4, 40⟩, 1) ∧ ex4.Mem (⟨4, 40⟩, 1) := ⟨by decide, 3, by decide⟩

end Examples

end Store
end PQ
