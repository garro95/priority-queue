import PQ.Model.SortedIter
import PQ.Props.C06
import PQ.Props.C13
/-!
# The sorted iterators with their `len` / `size_hint` (all names carry the prefix `sit_`)

`PQ/Model/SortedIter.lean` models `IntoSortedIter` of both queue kinds as machines over the store they own, with the
informational calls `len` / `size_hint` next to the advancing calls `next` / `next_back`.  This file proves

* for the `DoublePriorityQueue` iterator on ANY well-formed store (no order hypothesis) and EVERY call list: the run
  returns; every `len` answer is the number of elements still held (= the original length minus the number of entries
  handed out before it), every `size_hint` answer is `(that number, Some(that number))` — lower = upper = `len` at every
  step, which is what std's `ExactSizeIterator` adaptors assert —; the `item` answers are exactly the answers of
  `DQ.sortedCalls` on the call list projected onto its advancing calls, so everything `C13_sorted_dpq_any_wf` (and, with
  the order invariant, `C06_dpq_deque`) says transfers; after an `item none` every later advancing call answers
  `item none` (`FusedIterator`);
* for the `PriorityQueue` iterator: `size_hint` is always `(0, None)`, `len` / `next_back` are not offered, and the `item`
  answers are those of repeated `MaxQ.pop` (`bp_popCalls`), so `C06_pq_sorted_iter` / `C13_sorted_pq_any_wf` transfer.
-/
set_option linter.unusedSectionVars false
namespace PQ
open Store

/-- the advancing calls of a call list, in the alphabet of `DQ.sortedCalls` (`next ↦ false`, `next_back ↦ true`);
`len` and `size_hint` are dropped -/
def sit_adv : List ICall → List Bool
  | [] => []
  | .next :: cs => false :: sit_adv cs
  | .nextBack :: cs => true :: sit_adv cs
  | .len :: cs => sit_adv cs
  | .sizeHint :: cs => sit_adv cs

def sit_items {P : Type} : List (SOut P) → List (Option (Item × P))
  | [] => []
  | .item r :: os => r :: sit_items os
  | .len _ :: os => sit_items os
  | .hint _ _ :: os => sit_items os
  | .unsupported :: os => sit_items os

def sit_handed {P : Type} : List (SOut P) → Nat
  | [] => 0
  | .item (some _) :: os => sit_handed os + 1
  | .item none :: os => sit_handed os
  | .len _ :: os => sit_handed os
  | .hint _ _ :: os => sit_handed os
  | .unsupported :: os => sit_handed os

def sit_shapeD {P : Type} : ICall → SOut P → Prop
  | .next, .item _ => True
  | .nextBack, .item _ => True
  | .len, .len _ => True
  | .sizeHint, .hint _ _ => True
  | _, _ => False

def sit_shapeP {P : Type} : ICall → SOut P → Prop
  | .next, .item _ => True
  | .nextBack, .unsupported => True
  | .len, .unsupported => True
  | .sizeHint, .hint 0 none => True
  | _, _ => False

theorem sit_handed_eq {P : Type} (outs : List (SOut P)) :
    sit_handed outs = ((sit_items outs).filterMap id).length := by
  fun_induction sit_handed outs <;> simp_all [sit_items]

theorem sit_adv_length (calls : List ICall) : (sit_adv calls).length = PQ.adv calls := by
  fun_induction sit_adv calls <;> simp_all [PQ.adv] <;> omega

variable {P : Type} [LT P] [DecidableLT P]

theorem sit_run_cons_ok {kind : Kind} {c : ICall} {cs : List ICall} {s s1 s2 : Store P} {o : SOut P}
    {rest : List (SOut P)} (h1 : sortedStep kind s c = .ok (s1, o)) (h2 : sortedRun kind cs s1 = .ok (rest, s2)) :
    sortedRun kind (c :: cs) s = .ok (o :: rest, s2) :=
  (bind_of_ok h1 _).trans (bind_of_ok h2 _)

theorem sit_run_cons_inv {kind : Kind} {c : ICall} {cs : List ICall} {s s2 : Store P} {outs : List (SOut P)}
    (h : sortedRun kind (c :: cs) s = .ok (outs, s2)) :
    ∃ s1 o rest, sortedStep kind s c = .ok (s1, o) ∧ sortedRun kind cs s1 = .ok (rest, s2) ∧ outs = o :: rest := by
  obtain ⟨⟨s1, o⟩, h1, h⟩ := bind_eq_ok.1 h
  obtain ⟨⟨rest, s2'⟩, h2, h⟩ := bind_eq_ok.1 h
  obtain ⟨rfl, rfl⟩ := Prod.mk.inj (pure_eq_ok.1 h)
  exact ⟨s1, o, rest, h1, h2, rfl⟩

theorem sit_run_append {kind : Kind} (a : List ICall) : ∀ (b : List ICall) (s s1 s2 : Store P) (o1 o2 : List (SOut P)),
    sortedRun kind a s = .ok (o1, s1) → sortedRun kind b s1 = .ok (o2, s2) →
    sortedRun kind (a ++ b) s = .ok (o1 ++ o2, s2) := by
  induction a with
  | nil =>
    intro b s s1 s2 o1 o2 h1 h2
    simp only [sortedRun, pure, Except.pure, Except.ok.injEq, Prod.mk.injEq] at h1
    obtain ⟨rfl, rfl⟩ := h1
    simpa using h2
  | cons c cs ih =>
    intro b s s1 s2 o1 o2 h1 h2
    obtain ⟨sa, o, rest, hstep, hrest, rfl⟩ := sit_run_cons_inv h1
    exact sit_run_cons_ok hstep (ih b sa s1 s2 rest o2 hrest h2)

theorem sit_getElem?_of_length_eq {α β : Type} {l : List α} {l' : List β} (hl : l.length = l'.length) {j : Nat} {a : α}
    (h : l[j]? = some a) : ∃ b, l'[j]? = some b :=
  ⟨_, List.getElem?_eq_getElem (hl ▸ (List.getElem?_eq_some_iff.1 h).1)⟩

theorem sit_handed_cons {P : Type} (o : SOut P) (l : List (SOut P)) :
    sit_handed (o :: l) = sit_handed [o] + sit_handed l := by
  cases o with
  | item r => cases r <;> simp [sit_handed] <;> omega
  | _ => simp [sit_handed]

theorem sit_handed_take_mono {P : Type} : ∀ (outs : List (SOut P)) {j j' : Nat}, j ≤ j' →
    sit_handed (outs.take j) ≤ sit_handed (outs.take j')
  | [], _, _, _ => by simp
  | _ :: _, 0, _, _ => Nat.zero_le _
  | _ :: _, _ + 1, 0, h => by omega
  | o :: t, j + 1, j' + 1, h => by
    rw [List.take_succ_cons, List.take_succ_cons, sit_handed_cons o, sit_handed_cons o (t.take j')]
    have := sit_handed_take_mono t (Nat.le_of_succ_le_succ h)
    omega

variable [LE P] [Std.IsLinearPreorder P] [Std.LawfulOrderLT P]

/-- `o` is what the call `c` answers on a `DoublePriorityQueue` sorted iterator holding `n` elements -/
def sit_answerD {P : Type} (n : Nat) : ICall → SOut P → Prop
  | .next, .item r => r = none ↔ n = 0
  | .nextBack, .item r => r = none ↔ n = 0
  | .len, .len k => k = n
  | .sizeHint, .hint lo hi => lo = n ∧ hi = some n
  | _, _ => False

theorem sit_answerD.shape {P : Type} {n : Nat} {c : ICall} {o : SOut P} (h : sit_answerD n c o) : sit_shapeD c o := by
  cases c <;> cases o <;> first | trivial | exact (h : False).elim

theorem sit_answerD.len {P : Type} {n k : Nat} {c : ICall} (h : sit_answerD n c (.len k : SOut P)) : k = n := by
  cases c <;> first | exact h | exact (h : False).elim

theorem sit_answerD.hint {P : Type} {n lo : Nat} {hi : Option Nat} {c : ICall}
    (h : sit_answerD n c (.hint lo hi : SOut P)) : lo = n ∧ hi = some lo := by
  cases c <;> first | exact ⟨h.1, h.1 ▸ h.2⟩ | exact (h : False).elim

theorem sit_answerD.item {P : Type} {n : Nat} {r : Option (Item × P)} {c : ICall} (h : sit_answerD n c (.item r)) :
    r = none ↔ n = 0 := by
  cases c <;> first | exact h | exact (h : False).elim

theorem sit_dpq_pop {s : Store P} (h : s.WF) (b : Bool) :
    ∃ s1 r, (if b = true then DQ.popMax s else DQ.popMin s) = .ok (s1, r) ∧ s1.WF ∧
      s1.size + sit_handed [.item r] = s.size ∧ (r = none ↔ s.size = 0) := by
  obtain ⟨h0, h1⟩ := DQ.sortedStep_core h b
  rcases Nat.eq_zero_or_pos s.size with hz | hpos
  · exact ⟨s, none, h0 hz, h, rfl, iff_of_true rfl hz⟩
  · obtain ⟨s1, e, hrun, _, hwf, _, hsz, _⟩ := h1 hpos
    exact ⟨s1, some e, hrun, hwf, by simp only [sit_handed]; omega, iff_of_false nofun (by omega)⟩

/-- that the advancing calls are `pop_min` / `pop_max` is stated in the form the run induction consumes: the `item` answers
of a run continue those of `DQ.sortedCalls` on the advancing calls -/
theorem sit_dpq_step {s : Store P} (h : s.WF) (c : ICall) :
    ∃ s1 o, sortedStep .dpq s c = .ok (s1, o) ∧ s1.WF ∧ s1.size + sit_handed [o] = s.size ∧ sit_answerD s.size c o ∧
      ∀ cs rest s', DQ.sortedCalls (sit_adv cs) s1 = .ok (sit_items rest, s') →
        DQ.sortedCalls (sit_adv (c :: cs)) s = .ok (sit_items (o :: rest), s') := by
  cases c with
  | len => exact ⟨s, .len s.size, rfl, h, rfl, rfl, fun _ _ _ hp => hp⟩
  | sizeHint => exact ⟨s, .hint s.size (some s.size), rfl, h, rfl, ⟨rfl, rfl⟩, fun _ _ _ hp => hp⟩
  | next =>
    obtain ⟨s1, r, hp, hwf, hsz, hr⟩ := sit_dpq_pop h false
    exact ⟨s1, .item r, bind_of_ok hp _, hwf, hsz, hr, fun _ _ _ => DQ.sortedCalls_cons_ok hp⟩
  | nextBack =>
    obtain ⟨s1, r, hp, hwf, hsz, hr⟩ := sit_dpq_pop h true
    exact ⟨s1, .item r, bind_of_ok hp _, hwf, hsz, hr, fun _ _ _ => DQ.sortedCalls_cons_ok hp⟩

theorem sit_dpq_run (calls : List ICall) : ∀ {s : Store P}, s.WF →
    ∃ outs s', sortedRun .dpq calls s = .ok (outs, s') ∧ s'.WF ∧ outs.length = calls.length ∧
      s'.size + sit_handed outs = s.size ∧ DQ.sortedCalls (sit_adv calls) s = .ok (sit_items outs, s') ∧
      ∀ (j : Nat) c o, calls[j]? = some c → outs[j]? = some o →
        ∃ n, n + sit_handed (outs.take j) = s.size ∧ sit_answerD n c o := by
  induction calls with
  | nil => exact fun {s} h => ⟨[], s, rfl, h, rfl, rfl, rfl, nofun⟩
  | cons c cs ih =>
    intro s h
    obtain ⟨s1, o, hstep, hwf1, hsz1, ha, hproj1⟩ := sit_dpq_step h c
    obtain ⟨rest, s', hrun, hwf', hl, hsz', hproj, hat⟩ := ih hwf1
    refine ⟨o :: rest, s', sit_run_cons_ok hstep hrun, hwf', by simp [hl], by rw [sit_handed_cons]; omega,
      hproj1 _ _ _ hproj, fun j c' o' hc ho => ?_⟩
    cases j with
    | zero =>
      simp only [List.getElem?_cons_zero, Option.some.injEq] at hc ho
      subst hc ho
      exact ⟨s.size, rfl, ha⟩
    | succ j =>
      obtain ⟨n, hn, ha'⟩ := hat j c' o' (by simpa using hc) (by simpa using ho)
      exact ⟨n, by rw [List.take_succ_cons, sit_handed_cons]; omega, ha'⟩

/-- **`DoublePriorityQueue::into_sorted_iter()` with `len` / `size_hint`, on ANY well-formed queue** (no order hypothesis),
for EVERY list of calls `next` / `next_back` / `len` / `size_hint`, calls after exhaustion included.  The run never faults.
With `outs` the answers and `s'` the queue the iterator holds afterwards (`sit_handed l` = number of entries handed out in `l`):

* every call gets an answer of its own shape (`next` / `next_back` an `Option` entry, `len` a number, `size_hint` a pair);
* the `item` answers are exactly the answers of `DQ.sortedCalls` on the advancing calls (`sit_adv calls`) and the queue held
  afterwards is the same: the informational calls change nothing, so every fact about `DQ.sortedCalls` transfers;
* every `len` answer is the number of elements still held: the original length minus the number of entries handed out before it;
* every `size_hint` answer is `(that number, Some(that number))`: lower bound = upper bound = `len`;
* an advancing call answers `None` exactly when everything has been handed out;
* `FusedIterator`: after an `item none` every later advancing call answers `item none`;
* afterwards a well-formed queue of `len - (entries handed out)` elements is held. -/
theorem sit_dpq_exact {s : Store P} (h : s.WF) (calls : List ICall) :
    ∃ outs s', sortedRun .dpq calls s = .ok (outs, s') ∧ s'.WF ∧ outs.length = calls.length ∧
      (∀ (j : Nat) c, calls[j]? = some c → ∃ o, outs[j]? = some o ∧ sit_shapeD c o) ∧
      DQ.sortedCalls (sit_adv calls) s = .ok (sit_items outs, s') ∧
      (∀ (j : Nat) n, outs[j]? = some (.len n) → n = s.size - sit_handed (outs.take j)) ∧
      (∀ (j : Nat) lo hi, outs[j]? = some (.hint lo hi) → lo = s.size - sit_handed (outs.take j) ∧ hi = some lo) ∧
      (∀ (j : Nat) r, outs[j]? = some (.item r) → (r = none ↔ s.size - sit_handed (outs.take j) = 0)) ∧
      (∀ (j j' : Nat) r, j ≤ j' → outs[j]? = some (.item none) → outs[j']? = some (.item r) → r = none) ∧
      s'.size = s.size - sit_handed outs ∧ sit_handed outs = min s.size (PQ.adv calls) := by
  obtain ⟨outs, s', hrun, hwf, hl, hsz, hproj, hat⟩ := sit_dpq_run calls h
  have hat' : ∀ {j : Nat} {o}, outs[j]? = some o →
      ∃ c n, n + sit_handed (outs.take j) = s.size ∧ sit_answerD n c o :=
    fun hj => (sit_getElem?_of_length_eq hl hj).elim fun c hc => ⟨c, hat _ c _ hc hj⟩
  refine ⟨outs, s', hrun, hwf, hl, fun j c hj => ?_, hproj, fun j n hj => ?_, fun j lo hi hj => ?_, fun j r hj => ?_,
    fun j j' r hjj hj hj' => ?_, by omega, ?_⟩
  · obtain ⟨o, ho⟩ := sit_getElem?_of_length_eq hl.symm hj
    obtain ⟨_, _, ha⟩ := hat j c o hj ho
    exact ⟨o, ho, ha.shape⟩
  · obtain ⟨_, k, hk, ha⟩ := hat' hj
    have := ha.len
    omega
  · obtain ⟨_, k, hk, ha⟩ := hat' hj
    exact ⟨by have := ha.hint.1; omega, ha.hint.2⟩
  · obtain ⟨_, k, hk, ha⟩ := hat' hj
    rw [ha.item]
    omega
  · obtain ⟨_, k, hk, ha⟩ := hat' hj
    obtain ⟨_, k', hk', ha'⟩ := hat' hj'
    have h0 := ha.item.1 rfl
    have := sit_handed_take_mono outs hjj
    exact ha'.item.2 (by omega)
  · obtain ⟨o2, s2, hr2, _, hl2, hsz2, _, _⟩ := DQ.sortedCalls_safe h (sit_adv calls)
    rw [hproj] at hr2
    simp only [Except.ok.injEq, Prod.mk.injEq] at hr2
    obtain ⟨_, rfl⟩ := hr2
    rw [sit_adv_length] at hsz2
    omega

/-- every element once, from both ends, `len` and `size_hint` exact in between, then `None` forever — on the queue `swf_exU`
that is well-formed but ordered neither as a max-heap nor as a min-max heap -/
example : swf_exU.WF ∧ ¬ swf_exU.MinMaxHeap ∧ bp_okR
    (sortedRun .dpq [.len, .next, .sizeHint, .nextBack, .len, .next, .next, .next, .len, .next, .sizeHint, .nextBack] swf_exU)
    (fun r => r.1 = [.len 5, .item (some (⟨1, 10⟩, 3)), .hint 4 (some 4), .item (some (⟨2, 20⟩, 9)), .len 3,
      .item (some (⟨3, 30⟩, 1)), .item (some (⟨4, 40⟩, 5)), .item (some (⟨5, 50⟩, 7)), .len 0, .item none,
      .hint 0 (some 0), .item none] ∧ r.2.size = 0) :=
  ⟨swf_exU_wf, swf_exU_not_minMaxHeap, by decide +kernel⟩

/-- **lower = upper = `len` at every step.**  After ANY list of calls on the sorted iterator of a well-formed
`DoublePriorityQueue`, `size_hint()` immediately followed by `len()` answer `(n, Some(n))` and `n` with the same `n`, the
number of elements then held (original length minus entries handed out) — the agreement std's `ExactSizeIterator`
adaptors (`len`'s default body, `Rev`, `Enumerate::next_back`, `Zip`) `assert_eq!` on -/
theorem sit_dpq_hint_eq_len {s : Store P} (h : s.WF) (pre : List ICall) :
    ∃ outs s', sortedRun .dpq pre s = .ok (outs, s') ∧
      sortedRun .dpq (pre ++ [.sizeHint, .len]) s =
        .ok (outs ++ [.hint s'.size (some s'.size), .len s'.size], s') ∧
      s'.size = s.size - sit_handed outs := by
  obtain ⟨outs, s', hrun, _, _, hsz, _⟩ := sit_dpq_run pre h
  exact ⟨outs, s', hrun, sit_run_append pre _ s s' s' outs _ hrun rfl, by omega⟩

example : bp_okR (sortedRun .dpq ([.next, .nextBack, .len, .next] ++ [.sizeHint, .len]) swf_exU)
    (fun r => r.1.drop 4 = [.hint 2 (some 2), .len 2]) := by decide +kernel

/-- **everything `C13_sorted_dpq_any_wf` says transfers to the iterator with `len` / `size_hint`**: on any well-formed
queue the entries handed out (through any interleaving of the four calls) have pairwise distinct items, each was stored and is
no longer held, and together with the entries still held they are a permutation of the entries stored at the start -/
theorem sit_dpq_once {s : Store P} (h : s.WF) (calls : List ICall) :
    ∃ outs s', sortedRun .dpq calls s = .ok (outs, s') ∧ s'.WF ∧
      (((sit_items outs).filterMap id).map (·.1.key)).Nodup ∧
      (∀ e, some e ∈ sit_items outs → s.Mem e ∧ ¬ s'.Mem e) ∧
      (((sit_items outs).filterMap id) ++ s'.map.toList).Perm s.map.toList := by
  obtain ⟨outs, s', hrun, hwf, _, _, hproj, _⟩ := sit_dpq_run calls h
  obtain ⟨o2, s2, hr2, _, _, hnd, hmem, hperm, _⟩ := C13_sorted_dpq_any_wf h (sit_adv calls)
  rw [hproj] at hr2
  simp only [Except.ok.injEq, Prod.mk.injEq] at hr2
  obtain ⟨rfl, rfl⟩ := hr2
  exact ⟨outs, s', hrun, hwf, hnd, hmem, hperm⟩

/-- **… and with the order invariant everything `C06_dpq_deque` says transfers**: each `next` answers a minimum and each
`next_back` a maximum of what is held at that moment (`SortedRun ExtremeQ` over the advancing calls), and the queue held
afterwards is correctly ordered -/
theorem sit_dpq_sorted {s : Store P} (h : DQ.Inv s) (calls : List ICall) :
    ∃ outs s', sortedRun .dpq calls s = .ok (outs, s') ∧ DQ.Inv s' ∧
      DQ.SortedRun DQ.ExtremeQ s.abs (sit_adv calls) (sit_items outs) s'.abs := by
  obtain ⟨outs, s', hrun, hwf, _, _, hproj, _⟩ := sit_dpq_run calls h.1
  obtain ⟨o2, s2, hr2, hinv, _, _, _, hsr, _⟩ := C06_dpq_deque h (sit_adv calls)
  rw [hproj] at hr2
  simp only [Except.ok.injEq, Prod.mk.injEq] at hr2
  obtain ⟨rfl, rfl⟩ := hr2
  exact ⟨outs, s', hrun, hinv, hsr⟩

example : DQ.Inv DQ.exQ ∧ bp_okR (sortedRun .dpq [.len, .next, .sizeHint, .nextBack, .len, .next] DQ.exQ)
    (fun r => r.1 = [.len 8, .item (some (⟨4, 0⟩, 10)), .hint 7 (some 7), .item (some (⟨8, 0⟩, 80)), .len 6,
      .item (some (⟨2, 0⟩, 20))] ∧ r.2.size = 5) := ⟨DQ.exQ_inv, by decide +kernel⟩

theorem sit_shapeP_hint {c : ICall} {lo : Nat} {hi : Option Nat} (h : sit_shapeP c (.hint lo hi : SOut P)) :
    c = .sizeHint ∧ lo = 0 ∧ hi = none := by
  cases c <;> cases lo <;> cases hi <;> first | exact ⟨rfl, rfl, rfl⟩ | exact (h : False).elim

theorem sit_shapeP_len {c : ICall} {n : Nat} (h : sit_shapeP c (.len n : SOut P)) : False := by
  cases c <;> exact h

theorem sit_shapeP_unsupported {c : ICall} {o : SOut P} (hc : c = .nextBack ∨ c = .len) (h : sit_shapeP c o) :
    o = .unsupported := by
  rcases hc with rfl | rfl <;> cases o <;> first | rfl | exact (h : False).elim

/-- that `next` is `pop` and the other calls change nothing is stated in the form the run induction consumes: the `item`
answers of a run continue those of as many `pop`s as the run has `next` calls -/
theorem sit_pq_step {s : Store P} (h : s.WF) (c : ICall) :
    ∃ s1 o, sortedStep .pq s c = .ok (s1, o) ∧ s1.WF ∧ sit_shapeP c o ∧
      ∀ cs rest s', bp_popCalls (cs.count .next) s1 = .ok (sit_items rest, s') →
        bp_popCalls ((c :: cs).count .next) s = .ok (sit_items (o :: rest), s') := by
  cases c with
  | len => exact ⟨s, .unsupported, rfl, h, trivial, fun _ _ _ hp => hp⟩
  | sizeHint => exact ⟨s, .hint 0 none, rfl, h, trivial, fun _ _ _ hp => hp⟩
  | nextBack => exact ⟨s, .unsupported, rfl, h, trivial, fun _ _ _ hp => hp⟩
  | next =>
    obtain ⟨s1, r, hp, hwf⟩ : ∃ s1 r, MaxQ.pop s = .ok (s1, r) ∧ s1.WF := by
      obtain ⟨h0, h1⟩ := MaxQ.pop_safe h
      rcases Nat.eq_zero_or_pos s.size with hz | hpos
      · exact ⟨s, none, h0 hz, h⟩
      · obtain ⟨s1, e, hrun, _, hwf, _⟩ := h1 hpos
        exact ⟨s1, some e, hrun, hwf⟩
    refine ⟨s1, .item r, bind_of_ok hp _, hwf, trivial, fun cs rest s' hr => ?_⟩
    rw [List.count_cons_self]
    exact (bind_of_ok hp _).trans (bind_of_ok hr _)

theorem sit_pq_run (calls : List ICall) : ∀ {s : Store P}, s.WF →
    ∃ outs s', sortedRun .pq calls s = .ok (outs, s') ∧ s'.WF ∧ outs.length = calls.length ∧
      bp_popCalls (calls.count .next) s = .ok (sit_items outs, s') ∧
      ∀ (j : Nat) c o, calls[j]? = some c → outs[j]? = some o → sit_shapeP c o := by
  induction calls with
  | nil => exact fun {s} h => ⟨[], s, rfl, h, rfl, rfl, nofun⟩
  | cons c cs ih =>
    intro s h
    obtain ⟨s1, o, hstep, hwf1, hs, hproj1⟩ := sit_pq_step h c
    obtain ⟨rest, s', hrun, hwf', hl, hproj, hat⟩ := ih hwf1
    refine ⟨o :: rest, s', sit_run_cons_ok hstep hrun, hwf', by simp [hl], hproj1 _ _ _ hproj,
      fun j c' o' hc ho => ?_⟩
    cases j with
    | zero =>
      simp only [List.getElem?_cons_zero, Option.some.injEq] at hc ho
      subst hc ho
      exact hs
    | succ j => exact hat j c' o' (by simpa using hc) (by simpa using ho)

/-- **`PriorityQueue::into_sorted_iter()`, on ANY well-formed queue**, for EVERY list of calls.  The run never faults;
`next_back` and `len` are not offered (`.unsupported`: `IntoSortedIter` of `PriorityQueue` implements neither
`DoubleEndedIterator` nor `ExactSizeIterator`); every `size_hint` answer is `(0, None)` (the default body of
`Iterator::size_hint`: correct, never exact, so no `ExactSizeIterator` contract can be violated); the `item` answers are
exactly the answers of that many repeated `pop`s (`bp_popCalls`), and the queue held afterwards is the same -/
theorem sit_pq_exact {s : Store P} (h : s.WF) (calls : List ICall) :
    ∃ outs s', sortedRun .pq calls s = .ok (outs, s') ∧ s'.WF ∧ outs.length = calls.length ∧
      (∀ (j : Nat) c, calls[j]? = some c → ∃ o, outs[j]? = some o ∧ sit_shapeP c o) ∧
      bp_popCalls (calls.count .next) s = .ok (sit_items outs, s') ∧
      (∀ (j : Nat) lo hi, outs[j]? = some (.hint lo hi) → lo = 0 ∧ hi = none) ∧
      (∀ (j : Nat) n, outs[j]? ≠ some (.len n)) ∧
      (∀ (j : Nat), calls[j]? = some .nextBack ∨ calls[j]? = some .len → outs[j]? = some .unsupported) := by
  obtain ⟨outs, s', hrun, hwf, hl, hproj, hat⟩ := sit_pq_run calls h
  have hsh : ∀ (j : Nat) c, calls[j]? = some c → ∃ o, outs[j]? = some o ∧ sit_shapeP c o := by
    intro j c hj
    obtain ⟨o, ho⟩ := sit_getElem?_of_length_eq hl.symm hj
    exact ⟨o, ho, hat j c o hj ho⟩
  refine ⟨outs, s', hrun, hwf, hl, hsh, hproj, fun j lo hi hj => ?_, fun j n hj => ?_, fun j hj => ?_⟩
  · obtain ⟨c, hc⟩ := sit_getElem?_of_length_eq hl hj
    exact (sit_shapeP_hint (hat j c _ hc hj)).2
  · obtain ⟨c, hc⟩ := sit_getElem?_of_length_eq hl hj
    exact sit_shapeP_len (hat j c _ hc hj)
  · obtain ⟨c, hc, hcj⟩ : ∃ c, (c = .nextBack ∨ c = .len) ∧ calls[j]? = some c := by
      rcases hj with hj | hj
      · exact ⟨_, .inl rfl, hj⟩
      · exact ⟨_, .inr rfl, hj⟩
    obtain ⟨o, ho, hs⟩ := hsh j c hcj
    rw [ho, sit_shapeP_unsupported hc hs]

/-- on the unordered `swf_exU`: every element once, `size_hint` is `(0, None)` throughout, `len` / `next_back` not offered -/
example : swf_exU.WF ∧ ¬ MaxQ.Inv swf_exU ∧ bp_okR
    (sortedRun .pq [.len, .next, .sizeHint, .nextBack, .next, .next, .next, .next, .sizeHint, .next, .next] swf_exU)
    (fun r => r.1 = [.unsupported, .item (some (⟨1, 10⟩, 3)), .hint 0 none, .unsupported, .item (some (⟨2, 20⟩, 9)),
      .item (some (⟨5, 50⟩, 7)), .item (some (⟨4, 40⟩, 5)), .item (some (⟨3, 30⟩, 1)), .hint 0 none, .item none,
      .item none] ∧ r.2.size = 0) := by decide +kernel

/-- **the entries the `PriorityQueue` sorted iterator hands out**, whatever informational calls are interleaved: with `l`
the vector `into_sorted_vec` would give (a permutation of the stored entries; non-increasing when the queue is correctly
ordered — `C06_pq_sorted_iter`) and `n` the number of `next` calls, the `item` answers are the first `n` elements of `l` and
then `None` forever; `len - n` elements are held afterwards -/
theorem sit_pq_items {s : Store P} (h : s.WF) (calls : List ICall) :
    ∃ l outs s', MaxQ.intoSortedVec s = .ok l ∧ l.Perm s.map.toList ∧ sortedRun .pq calls s = .ok (outs, s') ∧
      sit_items outs = (l.take (calls.count .next)).map some ++ List.replicate (calls.count .next - l.length) none ∧
      s'.size = s.size - calls.count .next ∧ (MaxQ.Inv s → l.Pairwise (fun a b => ¬ a.2 < b.2) ∧ MaxQ.Inv s') := by
  obtain ⟨outs, s', hrun, _, _, hproj, _⟩ := sit_pq_run calls h
  obtain ⟨l, hl, hall⟩ := swf_pq_sorted_iter h
  obtain ⟨l', hl', hperm, _⟩ := swf_pq_sorted_vec h
  rw [hl] at hl'; cases hl'
  obtain ⟨s2, hr2, _, hsz, _⟩ := hall (calls.count .next)
  rw [hproj] at hr2
  simp only [Except.ok.injEq, Prod.mk.injEq] at hr2
  obtain ⟨hit, rfl⟩ := hr2
  refine ⟨l, outs, s', hl, hperm, hrun, hit, hsz, fun hinv => ?_⟩
  obtain ⟨l2, hl2, _, hsorted, hall2⟩ := C06_pq_sorted_iter hinv
  rw [hl] at hl2; cases hl2
  obtain ⟨s3, hr3, hinv3, _⟩ := hall2 (calls.count .next)
  rw [hproj] at hr3
  simp only [Except.ok.injEq, Prod.mk.injEq] at hr3
  obtain ⟨_, rfl⟩ := hr3
  exact ⟨hsorted, hinv3⟩

example : MaxQ.Inv bp_exP ∧ bp_okR (sortedRun .pq [.sizeHint, .next, .next, .len] bp_exP)
    (fun r => r.1 = [.hint 0 none, .item (some (⟨2, 20⟩, 9)), .item (some (⟨3, 30⟩, 7)), .unsupported] ∧
      r.2.size = 3) := by decide +kernel

end PQ

#print axioms PQ.sit_dpq_exact
#print axioms PQ.sit_dpq_hint_eq_len
#print axioms PQ.sit_dpq_once
#print axioms PQ.sit_dpq_sorted
#print axioms PQ.sit_pq_exact
#print axioms PQ.sit_pq_items
