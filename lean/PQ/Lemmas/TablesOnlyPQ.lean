import PQ.Lemmas.TablesOnly
/-!
# The tables-only invariant: `PriorityQueue` (binary max-heap) — every procedure and every public operation

`TO.SafeR post r` (see `TablesOnly.lean`): `r` is `.ok` with `post`, or the ordinary panic `unwrapNone`.  No order law is
used anywhere: priorities are compared with an arbitrary decidable `<`.  The sifting procedures are followed on
`TO.Kept s₀ n` (map and `size` of `s₀`, tables rearranged); the public operations are stated on `Store.TablesOnlyWF`.
-/
set_option linter.unusedSectionVars false
namespace PQ
namespace TO
namespace MaxQ
open PQ.MaxQ PQ.Arith
variable {P : Type} [LT P] [DecidableLT P]

/-- what the sifting procedures leave alone -/
def Frame (s s' : Store P) : Prop := s'.map = s.map ∧ s'.size = s.size

theorem pickLargest_to {s₀ s : Store P} {n i : Nat} (h : Kept s₀ n s) (hz : s₀.size = n) (hi : i < n) :
    SafeR (fun r => Kept s₀ n r.1 ∧ r.2 < n ∧ i ≤ r.2) (pickLargest s i) := by
  have hs : s.size = n := h.2.2.trans hz
  unfold pickLargest
  refine SafeR.bind (h.prioAt hi) fun ip _ => ?_
  refine SafeR.ite (fun hl => ?_) fun _ => SafeR.pure ⟨h, hi, Nat.le_refl _⟩
  refine SafeR.bind (h.prioAt (hs ▸ hl)) fun childp _ => ?_
  have h1 : (if ip < childp then left i else i) < n ∧ i ≤ (if ip < childp then left i else i) :=
    ite_pick (Q := fun L => L < n ∧ i ≤ L) (fun _ => ⟨hs ▸ hl, by simp only [left]; omega⟩) fun _ => ⟨hi, Nat.le_refl _⟩
  refine SafeR.ite (fun hr => ?_) fun _ => SafeR.pure ⟨h.tick, h1⟩
  refine SafeR.bind (h.tick.prioAt (hs ▸ hr)) fun rp _ => ?_
  exact SafeR.pure ⟨h.tick.tick,
    ite_pick (Q := fun L => L < n ∧ i ≤ L) (fun _ => ⟨hs ▸ hr, by simp only [right]; omega⟩) fun _ => h1⟩

theorem heapifyLoop_to {s₀ : Store P} {n : Nat} (hz : s₀.size = n) (fuel : Nat) : ∀ (s : Store P) (i : Nat),
    Kept s₀ n s → i < n → n - i ≤ fuel → SafeR (Kept s₀ n) (heapifyLoop fuel s i) := by
  induction fuel with
  | zero => intro s i _ hi hf; omega
  | succ fuel ih =>
    intro s i h hi hf
    unfold heapifyLoop
    refine SafeR.bind (pickLargest_to h hz hi) fun r hr => ?_
    obtain ⟨s1, L⟩ := r
    have hiL : i ≤ L := hr.2.2
    refine SafeR.ite (fun _ => SafeR.pure hr.1) fun hne => ?_
    exact SafeR.bind (hr.1.swap hi hr.2.1) fun s2 h2 => ih s2 L h2 hr.2.1 (by omega)

theorem heapify_sift {s₀ s : Store P} {n i : Nat} (h : Kept s₀ n s) (hz : s₀.size = n) (hi : i < n) :
    SafeR (Kept s₀ n) (heapify s i) :=
  SafeR.ite (fun _ => SafeR.pure h) fun _ => heapifyLoop_to hz s.size s i h hi (by rw [h.2.2, hz]; omega)

theorem bubbleUpLoop_to {s₀ : Store P} {n idx : Nat} (v : P) (fuel : Nat) : ∀ (s : Store P) (hole : Nat),
    HKept s₀ n idx (s, hole) → hole < fuel → SafeR (HKept s₀ n idx) (bubbleUpLoop fuel s hole v) := by
  induction fuel with
  | zero => intro s hole _ hf; omega
  | succ fuel ih =>
    intro s hole h hf
    unfold bubbleUpLoop
    refine SafeR.ite (fun h0 => ?_) fun _ => SafeR.pure h
    have hlt : parent hole < hole := by simp only [parent]; omega
    have hppn : parent hole < n := Nat.lt_trans hlt h.1.hole_lt
    refine SafeR.bind (h.prioAt hppn) fun pp _ => ?_
    refine SafeR.ite (fun _ => ?_) fun _ => SafeR.pure h.tick
    refine SafeR.bind (h.tick.getHeap hppn 201) fun pi hpi => ?_
    exact h.tick.move hppn (Nat.ne_of_lt hlt) hpi 202 203 (k := fun s' => bubbleUpLoop fuel s' (parent hole) v)
      fun _ hs' => ih _ _ hs' (by omega)

/-- `bubble_up(i, idx)` with `heap[i] = idx` -/
theorem bubbleUp_to {s₀ s : Store P} {n i idx : Nat} (h : Kept s₀ n s) (hi : s.heap[i]? = some idx) :
    SafeR (fun r => Kept s₀ n r.1 ∧ r.2 < n) (bubbleUp s i idx) := by
  unfold bubbleUp
  refine SafeR.bind (unwrapO_to _ 204) fun e _ => ?_
  refine SafeR.bind (bubbleUpLoop_to e.2 (i + 1) s i (h.toHole hi) (Nat.lt_succ_self _)) fun r hr => ?_
  obtain ⟨s1, pos⟩ := r
  exact hr.fill 205 206

theorem upHeapify_sift {s₀ s : Store P} {n i : Nat} (h : Kept s₀ n s) (hz : s₀.size = n) (hi : i < n) :
    SafeR (Kept s₀ n) (upHeapify s i) := by
  unfold upHeapify
  refine SafeR.bind (h.getHeap hi 207) fun tmp htmp => ?_
  refine SafeR.bind (bubbleUp_to h htmp) fun r hr => ?_
  obtain ⟨s1, pos⟩ := r
  exact heapify_sift hr.1 hz hr.2

theorem heapBuildLoop_to {s₀ : Store P} {n : Nat} (hz : s₀.size = n) : ∀ (k : Nat) (s : Store P), Kept s₀ n s → k < n →
    SafeR (Kept s₀ n) (heapBuildLoop s k) := by
  intro k
  induction k with
  | zero => intro s h hk; exact heapify_sift h hz hk
  | succ k ih =>
    intro s h hk
    unfold heapBuildLoop
    exact SafeR.bind (heapify_sift h hz hk) fun s1 h1 => ih s1 h1 (by omega)

/-! ## the sifts on a tables-only state -/

theorem heapify_to {s : Store P} {i : Nat} (h : s.TablesOnlyWF) (hi : i < s.size) :
    SafeR Store.TablesOnlyWF (heapify s i) :=
  SafeR.mono (heapify_sift (Kept.of_towf h) rfl hi) fun _ hs => hs.towf rfl h.map_le

theorem upHeapify_to {s : Store P} {i : Nat} (h : s.TablesOnlyWF) (hi : i < s.size) :
    SafeR Store.TablesOnlyWF (upHeapify s i) :=
  SafeR.mono (upHeapify_sift (Kept.of_towf h) rfl hi) fun _ hs => hs.towf rfl h.map_le

theorem heapBuild_to {s : Store P} (h : s.TablesOnlyWF) : SafeR Store.TablesOnlyWF (heapBuild s) := by
  refine SafeR.ite (fun _ => SafeR.pure h) fun h0 => ?_
  · unfold parentC
    rw [if_neg h0]
    exact SafeR.mono (heapBuildLoop_to rfl (parent s.size) s (Kept.of_towf h) (by simp only [parent]; omega))
      fun _ hs => hs.towf rfl h.map_le

/-! ## the public operations -/

theorem peekMutWrite_to {s : Store P} (h : s.TablesOnlyWF) (w : Item → Item) :
    SafeR (fun r => r.1.TablesOnlyWF) (peekMutWrite s w) :=
  SafeR.ite (fun _ => SafeR.pure h) fun h0 => peekWrite_to h (Nat.pos_of_ne_zero h0) 209 w

theorem pop_to {s : Store P} (h : s.TablesOnlyWF) : SafeR (fun r => r.1.TablesOnlyWF) (pop s) := by
  unfold pop
  rcases hz : s.size with _ | _ | k
  · exact SafeR.pure h
  · exact SafeR.mono (swapRemove_to h (by omega)) fun _ hr => hr.1
  · refine SafeR.bind (swapRemove_to h (by omega)) fun r hr => ?_
    obtain ⟨s1, e⟩ := r
    have hz1 : s1.size = s.size - 1 := hr.2
    exact SafeR.bind (heapify_to hr.1 (by omega)) fun _ h2 => SafeR.pure h2

theorem popIf_to {s : Store P} (h : s.TablesOnlyWF) (f : Item → P → Bool × Item × P) :
    SafeR (fun r => r.1.TablesOnlyWF) (popIf s f) := by
  unfold popIf
  rcases hz : s.size with _ | _ | k
  · exact SafeR.pure h
  · exact SafeR.mono (swapRemoveIf_to f h (by omega)) fun _ hr => hr.1
  · refine SafeR.bind (swapRemoveIf_to f h (by omega)) fun r hr => ?_
    obtain ⟨s1, e⟩ := r
    have hz1 : s.size - 1 ≤ s1.size := hr.2
    exact SafeR.bind (heapify_to hr.1 (by omega)) fun _ h2 => SafeR.pure h2

theorem push_to {s : Store P} (h : s.TablesOnlyWF) (it : Item) (p : P) :
    SafeR (fun r => r.1.TablesOnlyWF) (push s it p) := by
  unfold push
  rcases IMap.insertFull_cases s.map it p with ⟨i, e, hf, he, hk, hins⟩ | ⟨hf, hins⟩
  · rw [hins]
    have h' := towf_map_update h (m' := s.map.setIfInBounds i (e.1, p)) (Nat.le_of_eq (Array.size_setIfInBounds ..))
    have hi : i < s.qp.size := h.qp_size ▸ Nat.lt_of_lt_of_le (lt_size_of_getElem? he) h.map_le
    refine SafeR.bind (getU_to 210 hi) fun pos hpos => ?_
    exact SafeR.bind (upHeapify_to h' ((towf_iff.1 h).1.qp_lt hpos)) fun _ hs' => SafeR.pure hs'
  · rw [hins]
    refine SafeR.bind (bubbleUp_to (Kept.pushed h (it, p)) (towf_iff.1 h).1.push_last) fun r hr => ?_
    obtain ⟨s1, pos⟩ := r
    exact SafeR.pure (towf_pushed h hr.1)

theorem pushIncrease_to {s : Store P} (h : s.TablesOnlyWF) (it : Item) (p : P) :
    SafeR (fun r => r.1.TablesOnlyWF) (pushIncrease s it p) := by
  unfold pushIncrease
  cases s.getPriority it.key with
  | none => exact push_to h it p
  | some q => exact SafeR.ite (fun _ => push_to (towf_tick h 1) it p) fun _ => SafeR.pure (towf_tick h 1)

theorem pushDecrease_to {s : Store P} (h : s.TablesOnlyWF) (it : Item) (p : P) :
    SafeR (fun r => r.1.TablesOnlyWF) (pushDecrease s it p) := by
  unfold pushDecrease
  cases s.getPriority it.key with
  | none => exact push_to h it p
  | some q => exact SafeR.ite (fun _ => push_to (towf_tick h 1) it p) fun _ => SafeR.pure (towf_tick h 1)

theorem changePriority_to {s : Store P} (h : s.TablesOnlyWF) (k : Nat) (p : P) :
    SafeR (fun r => r.1.TablesOnlyWF) (changePriority s k p) := by
  unfold changePriority
  refine SafeR.bind (TO.changePriority_to h k p) fun r hr => ?_
  obtain ⟨s1, _ | o⟩ := r
  · exact SafeR.pure hr.1
  · exact SafeR.bind (upHeapify_to hr.1 (hr.2 _ _ rfl)) fun _ hs' => SafeR.pure hs'

theorem changePriorityBy_to {s : Store P} (h : s.TablesOnlyWF) (k : Nat) (g : P → P) :
    SafeR (fun r => r.1.TablesOnlyWF) (changePriorityBy s k g) := by
  unfold changePriorityBy
  refine SafeR.bind (TO.changePriorityBy_to h k g) fun r hr => ?_
  obtain ⟨s1, _ | o⟩ := r
  · exact SafeR.pure hr.1
  · exact SafeR.bind (upHeapify_to hr.1 (hr.2 _ rfl)) fun _ hs' => SafeR.pure hs'

theorem remove_to {s : Store P} (h : s.TablesOnlyWF) (k : Nat) :
    SafeR (fun r => r.1.TablesOnlyWF) (remove s k) := by
  unfold remove
  refine SafeR.bind (TO.remove_to h k) fun r hr => ?_
  obtain ⟨s1, _ | o⟩ := r
  · exact SafeR.pure hr
  · exact SafeR.ite (fun hlt => SafeR.bind (upHeapify_to hr hlt) fun _ hs' => SafeR.pure hs') fun _ => SafeR.pure hr

theorem retainMut_to {s : Store P} (h : s.TablesOnlyWF) (f : Item → P → Bool × Item × P) :
    SafeR Store.TablesOnlyWF (retainMut s f) := heapBuild_to (towf_retainMut h f)

theorem append_to {s o : Store P} (h : s.TablesOnlyWF) (ho : o.TablesOnlyWF) :
    SafeR (fun r => r.1.TablesOnlyWF) (append s o) :=
  SafeR.bind (heapBuild_to (towf_append h ho)) fun _ hs' => SafeR.pure hs'

theorem ofStore_to {s : Store P} (h : s.TablesOnlyWF) : SafeR Store.TablesOnlyWF (ofStore s) := heapBuild_to h

theorem pushAll_to (l : List (Item × P)) : ∀ {s : Store P}, s.TablesOnlyWF →
    SafeR Store.TablesOnlyWF (pushAll l s) := by
  induction l with
  | nil => intro s h; exact SafeR.pure h
  | cons e es ih =>
    intro s h
    unfold pushAll
    exact SafeR.bind (push_to h e.1 e.2) fun r hr => ih hr

theorem extend_to {s : Store P} (h : s.TablesOnlyWF) {lo : Nat} (hlo : lo < capLimit) (xs : Array (Item × P)) :
    SafeR Store.TablesOnlyWF (extend s lo xs) := by
  rw [PQ.MaxQ.extend_of_lt xs hlo]
  exact SafeR.ite (fun _ => heapBuild_to (towf_extend h xs)) fun _ => pushAll_to _ h

end MaxQ
end TO
end PQ
