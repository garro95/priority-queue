import PQ.Lemmas.Spec
import PQ.Lemmas.PQOps
import PQ.Lemmas.DQOps
import PQ.Model.Ops
import PQ.Lemmas.IterLemmas
/-!
# Histories: lifting the operation-level theorems to arbitrary finite lists of public operations

* Part (a): `iterMutRun` (the `iter_mut` program runner of `PQ/Model/Ops.lean`) never faults, only rewrites payloads and
  priorities, hands out what the iterator machine of the queue kind hands out (so no slot twice: `PQ/Lemmas/IterLemmas.lean`, the
  content of C09) and leaves in
  slot `j` the entry obtained by applying the write attached to the unique call that yielded `j`.
* Parts (b)–(d): `QWF`, `QInv`; every `step` keeps `QWF` (leaked `iter_mut` guards included) and, leaks excluded, keeps
  `QInv`, and every rebuilding operation re-establishes `QInv` from `QWF` (`hist_step_core`); `run` likewise, by induction
  on the history.
-/
set_option linter.unusedSectionVars false
namespace PQ
open Arith Store

/-! ## (a) `iter_mut` programs -/

section Writes
variable {P : Type}

/-- the effect of a write through a yielded `(&mut I, &mut P)` on the entry: the key cannot be written -/
def IMWrite.apply (w : IMWrite P) (e : Item × P) : Item × P :=
  (match w.payload with | some pl => { e.1 with payload := pl } | none => e.1,
   match w.prio with | some p => p | none => e.2)

theorem hist_apply_key (w : IMWrite P) (e : Item × P) : (w.apply e).1.key = e.1.key := by
  unfold IMWrite.apply
  cases w.payload <;> rfl

theorem hist_applyWrite_eq (m : IMap P) (i : Nat) (w : IMWrite P) :
    IMap.applyWrite m i w = match m[i]? with | some e => m.setIfInBounds i (w.apply e) | none => m := rfl

theorem hist_size_applyWrite (m : IMap P) (i : Nat) (w : IMWrite P) : (IMap.applyWrite m i w).size = m.size := by
  rw [hist_applyWrite_eq]
  split
  · exact Array.size_setIfInBounds ..
  · rfl

theorem hist_getElem?_applyWrite (m : IMap P) (i : Nat) (w : IMWrite P) (j : Nat) :
    (IMap.applyWrite m i w)[j]? = if j = i then (m[j]?).map w.apply else m[j]? := by
  rw [hist_applyWrite_eq]
  cases hi : m[i]? with
  | none =>
    show m[j]? = _
    split
    · subst_vars; rw [hi]; rfl
    · rfl
  | some e =>
    show (m.setIfInBounds i (w.apply e))[j]? = _
    rw [Array.getElem?_setIfInBounds]
    have hil : i < m.size := (Array.getElem?_eq_some_iff.1 hi).1
    by_cases hji : j = i
    · subst hji; rw [if_pos rfl, if_pos rfl, if_pos hil, hi]; rfl
    · rw [if_neg hji, if_neg (fun h => hji h.symm)]

theorem hist_keys_applyWrite (m : IMap P) (i : Nat) (w : IMWrite P) (j : Nat) :
    ((IMap.applyWrite m i w)[j]?).map (fun e : Item × P => e.1.key) = (m[j]?).map (fun e : Item × P => e.1.key) := by
  rw [hist_getElem?_applyWrite]
  split
  · cases m[j]? with
    | none => rfl
    | some e => simp [hist_apply_key]
  · rfl

/-- the writes of a program applied along the outputs of the machine: output `t` (if it is a slot) receives write `t` -/
def hist_applyOuts : List IOut → List (IMWrite P) → IMap P → IMap P
  | o :: os, w :: ws, m =>
    hist_applyOuts os ws (match o with | .slot (some i) => IMap.applyWrite m i w | _ => m)
  | _, _, m => m

theorem hist_size_applyOuts (outs : List IOut) : ∀ (ws : List (IMWrite P)) (m : IMap P),
    (hist_applyOuts outs ws m).size = m.size := by
  induction outs with
  | nil => intro ws m; cases ws <;> rfl
  | cons o os ih =>
    intro ws m
    cases ws with
    | nil => rfl
    | cons w ws =>
      simp only [hist_applyOuts]
      rw [ih]
      split
      · exact hist_size_applyWrite ..
      · rfl

theorem hist_keys_applyOuts (outs : List IOut) : ∀ (ws : List (IMWrite P)) (m : IMap P) (j : Nat),
    ((hist_applyOuts outs ws m)[j]?).map (fun e : Item × P => e.1.key) = (m[j]?).map (fun e : Item × P => e.1.key) := by
  induction outs with
  | nil => intro ws m j; cases ws <;> rfl
  | cons o os ih =>
    intro ws m j
    cases ws with
    | nil => rfl
    | cons w ws =>
      simp only [hist_applyOuts]
      rw [ih]
      split
      · exact hist_keys_applyWrite ..
      · rfl

theorem hist_applyOuts_untouched (outs : List IOut) : ∀ (ws : List (IMWrite P)) (m : IMap P) (j : Nat),
    j ∉ slots outs → (hist_applyOuts outs ws m)[j]? = m[j]? := by
  induction outs with
  | nil => intro ws m j _; cases ws <;> rfl
  | cons o os ih =>
    intro ws m j hj
    cases ws with
    | nil => rfl
    | cons w ws =>
      simp only [hist_applyOuts]
      split
      · next i =>
        have hj' : j ≠ i ∧ j ∉ slots os := by simpa using hj
        rw [ih ws _ j hj'.2, hist_getElem?_applyWrite, if_neg hj'.1]
      · next hne => exact ih ws m j (by rwa [slots.eq_3 _ _ hne] at hj)

theorem hist_mem_slots_of_getElem? {outs : List IOut} {t j : Nat} (h : outs[t]? = some (.slot (some j))) :
    j ∈ slots outs := by
  induction outs generalizing t with
  | nil => simp at h
  | cons o os ih =>
    cases t with
    | zero =>
      simp only [List.getElem?_cons_zero, Option.some.injEq] at h
      subst h; simp
    | succ t =>
      simp only [List.getElem?_cons_succ] at h
      have := ih h
      cases o with
      | slot i => cases i <;> simp [this]
      | len k => simpa using this
      | hint lo hi => simpa using this
      | unsupported => simpa using this

theorem hist_yield_unique {outs : List IOut} (hnd : (slots outs).Nodup) {t t' j : Nat}
    (h : outs[t]? = some (.slot (some j))) (h' : outs[t']? = some (.slot (some j))) : t = t' := by
  induction outs generalizing t t' with
  | nil => simp at h
  | cons o os ih =>
    have hnd' : (slots os).Nodup := by
      cases o with
      | slot i =>
        cases i with
        | none => simpa using hnd
        | some i => exact (List.nodup_cons.1 (by simpa using hnd)).2
      | len k => simpa using hnd
      | hint lo hi => simpa using hnd
      | unsupported => simpa using hnd
    cases t with
    | zero =>
      cases t' with
      | zero => rfl
      | succ t' =>
        simp only [List.getElem?_cons_zero, Option.some.injEq] at h
        simp only [List.getElem?_cons_succ] at h'
        subst h
        have hn : j ∉ slots os := (List.nodup_cons.1 (by simpa using hnd)).1
        exact absurd (hist_mem_slots_of_getElem? h') hn
    | succ t =>
      cases t' with
      | zero =>
        simp only [List.getElem?_cons_zero, Option.some.injEq] at h'
        simp only [List.getElem?_cons_succ] at h
        subst h'
        have hn : j ∉ slots os := (List.nodup_cons.1 (by simpa using hnd)).1
        exact absurd (hist_mem_slots_of_getElem? h) hn
      | succ t' =>
        simp only [List.getElem?_cons_succ] at h h'
        rw [ih hnd' h h']

/-- **final contents**: when no slot is yielded twice, the slot yielded by call `t` holds the old entry with write `t`
applied -/
theorem hist_applyOuts_yielded (outs : List IOut) : ∀ (ws : List (IMWrite P)) (m : IMap P) (t j : Nat) (w : IMWrite P),
    (slots outs).Nodup → outs[t]? = some (.slot (some j)) → ws[t]? = some w →
    (hist_applyOuts outs ws m)[j]? = (m[j]?).map w.apply := by
  induction outs with
  | nil => intro ws m t j w _ h; simp at h
  | cons o os ih =>
    intro ws m t j w hnd ho hw
    cases ws with
    | nil => simp at hw
    | cons w0 ws =>
      simp only [hist_applyOuts]
      cases t with
      | zero =>
        simp only [List.getElem?_cons_zero, Option.some.injEq] at ho hw
        subst ho; subst hw
        have hn : j ∉ slots os := (List.nodup_cons.1 (by simpa using hnd)).1
        rw [hist_applyOuts_untouched os ws _ j hn, hist_getElem?_applyWrite, if_pos rfl]
      | succ t =>
        simp only [List.getElem?_cons_succ] at ho hw
        have hmem := hist_mem_slots_of_getElem? ho
        cases o with
        | slot i =>
          cases i with
          | none => exact ih ws m t j w (by simpa using hnd) ho hw
          | some i =>
            have hc := List.nodup_cons.1 (show (i :: slots os).Nodup by simpa using hnd)
            have hji : j ≠ i := fun h => hc.1 (h ▸ hmem)
            rw [ih ws _ t j w hc.2 ho hw, hist_getElem?_applyWrite, if_neg hji]
        | len k => exact ih ws m t j w (by simpa using hnd) ho hw
        | hint lo hi => exact ih ws m t j w (by simpa using hnd) ho hw
        | unsupported => exact ih ws m t j w (by simpa using hnd) ho hw

end Writes

variable {P : Type} [LT P] [DecidableLT P] [LE P] [Std.IsLinearPreorder P] [Std.LawfulOrderLT P]

/-- `iterMutRun` on a `PriorityQueue`, from ANY machine state: no fault; the outputs are those of `PIterMut.run` on the
calls; the map is the old one with the writes applied along the outputs -/
theorem hist_iterMutRun_pq (n : Nat) (prog : List (ICall × IMWrite P)) : ∀ (pit : PIterMut) (dit : DIterMut) (m : IMap P),
    iterMutRun .pq n prog pit dit m =
      .ok (PIterMut.run n pit (prog.map (·.1)),
           hist_applyOuts (PIterMut.run n pit (prog.map (·.1))) (prog.map (·.2)) m) := by
  induction prog with
  | nil => intro pit dit m; rfl
  | cons cw rest ih =>
    intro pit dit m
    obtain ⟨c, w⟩ := cw
    simp only [iterMutRun, bind, Except.bind, pure, Except.pure, ih, List.map_cons, PIterMut.run_cons, hist_applyOuts]
    rfl

/-- `iterMutRun` on a `DoublePriorityQueue`, from any machine state with `pos ≤ back ≤ n`: no fault; the outputs are
those of the slice cursor (= `DIterMut.run`, see `hist_iterMutRun_dpq_run` below) -/
theorem hist_iterMutRun_dpq (n : Nat) (prog : List (ICall × IMWrite P)) :
    ∀ (pit : PIterMut) (dit : DIterMut) (m : IMap P), dit.pos ≤ dit.back → dit.back ≤ n →
    iterMutRun .dpq n prog pit dit m =
      .ok (Cursor.run dit.toCursor (prog.map (·.1)),
           hist_applyOuts (Cursor.run dit.toCursor (prog.map (·.1))) (prog.map (·.2)) m) := by
  induction prog with
  | nil => intro pit dit m _ _; rfl
  | cons cw rest ih =>
    intro pit dit m h1 h2
    obtain ⟨c, w⟩ := cw
    have hw := DIterMut.cursor_step_wf dit.toCursor n h1 h2 c
    have ih' := ih pit ⟨(dit.toCursor.step c).1.front, (dit.toCursor.step c).1.back⟩
    simp only [iterMutRun, bind, Except.bind, pure, Except.pure, DIterMut.step_eq_cursor n dit h1 h2 c, List.map_cons,
      Cursor.run_cons, hist_applyOuts]
    rw [ih' _ hw.1 hw.2]
    rfl


/-- the same, phrased with the machine's own run: the outputs of the program ARE `DIterMut.run` on its calls, no slot is
yielded twice and every yielded slot lies between the two cursors -/
theorem hist_iterMutRun_dpq_run (n : Nat) (prog : List (ICall × IMWrite P)) (pit : PIterMut) (dit : DIterMut) (m : IMap P)
    (h1 : dit.pos ≤ dit.back) (h2 : dit.back ≤ n) :
    ∃ outs, DIterMut.run n dit (prog.map (·.1)) = .ok outs ∧
      iterMutRun .dpq n prog pit dit m = .ok (outs, hist_applyOuts outs (prog.map (·.2)) m) ∧
      (slots outs).Nodup ∧ ∀ i ∈ slots outs, dit.pos ≤ i ∧ i < dit.back :=
  ⟨_, (DIterMut.run_exec_eq_cursor n dit h1 h2 _).1, hist_iterMutRun_dpq n prog pit dit m h1 h2,
    Cursor.slots_nodup _ _, Cursor.slots_bounds _ _⟩

theorem hist_iterMutRun_pq_nodup (n : Nat) (calls : List ICall) (pit : PIterMut) :
    (slots (PIterMut.run n pit calls)).Nodup ∧ ∀ i ∈ slots (PIterMut.run n pit calls), pit.pos ≤ i ∧ i < n := by
  rw [PIterMut.slots_eq]
  refine ⟨List.nodup_range', fun i hi => ?_⟩
  have := List.mem_range'_1.1 hi
  omega

theorem hist_pIterMut_run_length (n : Nat) (calls : List ICall) : ∀ (it : PIterMut),
    (PIterMut.run n it calls).length = calls.length := by
  induction calls with
  | nil => intro it; rfl
  | cons x xs ih => intro it; simp [PIterMut.run_cons, ih]

/-- **(a), all facts together.**  An `iter_mut` program run on a map `m` with the machine of either queue kind, started
fresh (`n = m.size`): it never faults; the outputs are exactly the machine's outputs on the calls; no slot is yielded
twice and only stored slots are yielded; the map keeps its size and the key of every slot; the slot yielded by
call `t` holds the old entry with write `t` applied, every slot not yielded is unchanged. -/
theorem hist_iterMutRun_spec (kind : Kind) (m : IMap P) (prog : List (ICall × IMWrite P)) :
    ∃ outs m', iterMutRun kind m.size prog PIterMut.new (DIterMut.new m.size) m = .ok (outs, m') ∧
      (match kind with
        | .pq => outs = PIterMut.run m.size PIterMut.new (prog.map (·.1))
        | .dpq => DIterMut.run m.size (DIterMut.new m.size) (prog.map (·.1)) = .ok outs) ∧
      outs.length = prog.length ∧
      (slots outs).Nodup ∧ (∀ i ∈ slots outs, i < m.size) ∧
      m'.size = m.size ∧
      (∀ j : Nat, (m'[j]?).map (fun e : Item × P => e.1.key) = (m[j]?).map (fun e : Item × P => e.1.key)) ∧
      (∀ (t j : Nat) (w : IMWrite P), outs[t]? = some (IOut.slot (some j)) → (prog[t]?).map (·.2) = some w →
        m'[j]? = (m[j]?).map w.apply) ∧
      (∀ j : Nat, j ∉ slots outs → m'[j]? = m[j]?) := by
  cases kind with
  | pq =>
    have hnd := hist_iterMutRun_pq_nodup m.size (prog.map (·.1)) PIterMut.new
    refine ⟨_, _, hist_iterMutRun_pq m.size prog PIterMut.new (DIterMut.new m.size) m, rfl, ?_, hnd.1,
      fun i hi => (hnd.2 i hi).2,
      hist_size_applyOuts _ _ _, hist_keys_applyOuts _ _ _, ?_, fun j hj => hist_applyOuts_untouched _ _ _ j hj⟩
    · rw [hist_pIterMut_run_length, List.length_map]
    · intro t j w ho hw
      exact hist_applyOuts_yielded _ _ m t j w hnd.1 ho (by rw [List.getElem?_map]; exact hw)
  | dpq =>
    have hrun := DIterMut.run_eq_cursor m.size (prog.map (·.1))
    have hnd := Cursor.slots_nodup (DIterMut.new m.size).toCursor (prog.map (·.1))
    have hlt := Cursor.slots_bounds (DIterMut.new m.size).toCursor (prog.map (·.1))
    refine ⟨_, _, hist_iterMutRun_dpq m.size prog PIterMut.new (DIterMut.new m.size) m (Nat.zero_le _) (Nat.le_refl _),
      hrun, ?_, hnd, fun i hi => (hlt i hi).2,
      hist_size_applyOuts _ _ _, hist_keys_applyOuts _ _ _, ?_, fun j hj => hist_applyOuts_untouched _ _ _ j hj⟩
    · show (Cursor.run _ _).length = _
      rw [Cursor.run_length, List.length_map]
    · intro t j w ho hw
      exact hist_applyOuts_yielded _ _ m t j w hnd ho (by rw [List.getElem?_map]; exact hw)

theorem hist_iterMutRun_wf {s : Store P} (h : s.WF) (kind : Kind) (prog : List (ICall × IMWrite P)) :
    ∃ outs m', iterMutRun kind s.map.size prog PIterMut.new (DIterMut.new s.map.size) s.map = .ok (outs, m') ∧
      ({ s with map := m' } : Store P).WF ∧ IMap.NoDupKeys m' ∧ m'.size = s.map.size ∧
      (∀ k, IMap.find? m' k = IMap.find? s.map k) ∧ outs.length = prog.length := by
  obtain ⟨outs, m', hrun, _, hlen, _, _, hsz, hkeys, _, _⟩ := hist_iterMutRun_spec kind s.map prog
  have hnd : IMap.NoDupKeys m' := h.nodup.congr_keys hkeys
  exact ⟨outs, m', hrun, wf_of_map_update h hsz hnd, hnd, hsz, fun k => IMap.find?_congr_keys hkeys k, hlen⟩

/-! ## (b) the two invariants of a queue of either kind -/

/-- the invariant of the queue kind: `WF` plus the heap order of that kind -/
def QInv (q : Q P) : Prop :=
  match q.kind with
  | .pq => MaxQ.Inv q.s
  | .dpq => DQ.Inv q.s

/-- what every unchecked access trusts: the index tables are mutually inverse bijections of `0..size`, all lengths agree
with `size`, keys are unique (no order) -/
def QWF (q : Q P) : Prop := q.s.WF

theorem QInv.wf {q : Q P} (h : QInv q) : QWF q := by
  obtain ⟨k, s⟩ := q
  cases k
  · exact (h : MaxQ.Inv s).1
  · exact (h : DQ.Inv s).1

theorem QInv.pq {q : Q P} (h : QInv q) (hk : q.kind = .pq) : MaxQ.Inv q.s := by
  obtain ⟨k, s⟩ := q
  cases hk
  exact h

theorem QInv.dpq {q : Q P} (h : QInv q) (hk : q.kind = .dpq) : DQ.Inv q.s := by
  obtain ⟨k, s⟩ := q
  cases hk
  exact h

theorem hist_qinv_pq {s : Store P} : QInv ⟨.pq, s⟩ ↔ MaxQ.Inv s := Iff.rfl
theorem hist_qinv_dpq {s : Store P} : QInv ⟨.dpq, s⟩ ↔ DQ.Inv s := Iff.rfl

theorem hist_new_wf (k : Kind) : QWF (Q.new k : Q P) := wf_empty

/-- the leaked guard: `iter_mut` whose `Drop` (the rebuild) never runs -/
def Op.isLeak : Op P → Bool
  | .iterMut true _ => true
  | _ => false

/-- the operations that end in `heap_build` (or produce an empty queue) whatever the order was before -/
def Op.rebuilds : Op P → Bool
  | .retainMut _ | .iterMut false _ | .fromVec _ | .fromIter _ _ | .deserialize _ _ | .convert | .append _ | .clear
  | .drain => true
  | _ => false

/-- the order half of `QInv` -/
def QOrd (q : Q P) : Prop :=
  match q.kind with
  | .pq => q.s.MaxHeap
  | .dpq => q.s.MinMaxHeap

theorem QInv.iff {q : Q P} : QInv q ↔ QWF q ∧ QOrd q := by
  obtain ⟨k, s⟩ := q
  cases k <;> exact Iff.rfl

theorem hist_ord_of_empty {q : Q P} (h0 : q.s.size = 0) : QOrd q := by
  obtain ⟨k, s⟩ := q
  have h0 : s.size = 0 := h0
  cases k
  · exact fun p hp hps => by omega
  · exact fun a d _ hd => by omega

theorem hist_new_inv (k : Kind) : QInv (Q.new k : Q P) := QInv.iff.2 ⟨wf_empty, hist_ord_of_empty rfl⟩

/-- what an operation needs of the order BEFORE it in order to leave the queue ordered: nothing if it ends in a rebuild,
the order otherwise; a leaked `iter_mut` guard promises nothing -/
def Op.OrdPre (op : Op P) (q : Q P) : Prop :=
  if op.rebuilds then True else if op.isLeak then False else QOrd q

theorem Op.OrdPre.of_rebuilds {op : Op P} {q : Q P} (h : op.rebuilds = true) : op.OrdPre q := by
  simp [Op.OrdPre, h]

theorem Op.OrdPre.of_ord {op : Op P} {q : Q P} (h : op.isLeak = false) (ho : QOrd q) : op.OrdPre q := by
  simp [Op.OrdPre, h, ho]

/-! ### `get_mut` followed by a key-preserving write (the same function for both kinds) -/

theorem hist_getMutWrite {s : Store P} (h : s.WF) (k : Nat) (w : Item → Item) (hw : ∀ it, (w it).key = it.key) :
    (s.getMutWrite k w).1.WF ∧ (s.getMutWrite k w).1.size = s.size ∧ ∀ q, (s.getMutWrite k w).1.pr q = s.pr q := by
  cases hl : IMap.lookup s.map k with
  | none =>
    rw [getMutWrite_spec_none hl w]
    exact ⟨h, rfl, fun _ => rfl⟩
  | some e =>
    obtain ⟨s', pos, hg, _, hep, hwf, hsz, _, _, _, hent, _⟩ := getMutWrite_spec_some h hl w (hw e.1)
    rw [hg]
    refine ⟨hwf, hsz, fun q => ?_⟩
    show s'.pr q = s.pr q
    rw [pr_eq_entryAt, pr_eq_entryAt, hent q]
    split
    · subst_vars; rw [hep]; rfl
    · rfl

/-! ## (c) one step: every constructor of `Op`, both kinds, leaked guards included -/

/-- closes a goal `∃ q' o, step ⟨kind, s⟩ op = .ok (q', o) ∧ I q'` given the evaluation `he` of the queue-level function
and the facts `hI` about the resulting store -/
local macro "hist_close " he:term ", " hI:term : tactic =>
  `(tactic| (simp only [step, $he:term, bind, Except.bind, pure, Except.pure]; exact ⟨_, _, rfl, $hI⟩))

/-- **one step**, from `QWF` alone: a legal operation returns normally and leaves a well-formed queue (whether or not
the queue was ordered); and it leaves an ordered queue if it rebuilds, or if the queue was ordered and the operation is
not a leaked guard -/
theorem hist_step_core {q : Q P} {op : Op P} (hq : QWF q) (hl : op.Legal) :
    ∃ q' o, step q op = .ok (q', o) ∧ QWF q' ∧ (op.OrdPre q → QOrd q') := by
  obtain ⟨k, s⟩ := q
  have h : s.WF := hq
  cases op with
  | push it p =>
    cases k
    · obtain ⟨s', he, hwf, _, _, hord⟩ := MaxQ.push_core h it p; hist_close he, ⟨hwf, hord⟩
    · obtain ⟨s', he, hwf, _, _, hord⟩ := DQ.push_core h it p; hist_close he, ⟨hwf, hord⟩
  | pushIncrease it p =>
    cases k
    · obtain ⟨s', r, he, hwf, _, _, hord⟩ := MaxQ.pushIncrease_core h it p; hist_close he, ⟨hwf, hord⟩
    · obtain ⟨s', r, he, hwf, _, _, hord⟩ := DQ.pushIncrease_core h it p; hist_close he, ⟨hwf, hord⟩
  | pushDecrease it p =>
    cases k
    · obtain ⟨s', r, he, hwf, _, _, hord⟩ := MaxQ.pushDecrease_core h it p; hist_close he, ⟨hwf, hord⟩
    · obtain ⟨s', r, he, hwf, _, _, hord⟩ := DQ.pushDecrease_core h it p; hist_close he, ⟨hwf, hord⟩
  | changePriority key p =>
    cases k
    · obtain ⟨s', he, hwf, _, _, _, hord⟩ := MaxQ.changePriority_core h key p; hist_close he, ⟨hwf, hord⟩
    · obtain ⟨s', he, hwf, _, _, _, hord⟩ := DQ.changePriority_core h key p; hist_close he, ⟨hwf, hord⟩
  | changePriorityBy key g =>
    cases k
    · obtain ⟨s', he, hwf, _, _, _, hord⟩ := MaxQ.changePriorityBy_core h key g; hist_close he, ⟨hwf, hord⟩
    · obtain ⟨s', he, hwf, _, _, _, hord⟩ := DQ.changePriorityBy_core h key g; hist_close he, ⟨hwf, hord⟩
  | remove key =>
    cases k
    · obtain ⟨s', he, hwf, _, _, _, hord⟩ := MaxQ.remove_core h key; hist_close he, ⟨hwf, hord⟩
    · obtain ⟨s', he, hwf, _, _, _, hord⟩ := DQ.remove_core h key; hist_close he, ⟨hwf, hord⟩
  | getMut key w =>
    obtain ⟨hwf, hsz, hpr⟩ := hist_getMutWrite h key w hl
    refine ⟨_, _, rfl, hwf, fun hm => ?_⟩
    cases k
    · exact MaxQ.maxHeap_of_prefix hm (Nat.le_of_eq hsz) (fun q _ => hpr q)
    · exact DQ.minMaxHeap_congr hpr hsz hm
  | popFront =>
    cases k
    · obtain ⟨s', r, he, hwf, _, _, _, hord⟩ := MaxQ.pop_core h; hist_close he, ⟨hwf, fun hm => (hord hm).1⟩
    · obtain ⟨s', r, he, hwf, _, _, _, hord⟩ := DQ.popMin_core h; hist_close he, ⟨hwf, fun hm => (hord hm).1⟩
  | popBack =>
    cases k
    · exact ⟨_, _, rfl, h, id⟩
    · obtain ⟨_, s', r, he, _, _, hwf, _, _, hord⟩ := DQ.popMax_core h; hist_close he, ⟨hwf, fun hm => (hord hm).1⟩
  | popFrontIf f =>
    cases k
    · obtain ⟨s', r, he, hwf, _, _, hord⟩ := MaxQ.popIf_core h f hl; hist_close he, ⟨hwf, hord⟩
    · obtain ⟨s', r, he, hwf, hord⟩ := DQ.popMinIf_total h f hl; hist_close he, ⟨hwf, hord⟩
  | popBackIf f =>
    cases k
    · exact ⟨_, _, rfl, h, id⟩
    · obtain ⟨s', r, he, hwf, hord⟩ := DQ.popMaxIf_total h f hl; hist_close he, ⟨hwf, hord⟩
  | peekFrontMut w =>
    cases k
    · obtain ⟨s', r, he, hwf, _, _, _, _, hord⟩ := MaxQ.peekMutWrite_core h w hl; hist_close he, ⟨hwf, hord⟩
    · obtain ⟨s', r, he, hwf, _, _, _, _, hord⟩ := DQ.peekMinMutWrite_core h w hl
      hist_close he, ⟨hwf, fun hm => (hord hm).1⟩
  | peekBackMut w =>
    cases k
    · exact ⟨_, _, rfl, h, id⟩
    · obtain ⟨_, s', r, he, _, _, hwf, _, _, _, hord⟩ := DQ.peekMaxMutWrite_core h w hl
      hist_close he, ⟨hwf, fun hm => (hord hm).1⟩
  | retainMut f =>
    cases k
    · obtain ⟨s', he, hinv, _⟩ := MaxQ.retainMut_spec h f hl; hist_close he, ⟨hinv.1, fun _ => hinv.2⟩
    · obtain ⟨s', he, hinv, _⟩ := DQ.retainMut_spec h f hl; hist_close he, ⟨hinv.1, fun _ => hinv.2⟩
  | iterMut leak prog =>
    obtain ⟨outs, m', hrun, hwf1, _⟩ := hist_iterMutRun_wf h k prog
    cases leak with
    | true => hist_close hrun, ⟨hwf1, False.elim⟩
    | false =>
      cases k
      · obtain ⟨s', he, hwf, _, _, hm⟩ := MaxQ.heapBuild_spec hwf1
        simp only [step, hrun, heapBuildK, he, bind, Except.bind, pure, Except.pure]
        exact ⟨_, _, rfl, hwf, fun _ => hm⟩
      · obtain ⟨s', he, hwf, _, _, hm⟩ := DQ.heapBuild_spec hwf1
        simp only [step, hrun, heapBuildK, he, bind, Except.bind, pure, Except.pure]
        exact ⟨_, _, rfl, hwf, fun _ => hm⟩
  | extend lo xs =>
    have hlo : lo < capLimit := Nat.lt_of_le_of_lt hl.1 hl.2
    cases k
    · obtain ⟨s', he, hwf, _, hord⟩ := MaxQ.extend_core h lo xs hlo; hist_close he, ⟨hwf, hord⟩
    · obtain ⟨s', he, hwf, _, hord⟩ := DQ.extend_core h lo xs hlo; hist_close he, ⟨hwf, hord⟩
  | append o =>
    have ho : o.WF := hl
    cases k
    · obtain ⟨s', o', he, hinv, _⟩ := MaxQ.append_spec h ho; hist_close he, ⟨hinv.1, fun _ => hinv.2⟩
    · obtain ⟨s', o', he, hinv, _⟩ := DQ.append_spec h ho; hist_close he, ⟨hinv.1, fun _ => hinv.2⟩
  | fromVec xs =>
    cases k
    · obtain ⟨s', he, hinv, _⟩ := MaxQ.fromVec_spec xs; hist_close he, ⟨hinv.1, fun _ => hinv.2⟩
    · obtain ⟨s', he, hinv, _⟩ := DQ.fromVec_spec xs; hist_close he, ⟨hinv.1, fun _ => hinv.2⟩
  | fromIter lo xs =>
    have hlo : lo < capLimit := Nat.lt_of_le_of_lt hl.1 hl.2
    cases k
    · obtain ⟨s', he, hinv, _⟩ := MaxQ.fromIter_spec lo xs hlo; hist_close he, ⟨hinv.1, fun _ => hinv.2⟩
    · obtain ⟨s', he, hinv, _⟩ := DQ.fromIter_spec lo xs hlo; hist_close he, ⟨hinv.1, fun _ => hinv.2⟩
  | deserialize hint xs =>
    cases k
    · obtain ⟨s', he, hinv, _⟩ := MaxQ.deserialize_spec hint xs; hist_close he, ⟨hinv.1, fun _ => hinv.2⟩
    · obtain ⟨s', he, hinv, _⟩ := DQ.deserialize_spec hint xs; hist_close he, ⟨hinv.1, fun _ => hinv.2⟩
  | convert =>
    cases k
    · obtain ⟨s', he, hinv, _⟩ := DQ.ofStore_spec h; hist_close he, ⟨hinv.1, fun _ => hinv.2⟩
    · obtain ⟨s', he, hinv, _⟩ := MaxQ.ofStore_spec h; hist_close he, ⟨hinv.1, fun _ => hinv.2⟩
  | clear => exact ⟨_, _, rfl, wf_clear s, fun _ => hist_ord_of_empty rfl⟩
  | drain => exact ⟨_, _, rfl, wf_drain s, fun _ => hist_ord_of_empty rfl⟩
  | capacityOp => exact ⟨_, _, rfl, h, id⟩

theorem hist_step_safe {q : Q P} {op : Op P} (hq : QWF q) (hl : op.Legal) :
    ∃ q' o, step q op = .ok (q', o) ∧ QWF q' := by
  obtain ⟨q', o, hs, hwf, _⟩ := hist_step_core hq hl
  exact ⟨q', o, hs, hwf⟩

/-- after a leaked `iter_mut` guard (or from any other merely well-formed state) every operation that ends in
`heap_build` — `retain`/`retain_mut`, a dropped `iter_mut` guard, `From<Vec>`, `FromIterator`, `Deserialize`, the
conversion to the other kind, `append` — and `clear`/`drain` yield a queue satisfying the full invariant -/
theorem hist_step_rebuild {q : Q P} {op : Op P} (hq : QWF q) (hl : op.Legal) (hr : op.rebuilds = true) :
    ∃ q' o, step q op = .ok (q', o) ∧ QInv q' := by
  obtain ⟨q', o, hs, hwf, hord⟩ := hist_step_core hq hl
  exact ⟨q', o, hs, QInv.iff.2 ⟨hwf, hord (.of_rebuilds hr)⟩⟩

theorem hist_step_inv {q : Q P} {op : Op P} (hq : QInv q) (hl : op.Legal) (hn : op.isLeak = false) :
    ∃ q' o, step q op = .ok (q', o) ∧ QInv q' := by
  obtain ⟨q', o, hs, hwf, hord⟩ := hist_step_core hq.wf hl
  exact ⟨q', o, hs, QInv.iff.2 ⟨hwf, hord (.of_ord hn (QInv.iff.1 hq).2)⟩⟩

/-! ## (d) histories -/

/-- **every history of legal operations runs without fault and ends in a well-formed queue** (leaked `iter_mut` guards
allowed anywhere) -/
theorem hist_run_safe (ops : List (Op P)) : ∀ {q : Q P}, QWF q → (∀ op ∈ ops, op.Legal) →
    ∃ q' outs, run q ops = .ok (q', outs) ∧ QWF q' ∧ outs.length = ops.length := by
  induction ops with
  | nil => intro q hq _; exact ⟨q, [], rfl, hq, rfl⟩
  | cons op ops ih =>
    intro q hq hl
    obtain ⟨q1, o, h1, hq1⟩ := hist_step_safe hq (hl op (List.mem_cons_self ..))
    obtain ⟨q2, os, h2, hq2, hlen⟩ := ih hq1 (fun op' h' => hl op' (List.mem_cons_of_mem _ h'))
    refine ⟨q2, o :: os, ?_, hq2, by simp [hlen]⟩
    simp only [run, h1, h2, bind, Except.bind, pure, Except.pure]

/-- **every history of legal operations without a leaked guard keeps the invariant of the (final) queue kind** -/
theorem hist_run_inv (ops : List (Op P)) : ∀ {q : Q P}, QInv q → (∀ op ∈ ops, op.Legal) →
    (∀ op ∈ ops, op.isLeak = false) →
    ∃ q' outs, run q ops = .ok (q', outs) ∧ QInv q' ∧ outs.length = ops.length := by
  induction ops with
  | nil => intro q hq _ _; exact ⟨q, [], rfl, hq, rfl⟩
  | cons op ops ih =>
    intro q hq hl hn
    obtain ⟨q1, o, h1, hq1⟩ := hist_step_inv hq (hl op (List.mem_cons_self ..)) (hn op (List.mem_cons_self ..))
    obtain ⟨q2, os, h2, hq2, hlen⟩ := ih hq1 (fun op' h' => hl op' (List.mem_cons_of_mem _ h'))
      (fun op' h' => hn op' (List.mem_cons_of_mem _ h'))
    refine ⟨q2, o :: os, ?_, hq2, by simp [hlen]⟩
    simp only [run, h1, h2, bind, Except.bind, pure, Except.pure]

theorem hist_run_append (a b : List (Op P)) : ∀ (q : Q P) (q1 : Q P) (o1 : List (Out P)), run q a = .ok (q1, o1) →
    run q (a ++ b) = (match run q1 b with | .ok (q2, o2) => .ok (q2, o1 ++ o2) | .error f => .error f) := by
  induction a with
  | nil =>
    intro q q1 o1 h
    simp only [run, pure, Except.pure, Except.ok.injEq, Prod.mk.injEq] at h
    obtain ⟨rfl, rfl⟩ := h
    simp only [List.nil_append]
    cases run q b with
    | error f => rfl
    | ok x => rfl
  | cons op a ih =>
    intro q q1 o1 h
    obtain ⟨⟨q0, o⟩, hs, h⟩ := bind_eq_ok.1 h
    obtain ⟨⟨q1', o1'⟩, hr, h⟩ := bind_eq_ok.1 h
    cases h
    show (step q op >>= fun x => run x.1 (a ++ b) >>= fun y => pure (y.1, x.2 :: y.2)) = _
    rw [bind_of_ok hs, ih q0 q1 o1' hr]
    cases run q1 b with
    | error f => rfl
    | ok z => rfl

/-- **a leak is healed by the next rebuilding operation**: `pre ++ [rebuild] ++ post` with `pre` arbitrary (leaks
allowed) and `post` leak-free ends in `QInv` -/
theorem hist_run_heal (pre post : List (Op P)) (op : Op P) {q : Q P} (hq : QWF q)
    (hpre : ∀ o ∈ pre, o.Legal) (hop : op.Legal) (hr : op.rebuilds = true)
    (hpost : ∀ o ∈ post, o.Legal) (hn : ∀ o ∈ post, o.isLeak = false) :
    ∃ q' outs, run q (pre ++ op :: post) = .ok (q', outs) ∧ QInv q' := by
  obtain ⟨q1, o1, h1, hq1, _⟩ := hist_run_safe pre hq hpre
  obtain ⟨q2, o, h2, hq2⟩ := hist_step_rebuild hq1 hop hr
  obtain ⟨q3, o3, h3, hq3, _⟩ := hist_run_inv post hq2 hpost hn
  refine ⟨q3, o1 ++ o :: o3, ?_, hq3⟩
  rw [hist_run_append pre (op :: post) q q1 o1 h1]
  simp only [run, h2, h3, bind, Except.bind, pure, Except.pure]


/-- the double-ended sorted iterator IS a history of `pop_min`/`pop_max` operations (`false` = `next` = `pop_min`,
`true` = `next_back` = `pop_max`) -/
theorem hist_run_sortedCalls (calls : List Bool) : ∀ (s : Store P),
    run ⟨.dpq, s⟩ (calls.map fun b => if b = true then Op.popBack else Op.popFront) =
      (match DQ.sortedCalls calls s with
       | .ok (outs, s') => .ok (⟨.dpq, s'⟩, outs.map Out.entry)
       | .error f => .error f) := by
  induction calls with
  | nil => intro s; rfl
  | cons b bs ih =>
    intro s
    cases b with
    | false =>
      simp only [List.map_cons, run, step, DQ.sortedCalls, bind, Except.bind, pure, Except.pure, Bool.false_eq_true,
        if_false]
      cases h : DQ.popMin s with
      | error f => rfl
      | ok x =>
        obtain ⟨s1, r⟩ := x
        simp only [ih s1]
        cases DQ.sortedCalls bs s1 with
        | error f => rfl
        | ok y => rfl
    | true =>
      simp only [List.map_cons, run, step, DQ.sortedCalls, bind, Except.bind, pure, Except.pure, if_true]
      cases h : DQ.popMax s with
      | error f => rfl
      | ok x =>
        obtain ⟨s1, r⟩ := x
        simp only [ih s1]
        cases DQ.sortedCalls bs s1 with
        | error f => rfl
        | ok y => rfl


/-- `r` succeeded and its value satisfies `q` -/
def hist_okR {α : Type} (r : R α) (q : α → Prop) : Prop :=
  match r with
  | .ok x => q x
  | .error _ => False

instance {α : Type} (r : R α) (q : α → Prop) [DecidablePred q] : Decidable (hist_okR r q) := by
  unfold hist_okR; split <;> infer_instance

/-- the entry an operation returned, if it is of that form (`Out` has no decidable equality: compare
through this projection) -/
def hist_outEntry {P : Type} : Out P → Option (Option (Item × P))
  | .entry e => some e
  | _ => none

theorem hist_okR_iff {α : Type} {r : R α} {q : α → Prop} : hist_okR r q ↔ ∃ x, r = .ok x ∧ q x := by
  unfold hist_okR
  split
  · rename_i x; exact ⟨fun h => ⟨x, rfl, h⟩, fun ⟨y, hy, hq⟩ => by cases hy; exact hq⟩
  · exact ⟨False.elim, fun ⟨y, hy, _⟩ => by cases hy⟩

/-! ## Non-vacuity: concrete programs and histories (evaluated by the kernel) -/
section Examples

private def exM : IMap Nat := #[(⟨1, 10⟩, 5), (⟨2, 20⟩, 9), (⟨3, 30⟩, 7), (⟨4, 40⟩, 1)]

/-- calls from both ends with a write each; the sixth call finds the cursors met -/
private def exProg : List (ICall × IMWrite Nat) :=
  [(.next, ⟨some 100, none⟩), (.nextBack, ⟨none, some 44⟩), (.len, ⟨some 0, some 0⟩), (.next, ⟨some 3, some 21⟩),
   (.nextBack, ⟨none, none⟩), (.next, ⟨some 77, some 77⟩)]

-- (a) on the `DoublePriorityQueue` machine: slots 0, 3, 1, 2 once each; keys kept; write `t` lands in the slot of call `t`
example : hist_okR (iterMutRun .dpq 4 exProg PIterMut.new (DIterMut.new 4) exM) (fun r =>
    r.1 = [.slot (some 0), .slot (some 3), .len 2, .slot (some 1), .slot (some 2), .slot none] ∧
    r.2 = #[(⟨1, 10⟩, 100), (⟨2, 21⟩, 3), (⟨3, 30⟩, 7), (⟨4, 44⟩, 1)]) := by decide +kernel
-- … and on the `PriorityQueue` machine (`next_back`/`len` are not offered: those writes go nowhere)
example : hist_okR (iterMutRun .pq 4 exProg PIterMut.new (DIterMut.new 4) exM) (fun r =>
    r.1 = [.slot (some 0), .unsupported, .unsupported, .slot (some 1), .unsupported, .slot (some 2)] ∧
    r.2 = #[(⟨1, 10⟩, 100), (⟨2, 21⟩, 3), (⟨3, 77⟩, 77), (⟨4, 40⟩, 1)]) := by decide +kernel

/-- a history with a leaked guard in the middle: pushes, a leaked `iter_mut` that makes the root the smallest, a `pop`
on the disordered queue, a `change_priority` (the examples append a `retain` that heals) -/
private def exHist : List (Op Nat) :=
  [.push ⟨1, 0⟩ 5, .push ⟨2, 0⟩ 9, .push ⟨3, 0⟩ 7, .push ⟨4, 0⟩ 1, .push ⟨5, 0⟩ 3, .pushIncrease ⟨1, 1⟩ 6,
   .iterMut true [(.next, ⟨some 0, none⟩), (.next, ⟨some 50, some 1⟩)],
   .popFront, .changePriority 3 2]

example : ∀ op ∈ exHist, op.Legal := by
  intro op h
  simp only [exHist, List.mem_cons, List.not_mem_nil, or_false] at h
  rcases h with h | h | h | h | h | h | h | h | h <;> subst h <;> exact trivial

-- `hist_run_safe`: the run succeeds, the result is well-formed — but NOT ordered (key 1 with priority 0 sits above
-- key 4 with priority 1), also after the `pop` and the `change_priority` that followed the leak
example : hist_okR (run (Q.new .pq) exHist) (fun r => r.1.s.WF ∧ ¬ MaxQ.Inv r.1.s ∧ r.1.s.size = 4 ∧ r.2.length = 9 ∧
    r.1.s.heap = #[1, 0, 2, 3] ∧ r.1.s.abs 1 = some (⟨1, 0⟩, 0) ∧ r.1.s.abs 4 = some (⟨4, 0⟩, 1)) := by
  decide +kernel
-- `hist_run_heal`: one rebuilding operation later the full invariant is back
example : hist_okR (run (Q.new .pq) (exHist ++ [.retainMut (fun it p => (true, it, p)), .push ⟨9, 0⟩ 8]))
    (fun r => MaxQ.Inv r.1.s ∧ r.1.s.size = 5 ∧ MaxQ.peek r.1.s = some (⟨9, 0⟩, 8)) := by decide +kernel
-- `hist_run_inv` with a conversion inside the history: the final kind is `dpq`
example : hist_okR (run (Q.new .pq) [.push ⟨1, 0⟩ 5, .push ⟨2, 0⟩ 9, .push ⟨3, 0⟩ 7, .convert, .popBack, .popFront])
    (fun r => r.1.kind = .dpq ∧ r.1.s.WF ∧ r.1.s.size = 1 ∧ r.1.s.abs 3 = some (⟨3, 0⟩, 7)) := by decide +kernel

end Examples

end PQ
