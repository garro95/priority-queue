import PQ.Lemmas.MinMaxDefs
import PQ.Lemmas.MinMaxDown1
import PQ.Lemmas.MinMaxDown2
/-!
# Min-max heap: trickle-down (`heapify`, proved in `MinMaxDown2`), Floyd construction (`heapBuild`) and the position
of the extremes (`findMin`/`findMax`/`peekMin`/`peekMax`)
-/
set_option linter.unusedSectionVars false
namespace PQ
open Arith
variable {P : Type} [LT P] [DecidableLT P] [LE P] [Std.IsLinearPreorder P] [Std.LawfulOrderLT P]

namespace DQ
open Store

/-! ## Floyd's construction -/

theorem anc_left_le {a d : Nat} (h : Anc a d) : left a ≤ d := by
  rcases h.cases_top with rfl | rfl | h | h
  · omega
  · have := left_lt_right a; omega
  · have := h.lt; omega
  · have := h.lt; have := left_lt_right a; omega

theorem heapBuildLoop_spec : ∀ (k : Nat) (s : Store P), s.WF → k < s.size → s.MinMaxFrom (k + 1) →
    ∃ s', heapBuildLoop s k = .ok s' ∧ s'.WF ∧ s'.map = s.map ∧ s'.size = s.size ∧ s'.MinMaxFrom 0 := by
  intro k
  induction k with
  | zero =>
    intro s h hk hfrom
    obtain ⟨s', hrun, hwf, hmap, hsize, hfrom', _⟩ := heapify_spec (lo := 0) (i := 0) h hk (Nat.le_refl _)
      (fun a d had hd _ ha => hfrom a d had hd (by omega))
    exact ⟨s', hrun, hwf, hmap, hsize, hfrom'⟩
  | succ k ih =>
    intro s h hk hfrom
    obtain ⟨s1, hrun, hwf, hmap, hsize, hfrom', _⟩ := heapify_spec (lo := k + 1) (i := k + 1) h hk (Nat.le_refl _)
      (fun a d had hd hlo ha => hfrom a d had hd (by omega))
    obtain ⟨s', hrun', hwf', hmap', hsize', hfrom''⟩ := ih s1 hwf (by omega) hfrom'
    refine ⟨s', ?_, hwf', by rw [hmap', hmap], by rw [hsize', hsize], hfrom''⟩
    simp [heapBuildLoop, hrun, hrun', bind, Except.bind]

/-- **`heap_build` (Floyd) establishes the min-max order** on any well-formed store, without fault, keeping the map
and the size. -/
theorem heapBuild_spec {s : Store P} (h : s.WF) :
    ∃ s', heapBuild s = .ok s' ∧ s'.WF ∧ s'.map = s.map ∧ s'.size = s.size ∧ s'.MinMaxHeap := by
  by_cases h0 : s.size = 0
  · refine ⟨s, by simp [heapBuild, h0, pure, Except.pure], h, rfl, rfl, ?_⟩
    intro a d _ hd; omega
  · have htop : parent s.size < s.size := parent_lt (by omega)
    have hfrom : s.MinMaxFrom (parent s.size + 1) := by
      intro a d had hd hlo
      have h1 : s.size < left a := lt_left_of_parent_lt (by omega)
      have h2 := anc_left_le had
      omega
    obtain ⟨s', hrun, hwf, hmap, hsize, hfrom'⟩ := heapBuildLoop_spec (parent s.size) s h htop hfrom
    refine ⟨s', ?_, hwf, hmap, hsize, (minMaxHeap_iff_from s').mpr hfrom'⟩
    simp [heapBuild, h0, parentC, hrun, bind, Except.bind]

/-! ## Where the extremes are -/

/-- every stored entry sits at some heap position -/
theorem mem_pos {s : Store P} (h : s.WF) {e : Item × P} (he : s.Mem e) :
    ∃ p, p < s.size ∧ s.entryAt p = some e := by
  obtain ⟨j, hj⟩ := he
  have hjn : j < s.size := by have := lt_size_of_getElem? hj; rw [h.map_size] at this; exact this
  obtain ⟨p, hp1, hp2⟩ := h.qp_heap j hjn
  exact ⟨p, TWF.qp_lt h hp1, by simp [Store.entryAt, hp2, hj]⟩

theorem mem_of_entryAt {s : Store P} {p : Nat} {e : Item × P} (he : s.entryAt p = some e) : s.Mem e := by
  unfold Store.entryAt at he
  split at he
  · exact ⟨_, he⟩
  · cases he

theorem pr_of_entryAt {s : Store P} {p : Nat} {e : Item × P} (he : s.entryAt p = some e) : s.pr p = some e.2 := by
  rw [pr_eq_entryAt, he]; rfl

theorem isMin_of_pos {s : Store P} (h : s.WF) {p : Nat} {e : Item × P} (he : s.entryAt p = some e)
    (hall : ∀ q y, q < s.size → s.pr q = some y → ¬ y < e.2) : s.IsMin e := by
  refine ⟨mem_of_entryAt he, ?_⟩
  intro e' he'
  obtain ⟨q, hq, hqe⟩ := mem_pos h he'
  exact hall q e'.2 hq (pr_of_entryAt hqe)

theorem isMax_of_pos {s : Store P} (h : s.WF) {p : Nat} {e : Item × P} (he : s.entryAt p = some e)
    (hall : ∀ q y, q < s.size → s.pr q = some y → ¬ e.2 < y) : s.IsMax e := by
  refine ⟨mem_of_entryAt he, ?_⟩
  intro e' he'
  obtain ⟨q, hq, hqe⟩ := mem_pos h he'
  exact hall q e'.2 hq (pr_of_entryAt hqe)

/-- in a min-max heap the root holds a minimum -/
theorem root_isMin {s : Store P} (h : s.WF) (hm : s.MinMaxHeap) (hn : 0 < s.size) :
    ∃ e, s.entryAt 0 = some e ∧ s.IsMin e := by
  obtain ⟨e, he⟩ := TWF.entryAt_some h hn
  refine ⟨e, he, isMin_of_pos h he ?_⟩
  intro q y hq hy
  by_cases hq0 : q = 0
  · subst hq0
    rw [pr_of_entryAt he] at hy; cases hy; grind
  · have := hm 0 q (Anc.zero (by omega)) hq e.2 y (pr_of_entryAt he) hy
    simpa using this

theorem findMin_spec {s : Store P} (hn : 0 < s.size) : findMin s = some 0 := by
  have : s.size ≠ 0 := by omega
  simp [findMin, this]

theorem findMin_empty {s : Store P} (h0 : s.size = 0) : findMin s = none := by
  simp [findMin, h0]

theorem findMax_empty {s : Store P} (h0 : s.size = 0) : findMax s = .ok (s, none) := by
  simp [findMax, h0, pure, Except.pure]

/-- in a min-max heap every position is dominated by position 1 or position 2 (size ≥ 3) -/
theorem dominated_by_top {s : Store P} (hm : s.MinMaxHeap) (hn : 3 ≤ s.size) {x1 x2 : P}
    (h1 : s.pr 1 = some x1) (h2 : s.pr 2 = some x2) :
    ∀ q y, q < s.size → s.pr q = some y → ¬ x1 < y ∨ ¬ x2 < y := by
  intro q y hq hy
  have l0 : left 0 = 1 := rfl
  have r0 : right 0 = 2 := rfl
  have a01 : Anc 0 1 := Anc.zero (by omega)
  by_cases hq0 : q = 0
  · subst hq0
    have := hm 0 1 a01 (by omega) y x1 hy h1
    left; simpa using this
  · rcases (Anc.zero (Nat.pos_of_ne_zero hq0)).cases_top with e | e | e | e
    · rw [l0] at e; subst e; rw [h1] at hy; cases hy; left; grind
    · rw [r0] at e; subst e; rw [h2] at hy; cases hy; right; grind
    · rw [l0] at e
      have := hm 1 q e hq x1 y h1 hy
      left; simpa using this
    · rw [r0] at e
      have := hm 2 q e hq x2 y h2 hy
      right; simpa using this

/-- **`find_max`**: in a min-max heap it returns, after at most one comparison, a position holding a maximum -/
theorem findMax_spec {s : Store P} (h : s.WF) (hm : s.MinMaxHeap) (hn : 0 < s.size) :
    ∃ k p e, findMax s = .ok (s.tick k, some p) ∧ k ≤ 1 ∧ p < s.size ∧ s.entryAt p = some e ∧ s.IsMax e := by
  by_cases hs1 : s.size = 1
  · obtain ⟨e, he⟩ := TWF.entryAt_some h hn
    refine ⟨0, 0, e, by simp [findMax, hs1, pure, Except.pure, tick_zero], by omega, hn, he, isMax_of_pos h he ?_⟩
    intro q y hq hy
    have : q = 0 := by omega
    subst this
    rw [pr_of_entryAt he] at hy; cases hy; grind
  · by_cases hs2 : s.size = 2
    · obtain ⟨e, he⟩ := TWF.entryAt_some h (show 1 < s.size by omega)
      refine ⟨0, 1, e, by simp [findMax, hs2, pure, Except.pure, tick_zero], by omega, by omega, he,
        isMax_of_pos h he ?_⟩
      intro q y hq hy
      by_cases hq0 : q = 0
      · subst hq0
        have := hm 0 1 (Anc.zero (by omega)) (by omega) y e.2 hy (pr_of_entryAt he)
        simpa using this
      · have : q = 1 := by omega
        subst this
        rw [pr_of_entryAt he] at hy; cases hy; grind
    · have hn3 : 3 ≤ s.size := by omega
      obtain ⟨n, hsz⟩ : ∃ n, s.size = n + 3 := ⟨s.size - 3, by omega⟩
      obtain ⟨e1, he1⟩ := TWF.entryAt_some h (show 1 < s.size by omega)
      obtain ⟨e2, he2⟩ := TWF.entryAt_some h (show 2 < s.size by omega)
      have hp1 := pr_of_entryAt he1
      have hp2 := pr_of_entryAt he2
      have hdom := dominated_by_top hm hn3 hp1 hp2
      have hrun : findMax s = .ok (s.tick 1, some (if e2.2 < e1.2 then 1 else 2)) := by
        simp [findMax, hsz, prioAt_eq_ok_iff.mpr hp1, prioAt_eq_ok_iff.mpr hp2, bind, Except.bind, pure, Except.pure,
          Store.tick]
      by_cases hlt : e2.2 < e1.2
      · refine ⟨1, 1, e1, by simpa [hlt] using hrun, by omega, by omega, he1, isMax_of_pos h he1 ?_⟩
        intro q y hq hy
        rcases hdom q y hq hy with hd | hd
        · exact hd
        · grind
      · refine ⟨1, 2, e2, by simpa [hlt] using hrun, by omega, by omega, he2, isMax_of_pos h he2 ?_⟩
        intro q y hq hy
        rcases hdom q y hq hy with hd | hd
        · grind
        · exact hd

/-! ### `peek_min` / `peek_max` -/

theorem dq_entryAt_ok {s : Store P} {p site : Nat} {e : Item × P} (he : s.entryAt p = some e) :
    DQ.entryAt s p site = .ok (some e) := by
  unfold Store.entryAt at he
  split at he
  · rename_i i hi
    simp [DQ.entryAt, getU, hi, IMap.getIndex, he, bind, Except.bind, pure, Except.pure]
  · cases he

theorem peekMin_spec {s : Store P} (h : s.WF) (hm : s.MinMaxHeap) (hn : 0 < s.size) :
    ∃ e, peekMin s = .ok (some e) ∧ s.IsMin e := by
  obtain ⟨e, he, hmin⟩ := root_isMin h hm hn
  refine ⟨e, ?_, hmin⟩
  simp [peekMin, findMin_spec hn, dq_entryAt_ok he]

theorem peekMin_empty {s : Store P} (h0 : s.size = 0) : peekMin s = .ok none := by
  simp [peekMin, findMin_empty h0, pure, Except.pure]

theorem peekMax_spec {s : Store P} (h : s.WF) (hm : s.MinMaxHeap) (hn : 0 < s.size) :
    ∃ k e, peekMax s = .ok (s.tick k, some e) ∧ k ≤ 1 ∧ s.IsMax e := by
  obtain ⟨k, p, e, hrun, hk, _, he, hmax⟩ := findMax_spec h hm hn
  refine ⟨k, e, ?_, hk, hmax⟩
  have he' : (s.tick k).entryAt p = some e := he
  simp [peekMax, hrun, dq_entryAt_ok he', bind, Except.bind, pure, Except.pure]

theorem peekMax_empty {s : Store P} (h0 : s.size = 0) : peekMax s = .ok (s, none) := by
  simp [peekMax, findMax_empty h0, bind, Except.bind, pure, Except.pure]

/-! ## Non-vacuity: a concrete 7-element store whose root violates the order -/

/-- priorities by position: `[99, 50, 60, 10, 20, 30, 40]` (identity tables): positions 1 and 2 (max level) dominate
their children, the root (min level) is out of place -/
def ex7 : Store Nat :=
  { map := #[(⟨0, 0⟩, 99), (⟨1, 0⟩, 50), (⟨2, 0⟩, 60), (⟨3, 0⟩, 10), (⟨4, 0⟩, 20), (⟨5, 0⟩, 30), (⟨6, 0⟩, 40)],
    heap := #[0, 1, 2, 3, 4, 5, 6], qp := #[0, 1, 2, 3, 4, 5, 6], size := 7 }

theorem ex7_WF : ex7.WF := by
  have hh : ∀ p, p < 7 → ex7.heap[p]? = some p := by decide
  have hk : ∀ i, i < 7 → ∀ j, j < 7 → (ex7.map[i]?).map (·.1.key) = (ex7.map[j]?).map (·.1.key) → i = j := by decide
  refine ⟨rfl, rfl, rfl, fun p hp => ⟨p, hh p hp, hh p hp⟩, fun p hp => ⟨p, hh p hp, hh p hp⟩, ?_⟩
  intro i j a b hi hj hab
  have hi' : i < 7 := lt_size_of_getElem? hi
  have hj' : j < 7 := lt_size_of_getElem? hj
  exact hk i hi' j hj' (by rw [hi, hj]; simp [hab])

/-- the hypotheses of `heapify_spec` hold for `ex7` at `i = 0`, `lo = 0`, although `ex7` is not a min-max heap -/
theorem ex7_pre : ∀ a d, Anc a d → d < ex7.size → 0 ≤ a → a ≠ 0 → ex7.Rel a d := by
  intro a d had hd _ ha
  have hd7 : d < 7 := hd
  have hpa : a = parent d := by
    rcases had.cases_child with h | h
    · exact h
    · exfalso
      have h2 : parent (parent d) = 0 := by simp only [parent]; omega
      rcases h.cases_child with h' | h'
      · omega
      · rw [h2] at h'; exact not_anc_zero a h'
  have hcases : (a = 1 ∧ d = 3) ∨ (a = 1 ∧ d = 4) ∨ (a = 2 ∧ d = 5) ∨ (a = 2 ∧ d = 6) := by
    simp only [parent] at hpa; omega
  rcases hcases with ⟨rfl, rfl⟩ | ⟨rfl, rfl⟩ | ⟨rfl, rfl⟩ | ⟨rfl, rfl⟩ <;>
  · intro x y hx hy
    have hx' : x ∈ ex7.pr _ := hx
    have hy' : y ∈ ex7.pr _ := hy
    revert hx' hy'
    simp [ex7, Store.pr]
    intro h1 h2; subst h1; subst h2; decide

example : ∃ (s : Store Nat) (lo i : Nat), s.WF ∧ i < s.size ∧ lo ≤ i ∧
    (∀ a d, Anc a d → d < s.size → lo ≤ a → a ≠ i → s.Rel a d) ∧ ¬ s.MinMaxHeap :=
  ⟨ex7, 0, 0, ex7_WF, by decide, Nat.le_refl _, ex7_pre, fun hm => by
    have := hm 0 3 (Anc.zero (by decide)) (by decide) 99 10 (by decide) (by decide)
    revert this; decide⟩

/-- and the model really moves the minimum to the root and the maximum to position 1 or 2 -/
example : (heapify ex7 0).toOption.map (fun s => (s.pr 0, s.pr 3, s.pr 1)) = some (some 10, some 50, some 99) := by
  decide

/-- non-vacuity of `heapBuild_spec`: `heapBuild` on a well-formed store in arbitrary order -/
example : ∃ s', heapBuild ex7 = .ok s' ∧ s'.WF ∧ s'.size = 7 ∧ s'.MinMaxHeap := by
  obtain ⟨s', h1, h2, _, h3, h4⟩ := heapBuild_spec ex7_WF
  exact ⟨s', h1, h2, h3, h4⟩

example : (heapBuild ex7).toOption.map (fun s => (s.pr 0, s.size)) = some (some 10, 7) := by decide

/-- the theorems about the extremes speak of something: a min-max heap with at least three entries -/
example : ∃ s : Store Nat, s.WF ∧ s.MinMaxHeap ∧ 3 ≤ s.size := by
  obtain ⟨s', _, h2, _, h3, h4⟩ := heapBuild_spec ex7_WF
  exact ⟨s', h2, h4, by rw [h3]; decide⟩

/-- on the heap built from `ex7`, `find_max` points at the priority 99 and `peek_min` returns the entry with priority 10 -/
example : ((heapBuild ex7).toOption.bind fun s => (findMax s).toOption.bind fun r => r.2.map s.pr)
    = some (some 99) := by decide

example : ((heapBuild ex7).toOption.bind fun s => (peekMin s).toOption.map fun r => r.map (·.2))
    = some (some 10) := by decide

end DQ
end PQ
