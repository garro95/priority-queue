import PQ.Lemmas.MinMaxUp
import PQ.Lemmas.MinMaxDown
/-!
# `up_heapify`: sift up after an arbitrary priority change, then re-sift the vacated and the final position

Composition of the bubble-up theorems of `MinMaxUp.lean` with `heapify_spec` (the trickle-down theorem of the
`MinMaxDown` development).
-/
set_option linter.unusedSectionVars false
namespace PQ
open Arith Store
variable {P : Type} [LT P] [DecidableLT P] [LE P] [Std.IsLinearPreorder P] [Std.LawfulOrderLT P]

namespace DQ

/-- `up_heapify` on a position outside the heap table does nothing (the Rust code uses the checked `heap.get(i)`;
`pop_max_if` calls it with `i = len` after removing the last element) -/
theorem upHeapify_noop {s : Store P} {i : Nat} (hi : s.heap[i]? = none) : upHeapify s i = .ok s := by
  simp only [upHeapify, hi]; rfl

/-- `up_heapify(i)` repairs a min-max heap in which the priority at position `i` was changed arbitrarily: it never
faults, keeps the tables well-formed, the map and the size, and re-establishes the order. -/
theorem upHeapify_spec {s : Store P} {i : Nat} (h : s.WF) (hi : i < s.size)
    (hpre : ∀ a d, Anc a d → d < s.size → a ≠ i → d ≠ i → s.Rel a d) :
    ∃ s', upHeapify s i = .ok s' ∧ s'.WF ∧ s'.map = s.map ∧ s'.size = s.size ∧ s'.MinMaxHeap := by
  obtain ⟨idx, hidx, _⟩ := TWF.heap_some h hi
  obtain ⟨s1, pos, hrun1, hwf1, hm1, hsz1, hle, _, hord1⟩ := bubbleUp_order h hidx hpre
  have hwf1' : s1.WF := by unfold Store.WF; rw [hsz1]; exact hwf1
  by_cases hne : i = pos
  · -- nothing moved: a single `heapify` at `i = pos`
    subst hne
    obtain ⟨s2, hrun2, hwf2, hm2, hsz2, hfrom2, _⟩ := heapify_spec (lo := 0) (i := i) hwf1' (by omega) (Nat.zero_le _)
      (fun a d had hd _ hai => hord1 a d had (by omega) hai)
    refine ⟨s2, ?_, hwf2, by rw [hm2, hm1], by rw [hsz2, hsz1], (minMaxHeap_iff_from s2).mpr hfrom2⟩
    simp only [upHeapify, hidx, hrun1, bind, Except.bind, ne_eq, not_true_eq_false, if_false, pure, Except.pure]
    exact hrun2
  · -- the vacated position `i` is re-sifted first, then the final position
    obtain ⟨s2, hrun2, hwf2, hm2, hsz2, hfrom2, _⟩ := heapify_spec (lo := 0) (i := i) hwf1' (by omega) (Nat.zero_le _)
      (fun a d had hd _ hai => hord1 a d had (by omega) hai)
    obtain ⟨s3, hrun3, hwf3, hm3, hsz3, hfrom3, _⟩ := heapify_spec (lo := 0) (i := pos) hwf2 (by omega) (Nat.zero_le _)
      (fun a d had hd hlo _ => hfrom2 a d had hd hlo)
    refine ⟨s3, ?_, hwf3, by rw [hm3, hm2, hm1], by rw [hsz3, hsz2, hsz1], (minMaxHeap_iff_from s3).mpr hfrom3⟩
    simp only [upHeapify, hidx, hrun1, bind, Except.bind, ne_eq, hne, not_false_eq_true, if_true, hrun2]
    exact hrun3

/-! ## Non-vacuity -/

/-- the hypotheses hold for `exU` at `i = 3` (not a min-max heap), so the theorem really repairs something -/
example : ∃ (s : Store Nat) (i : Nat), s.WF ∧ i < s.size ∧
    (∀ a d, Anc a d → d < s.size → a ≠ i → d ≠ i → s.Rel a d) ∧ ¬ s.MinMaxHeap :=
  ⟨Up.exU, 3, Up.exU_WF, by decide, Up.exU_pre, Up.exU_not_heap⟩

example : ∃ s', upHeapify Up.exU 3 = .ok s' ∧ s'.WF ∧ s'.size = 11 ∧ s'.MinMaxHeap := by
  obtain ⟨s', h1, h2, _, h3, h4⟩ := upHeapify_spec Up.exU_WF (i := 3) (by decide) Up.exU_pre
  exact ⟨s', h1, h2, h3, h4⟩

/-- the model on `exU`: `95` ends at position `1`; the `90` that moved down into position `3` is re-sifted below the `60`
(this second step is the re-sift of the vacated position) -/
example : (upHeapify Up.exU 3).toOption.map (fun s => (s.pr 1, s.pr 3, s.pr 7)) = some (some 95, some 60, some 90) := by
  decide

/-- without the re-sift of the vacated position (the historical bug of the crate: only `heapify(pos)` after the sift-up)
the pair `(3, 7)` stays out of order: `90` on a min level above `60` -/
example : ((bubbleUp Up.exU 3 3).toOption.bind fun r => (heapify r.1 r.2).toOption.map fun s => (s.pr 3, s.pr 7)) =
    some (some 90, some 60) := by decide

/-- `upHeapify_noop`: position `11` is outside the table -/
example : upHeapify Up.exU 11 = .ok Up.exU := upHeapify_noop (by decide)

end DQ
end PQ
