import PQ.Lemmas.SrcEquiv
/-!
# Source-translated tie: the min-max heap (`bubble_up*`, `heapify*`, `find_max`, `up_heapify`, `heap_build` of
`src/double_priority_queue/mod.rs`)

Same method as `SrcEquiv.lean`.  `bubble_up_min` / `bubble_up_max` take `hole: &mut Hole`: the IR functions receive the
hole as its two `usize` fields plus the priority and return the new `hole.position` (see `PQ/Model/SRC_README.md`).
-/
set_option linter.unusedSimpArgs false
set_option linter.unusedSectionVars false
namespace PQ.SrcEquiv
open PQ PQ.Src PQ.SrcGen

variable {P : Type} [LT P] [DecidableLT P]

/-! ## `DoublePriorityQueue::bubble_up_min`, `bubble_up_max` -/

theorem bubbleUpMinLoop_hole (prio : P) :
    HoleLoop (fun f s pos => DQ.bubbleUpMinLoop f s pos prio) (fun pos => pos > 0 ∧ Arith.parent pos > 0)
      (fun pos => Arith.parent (Arith.parent pos)) (prio < ·) 320 321 322 :=
  ⟨fun _ _ => rfl, fun f s pos => by
    simp only [DQ.bubbleUpMinLoop, holeStep, bind_assoc, pure_bind, ite_bind, ↓reduceIte, Bool.false_eq_true]⟩

theorem bubbleUpMaxLoop_hole (prio : P) :
    HoleLoop (fun f s pos => DQ.bubbleUpMaxLoop f s pos prio) (fun pos => pos > 0 ∧ Arith.parent pos > 0)
      (fun pos => Arith.parent (Arith.parent pos)) (· < prio) 323 324 325 :=
  ⟨fun _ _ => rfl, fun f s pos => by
    simp only [DQ.bubbleUpMaxLoop, holeStep, bind_assoc, pure_bind, ite_bind, ↓reduceIte, Bool.false_eq_true]⟩

/-- what the loop and its caller look at: the store, the hole position (register 0), the priority (register 2) -/
def projD (st : St P) : Store P × Nat × Option P := (st.s, st.n 0, st.p 2)

theorem dqBubbleUpMin_loop_body (prio : P) (rec : Stmt → St P → R (St P × Flow P)) (callf : CallF P) (st : St P)
    (hp : st.p 2 = some prio) (hpos : st.n 0 > 0 ∧ Arith.parent (st.n 0) > 0) :
    (fun r => (projD r.1, r.2)) <$> execStep rec callf dqBubbleUpMin_loop1_body st
      = (fun b => ((b.1.1, b.1.2, some prio), if b.2 then Flow.normal else Flow.brk)) <$>
        holeStep (fun pos => Arith.parent (Arith.parent pos)) (prio < ·) 320 321 322 st.s (st.n 0) := by
  have h1 : ¬ st.n 0 = 0 := by omega
  have h2 : ¬ Arith.parent (st.n 0) = 0 := by omega
  src_eval [dqBubbleUpMin_loop1_body, projD, holeStep, Store.prioAt, hp, h1, h2]
  src_close

theorem dqBubbleUpMax_loop_body (prio : P) (rec : Stmt → St P → R (St P × Flow P)) (callf : CallF P) (st : St P)
    (hp : st.p 2 = some prio) (hpos : st.n 0 > 0 ∧ Arith.parent (st.n 0) > 0) :
    (fun r => (projD r.1, r.2)) <$> execStep rec callf dqBubbleUpMax_loop1_body st
      = (fun b => ((b.1.1, b.1.2, some prio), if b.2 then Flow.normal else Flow.brk)) <$>
        holeStep (fun pos => Arith.parent (Arith.parent pos)) (· < prio) 323 324 325 st.s (st.n 0) := by
  have h1 : ¬ st.n 0 = 0 := by omega
  have h2 : ¬ Arith.parent (st.n 0) = 0 := by omega
  src_eval [dqBubbleUpMax_loop1_body, projD, holeStep, Store.prioAt, hp, h1, h2]
  src_close

/-- the loop condition `hole.position > 0 && parent(hole.position) > 0` of both functions (`site`: the subtraction) -/
theorem dqBubbleUp_loop_cond (site : Nat) (callf : CallF P) (st : St P) :
    evalB callf st (.and (.gtN (.var 0) (.lit 0)) (.gtN (.parent site (.var 0)) (.lit 0)))
      = pure (st.s, decide (st.n 0 > 0 ∧ Arith.parent (st.n 0) > 0)) := by
  src_eval
  by_cases h : st.n 0 > 0
  · have h1 : ¬ st.n 0 = 0 := by omega
    simp [h, h1]
  · simp [h]

theorem grandparent_lt (pos : Nat) (h : pos > 0 ∧ Arith.parent pos > 0) : Arith.parent (Arith.parent pos) < pos := by
  simp only [Arith.parent] at h ⊢
  omega

/-- `bubble_up_min(map, hole, priority)` / `bubble_up_max`: a function whose body is the `while` over the hole followed by
`hole.position` as the result computes the model loop `L`.  The hole is passed as its two fields. -/
theorem dqBubbleUpM {fid : FnId} {cnd : BExpr} {body : Stmt} {L : Nat → Store P → Nat → P → R (Store P × Nat)}
    {up : P → P → Prop} [∀ prio, DecidablePred (up prio)] {g w1 w2 : Nat}
    (hfn : prog fid = some { nparams := [0, 1], pparams := [2], body := .seq (.while cnd body) (.retN (.var 0)) })
    (hL : ∀ prio, HoleLoop (fun f s pos => L f s pos prio) (fun pos => pos > 0 ∧ Arith.parent pos > 0)
      (fun pos => Arith.parent (Arith.parent pos)) (up prio) g w1 w2)
    (hcond : ∀ (callf : CallF P) st,
      evalB callf st cnd = pure (st.s, decide (st.n 0 > 0 ∧ Arith.parent (st.n 0) > 0)))
    (hbody : ∀ prio rec callf (st : St P), st.p 2 = some prio → st.n 0 > 0 ∧ Arith.parent (st.n 0) > 0 →
      (fun r => (projD r.1, r.2)) <$> execStep rec callf body st
        = (fun b => ((b.1.1, b.1.2, some prio), if b.2 then Flow.normal else Flow.brk)) <$>
          holeStep (fun pos => Arith.parent (Arith.parent pos)) (up prio) g w1 w2 st.s (st.n 0))
    (s : Store P) (pos mp : Nat) (prio : P) (fuel : Nat) (h : fuel ≥ pos + 2) :
    Src.run SrcGen.prog fuel fid s [pos, mp] [prio] = (fun r => (r.1, Val.nat r.2)) <$> L (pos + 1) s pos prio := by
  obtain ⟨k, rfl⟩ : ∃ k, fuel = k + 2 := ⟨fuel - 2, by omega⟩
  rw [run_eq hfn]
  src_eval
  have hl := (hL prio).while projD (some prio) (fun _ => rfl) hcond (hbody prio) (pos + 1) (k + 1)
    { s := s, n := upd (upd (fun _ => 0) 1 mp) 0 pos, p := upd (fun _ => none) 2 (some prio) } (by omega)
    (by simp [projD, upd]) (by simpa [projD, upd] using (hL prio).noFuel grandparent_lt (pos + 1) s pos (by omega))
  simp only [projD, upd, ↓reduceIte, Nat.reduceEqDiff] at hl
  refine Agrees.bindFin (kx := execStep (exec prog (k + 1)) (callWith (exec prog (k + 1)) prog) (.retN (.var 0))) hl ?_
  intro st' b hy hrel
  simp only [projD, Prod.mk.injEq] at hrel
  src_eval [hrel.1, hrel.2.1]

/-- `DoublePriorityQueue::bubble_up_min` = the loop of `DQ.bubbleUpMin`; the new `hole.position` is returned -/
theorem dqBubbleUpMin (s : Store P) (pos mp : Nat) (prio : P) (fuel : Nat) (h : fuel ≥ pos + 2) :
    Src.run SrcGen.prog fuel .dqBubbleUpMin s [pos, mp] [prio]
      = (fun r => (r.1, Val.nat r.2)) <$> DQ.bubbleUpMinLoop (pos + 1) s pos prio :=
  dqBubbleUpM rfl bubbleUpMinLoop_hole (dqBubbleUp_loop_cond 392) dqBubbleUpMin_loop_body s pos mp prio fuel h

/-- `DoublePriorityQueue::bubble_up_max` = the loop of `DQ.bubbleUpMax`; the new `hole.position` is returned -/
theorem dqBubbleUpMax (s : Store P) (pos mp : Nat) (prio : P) (fuel : Nat) (h : fuel ≥ pos + 2) :
    Src.run SrcGen.prog fuel .dqBubbleUpMax s [pos, mp] [prio]
      = (fun r => (r.1, Val.nat r.2)) <$> DQ.bubbleUpMaxLoop (pos + 1) s pos prio :=
  dqBubbleUpM rfl bubbleUpMaxLoop_hole (dqBubbleUp_loop_cond 395) dqBubbleUpMax_loop_body s pos mp prio fuel h

/-! ## `DoublePriorityQueue::bubble_up` -/

theorem call_dqBubbleUpMin (s : Store P) (pos mp : Nat) (prio : P) (n : Nat) (h : n ≥ pos + 2) :
    callWith (exec prog n) prog .dqBubbleUpMin s [pos, mp] [prio] []
      = (fun r => (r.1, Val.nat r.2)) <$> DQ.bubbleUpMinLoop (pos + 1) s pos prio :=
  dqBubbleUpMin s pos mp prio n h

theorem call_dqBubbleUpMax (s : Store P) (pos mp : Nat) (prio : P) (n : Nat) (h : n ≥ pos + 2) :
    callWith (exec prog n) prog .dqBubbleUpMax s [pos, mp] [prio] []
      = (fun r => (r.1, Val.nat r.2)) <$> DQ.bubbleUpMaxLoop (pos + 1) s pos prio :=
  dqBubbleUpMax s pos mp prio n h

/-- `DoublePriorityQueue::bubble_up` = `DQ.bubbleUp` -/
theorem dqBubbleUp (s : Store P) (position mapPosition : Nat) (fuel : Nat) (h : fuel ≥ position + 3) :
    Src.run SrcGen.prog fuel .dqBubbleUp s [position, mapPosition]
      = (fun r => (r.1, Val.nat r.2)) <$> DQ.bubbleUp s position mapPosition := by
  obtain ⟨k, rfl⟩ : ∃ k, fuel = k + 2 := ⟨fuel - 2, by omega⟩
  have hpar : k + 1 ≥ Arith.parent position + 2 := by simp only [Arith.parent]; omega
  src_enter
  unfold DQ.bubbleUp
  src_eval [dqBubbleUp_body, call_dqBubbleUpMin _ position mapPosition _ (k + 1) (by omega),
    call_dqBubbleUpMax _ position mapPosition _ (k + 1) (by omega),
    call_dqBubbleUpMin _ (Arith.parent position) mapPosition _ (k + 1) hpar,
    call_dqBubbleUpMax _ (Arith.parent position) mapPosition _ (k + 1) hpar]
  refine bind_congr_ok fun e he => ?_
  have hmap : s.map.getIndex mapPosition = some e := (unwrapO_ok_iff _ _ _).mp he
  by_cases hpos : position > 0
  · have h0 : ¬ position = 0 := by omega
    simp only [hpos, h0, ↓reduceIte, Store.prioAt, DQ.bubbleUpMin, DQ.bubbleUpMax, map_tick, hmap, unwrapO_some,
      bind_assoc, pure_bind, ok_bind]
    -- the model reads the parent's heap entry a second time, at site 311
    refine getU_bind_congr fun pi hpi => bind_congr fun pp => ?_
    rw [hpi 311, ok_bind]
    cases decide (Arith.level position % 2 = 0) <;> cases decide (pp.snd < e.snd) <;>
      simp only [bind_assoc, pure_bind, fin_ret, upd, ↓reduceIte, Nat.reduceEqDiff]
  · simp only [hpos, ↓reduceIte]
/-! ## `DoublePriorityQueue::heapify_min` -/

theorem candList_eq (s : Store P) (cs : List Nat) : candList s 303 cs = DQ.candidates.go s cs := by
  induction cs with
  | nil => rfl
  | cons c cs ih =>
    simp only [candList, DQ.candidates.go, ih]
    cases s.heap[c]? <;> rfl

theorem firstMin_eq (l : List (Nat × P)) : firstMin l = DQ.minByKey l := by
  cases l <;> rfl

theorem lastMax_eq (l : List (Nat × P)) : lastMax l = DQ.maxByKey l := by
  cases l <;> rfl

/-- the loop condition `i <= parent(Position(self.len() - 1))` in the hand model's terms -/
def dCondMin (s : Store P) (i : Nat) : R Bool := do
  let last ← decC s.size 301
  let bound ← DQ.parentC last 302
  pure (decide (i ≤ bound))

def dCondMax (s : Store P) (i : Nat) : R Bool := do
  let last ← decC s.size 306
  let bound ← DQ.parentC last 307
  pure (decide (i ≤ bound))

/-- one iteration of the loop of `heapify_min` / `heapify_max` in the hand model's terms: `sel` picks among the children
and grandchildren, `lt a b` says that `a` belongs above `b`; the flag says whether the loop goes on.  `u`, `p` are the
sites of the `unwrap` and of `parent`. -/
def dDown (sel : List (Nat × P) → Option (Nat × P)) (lt : P → P → Prop) [DecidableRel lt] (u p : Nat)
    (s : Store P) (i : Nat) : R ((Store P × Nat) × Bool) := do
  let cs ← DQ.candidates s i
  let c ← unwrapO (sel cs) u
  let c := c.1
  let s := s.tick (cs.length - 1)
  let pc ← s.prioAt c
  let pm ← s.prioAt i
  let s := s.tick
  if lt pc pm then do
    let s ← s.swap c i
    if c > Arith.right i then do
      let p ← DQ.parentC c p
      let pc ← s.prioAt c
      let pp ← s.prioAt p
      let s := s.tick
      let s ← if lt pp pc then s.swap c p else pure s
      pure ((s, c), true)
    else pure ((s, c), false)
  else pure ((s, c), false)

/-- what the loop of `heapify_min` / `heapify_max` looks at: the store and `i` (register 0) -/
def proj0 (st : St P) : Store P × Nat := (st.s, st.n 0)

theorem dqHeapifyMin_loop_body (g : Nat) (st : St P) :
    (fun r => (proj0 r.1, r.2)) <$>
        execStep (exec prog (g + 1)) (callWith (exec prog (g + 1)) prog) dqHeapifyMin_loop1_body st
      = (fun b => (b.1, if b.2 then Flow.normal else Flow.brk)) <$>
        dDown DQ.minByKey (· < ·) 304 305 st.s (st.n 0) := by
  src_eval [dqHeapifyMin_loop1_body, call_storeSwap, call_storePrioAt, candList_eq, firstMin_eq, proj0, dDown,
    DQ.candidates, DQ.parentC]
  src_close

theorem dqHeapifyMax_loop_body (g : Nat) (st : St P) :
    (fun r => (proj0 r.1, r.2)) <$>
        execStep (exec prog (g + 1)) (callWith (exec prog (g + 1)) prog) dqHeapifyMax_loop1_body st
      = (fun b => (b.1, if b.2 then Flow.normal else Flow.brk)) <$>
        dDown DQ.maxByKey (fun a b => b < a) 308 309 st.s (st.n 0) := by
  src_eval [dqHeapifyMax_loop1_body, call_storeSwap, call_storePrioAt, candList_eq, lastMax_eq, proj0, dDown,
    DQ.candidates, DQ.parentC]
  src_close

theorem dqHeapifyMin_loop_cond (callf : CallF P) (st : St P) :
    evalB callf st dqHeapifyMin_loop1_cond = (fun b => (st.s, b)) <$> dCondMin st.s (st.n 0) := by
  src_eval [dqHeapifyMin_loop1_cond, dCondMin, decC, DQ.parentC]
  by_cases h0 : st.s.size = 0
  · simp [h0]
  · have h1 : ¬ st.s.size < 1 := by omega
    simp only [h0, h1, ↓reduceIte]
    src_close

theorem dqHeapifyMax_loop_cond (callf : CallF P) (st : St P) :
    evalB callf st dqHeapifyMax_loop1_cond = (fun b => (st.s, b)) <$> dCondMax st.s (st.n 0) := by
  src_eval [dqHeapifyMax_loop1_cond, dCondMax, decC, DQ.parentC]
  by_cases h0 : st.s.size = 0
  · simp [h0]
  · have h1 : ¬ st.s.size < 1 := by omega
    simp only [h0, h1, ↓reduceIte]
    src_close

theorem candidates_go_noFuel (s : Store P) (cs : List Nat) : NoFuel (DQ.candidates.go s cs) := by
  induction cs with
  | nil => exact NoFuel.pure _
  | cons c cs ih =>
    rw [DQ.candidates.go]
    cases s.heap[c]? with
    | none => exact NoFuel.pure _
    | some idx => simp only; no_fuel

theorem dCondMin_noFuel (s : Store P) (i : Nat) : NoFuel (dCondMin s i) := by
  unfold dCondMin
  no_fuel

theorem dCondMax_noFuel (s : Store P) (i : Nat) : NoFuel (dCondMax s i) := by
  unfold dCondMax
  no_fuel

theorem decParent_post (n i a b : Nat) :
    Post (do let last ← decC n a; let bound ← DQ.parentC last b; pure (decide (i ≤ bound)))
      (fun r => r = true → i + 1 < n) := by
  unfold decC DQ.parentC
  split
  · intro b hb; cases hb
  · simp only [ok_bind]
    split
    · intro b hb; cases hb
    · simp only [ok_bind, Arith.parent]
      refine Post.pure ?_
      simp only [decide_eq_true_eq]
      omega

theorem dCondMin_post (s : Store P) (i : Nat) : Post (dCondMin s i) (fun b => b = true → i + 1 < s.size) :=
  decParent_post s.size i 301 302

theorem dCondMax_post (s : Store P) (i : Nat) : Post (dCondMax s i) (fun b => b = true → i + 1 < s.size) :=
  decParent_post s.size i 306 307

section DownLoop
variable {sel : List (Nat × P) → Option (Nat × P)} {lt : P → P → Prop} [DecidableRel lt] {u p : Nat}

theorem dDown_noFuel (s : Store P) (i : Nat) : NoFuel (dDown sel lt u p s i) := by
  unfold dDown DQ.candidates
  refine NoFuel.bind (candidates_go_noFuel _ _) fun _ _ => ?_
  no_fuel

theorem dDown_post (s : Store P) (i : Nat) :
    Post (dDown sel lt u p s i) (fun r => Kept s r.1.1 ∧ (r.2 = true → r.1.2 > i)) := by
  unfold dDown
  refine Post.bind (Post.triv _) fun cs _ => Post.bind (Post.triv _) fun c _ => Post.bind (Post.triv _) fun pc _ =>
    Post.bind (Post.triv _) fun pm _ => Post.ite (fun _ => ?_) (fun _ => Post.pure ⟨⟨rfl, rfl, rfl⟩, by simp⟩)
  refine Post.bind (swap_kept _ _ _) fun s1 h1 => Post.ite (fun hgt => ?_) (fun _ => Post.pure ⟨h1, by simp⟩)
  refine Post.bind (Post.triv _) fun p _ => Post.bind (Post.triv _) fun _ _ => Post.bind (Post.triv _) fun _ _ => ?_
  dsimp only
  have hgt' : c.1 > i := by simp only [Arith.right] at hgt; omega
  exact Post.ite (fun _ => Post.bind (swap_kept _ _ _) fun s2 h2 => Post.pure ⟨h1.trans h2, fun _ => hgt'⟩)
    (fun _ => Post.bind (Post.pure (Q := Kept s) h1) fun s2 h2 => Post.pure ⟨h2, fun _ => hgt'⟩)

/-- `L` is a sift-down loop of the min-max heap: out of fuel at `0`; otherwise, while `cond` allows, one `dDown`, going
on if it says so -/
def DownLoop (L : Nat → Store P → Nat → R (Store P)) (cond : Store P → Nat → R Bool)
    (sel : List (Nat × P) → Option (Nat × P)) (lt : P → P → Prop) [DecidableRel lt] (u p : Nat) : Prop :=
  (∀ s i, L 0 s i = .error .fuel) ∧ ∀ f s i, L (f + 1) s i = cond s i >>= fun b =>
    if b then dDown sel lt u p s i >>= fun r => if r.2 then L f r.1.1 r.1.2 else pure r.1.1 else pure s

variable {L : Nat → Store P → Nat → R (Store P)} {cond : Store P → Nat → R Bool}

theorem DownLoop.noFuel (h : DownLoop L cond sel lt u p) (hc : ∀ s i, NoFuel (cond s i))
    (hcp : ∀ s i, Post (cond s i) (fun b => b = true → i + 1 < s.size)) (f : Nat) :
    ∀ (s : Store P) (i : Nat), 1 ≤ f → s.size ≤ f + i → NoFuel (L f s i) := by
  induction f with
  | zero => intro s i h; omega
  | succ f ih =>
    intro s i _ hsz
    rw [h.2]
    refine NoFuel.bind (hc s i) fun b hb => NoFuel.ite (fun hbt => ?_) (fun _ => NoFuel.pure _)
    have hlt := hcp s i b hb hbt
    refine NoFuel.bind (dDown_noFuel s i) fun r hr => NoFuel.ite (fun hr2 => ?_) (fun _ => NoFuel.pure _)
    have hp := dDown_post s i r hr
    have := hp.2 hr2
    have := hp.1.1
    exact ih _ _ (by omega) (by omega)

theorem DownLoop.kept (h : DownLoop L cond sel lt u p) (f : Nat) :
    ∀ (s : Store P) (i : Nat), Post (L f s i) (Kept s) := by
  induction f with
  | zero => intro s i r hr; rw [h.1] at hr; cases hr
  | succ f ih =>
    intro s i
    rw [h.2]
    refine Post.bind (Post.triv _) fun b _ => Post.ite (fun _ => ?_) (fun _ => Post.pure (Kept.refl s))
    refine Post.bind (dDown_post s i) fun r hr => Post.ite (fun _ => ?_) (fun _ => Post.pure hr.1)
    intro s' hs'
    exact hr.1.trans (ih _ _ s' hs')

/-- `heapify_min` / `heapify_max`: a function whose body is the `while` computes the model loop `L` (the model runs it
with fuel `size`) -/
theorem dqHeapifyM {fid : FnId} {cnd : BExpr} {body : Stmt} (h : DownLoop L cond sel lt u p)
    (hfn : prog fid = some { nparams := [0], pparams := [], body := .while cnd body })
    (hc : ∀ s i, NoFuel (cond s i)) (hcp : ∀ s i, Post (cond s i) (fun b => b = true → i + 1 < s.size))
    (hcond : ∀ (callf : CallF P) st, evalB callf st cnd = (fun b => (st.s, b)) <$> cond st.s (st.n 0))
    (hbody : ∀ g (st : St P), (fun r => (proj0 r.1, r.2)) <$>
        execStep (exec prog (g + 1)) (callWith (exec prog (g + 1)) prog) body st
      = (fun b => (b.1, if b.2 then Flow.normal else Flow.brk)) <$> dDown sel lt u p st.s (st.n 0))
    (s : Store P) (i : Nat) (fuel : Nat) (hs : 1 ≤ s.size) (hf : fuel ≥ s.size + 2) :
    Src.run SrcGen.prog fuel fid s [i] = (fun s' => (s', Val.unit)) <$> L s.size s i := by
  obtain ⟨k, rfl⟩ : ∃ k, fuel = k + 2 := ⟨fuel - 2, by omega⟩
  rw [run_eq hfn, exec_succ]
  simp only [map_eq_pure_bind, Function.comp]
  have hb : ∀ g (st : St P) b, 1 ≤ g → proj0 st = b → cond b.1 b.2 = .ok true →
      AgreesB (execStep (exec prog g) (callWith (exec prog g) prog) body st) (dDown sel lt u p b.1 b.2)
        (fun st b => proj0 st = b) := by
    intro g st b hg hb _
    subst hb
    obtain ⟨g, rfl⟩ : ∃ g', g = g' + 1 := ⟨g - 1, by omega⟩
    exact agreesB_of_map_eq proj0 _ _ (hbody g st)
  have hw := while_agrees (L := fun f (b : Store P × Nat) => L f b.1 b.2) (out := fun b => b.1) 1
    (fun _ => h.1 _ _) (fun f b => h.2 f b.1 b.2)
    (fun callf st b (hb : proj0 st = b) => by subst hb; exact hcond callf st) hb s.size (k + 1)
    { s := s, n := bindN [0] [i], p := bindP [] [], v := bindV [] [] } (s, i) (by omega) rfl
    (h.noFuel hc hcp s.size s i hs (by omega))
  exact Agrees.fin_unit (hw.mono fun st' r ⟨b', h1, h2⟩ => by subst h1; exact h2.symm)

end DownLoop

theorem heapifyMinLoop_down : DownLoop (DQ.heapifyMinLoop (P := P)) dCondMin DQ.minByKey (· < ·) 304 305 :=
  ⟨fun _ _ => rfl, fun f s i => by
    simp only [DQ.heapifyMinLoop, dCondMin, dDown, bind_assoc, pure_bind, decide_eq_true_eq, ite_bind, ↓reduceIte,
      Bool.false_eq_true]⟩

theorem heapifyMaxLoop_down : DownLoop (DQ.heapifyMaxLoop (P := P)) dCondMax DQ.maxByKey (fun a b => b < a) 308 309 :=
  ⟨fun _ _ => rfl, fun f s i => by
    simp only [DQ.heapifyMaxLoop, dCondMax, dDown, bind_assoc, pure_bind, decide_eq_true_eq, ite_bind, ↓reduceIte,
      Bool.false_eq_true]⟩

/-- `DoublePriorityQueue::heapify_min` = the loop of `DQ.heapify` on min levels -/
theorem dqHeapifyMin (s : Store P) (i : Nat) (fuel : Nat) (hs : 1 ≤ s.size) (h : fuel ≥ s.size + 2) :
    Src.run SrcGen.prog fuel .dqHeapifyMin s [i]
      = (fun s' => (s', Val.unit)) <$> DQ.heapifyMinLoop s.size s i :=
  dqHeapifyM heapifyMinLoop_down rfl dCondMin_noFuel dCondMin_post dqHeapifyMin_loop_cond dqHeapifyMin_loop_body
    s i fuel hs h

/-- `DoublePriorityQueue::heapify_max` = the loop of `DQ.heapify` on max levels -/
theorem dqHeapifyMax (s : Store P) (i : Nat) (fuel : Nat) (hs : 1 ≤ s.size) (h : fuel ≥ s.size + 2) :
    Src.run SrcGen.prog fuel .dqHeapifyMax s [i]
      = (fun s' => (s', Val.unit)) <$> DQ.heapifyMaxLoop s.size s i :=
  dqHeapifyM heapifyMaxLoop_down rfl dCondMax_noFuel dCondMax_post dqHeapifyMax_loop_cond dqHeapifyMax_loop_body
    s i fuel hs h

/-! ## `DoublePriorityQueue::heapify` -/

theorem call_dqHeapifyMin (s : Store P) (i n : Nat) (hs : 1 ≤ s.size) (h : n ≥ s.size + 2) :
    callWith (exec prog n) prog .dqHeapifyMin s [i] [] [] = (fun s' => (s', Val.unit)) <$> DQ.heapifyMinLoop s.size s i :=
  dqHeapifyMin s i n hs h

theorem call_dqHeapifyMax (s : Store P) (i n : Nat) (hs : 1 ≤ s.size) (h : n ≥ s.size + 2) :
    callWith (exec prog n) prog .dqHeapifyMax s [i] [] [] = (fun s' => (s', Val.unit)) <$> DQ.heapifyMaxLoop s.size s i :=
  dqHeapifyMax s i n hs h

/-- `DoublePriorityQueue::heapify` = `DQ.heapify` -/
theorem dqHeapify (s : Store P) (i : Nat) (fuel : Nat) (h : fuel ≥ s.size + 3) :
    Src.run SrcGen.prog fuel .dqHeapify s [i] = (fun s' => (s', Val.unit)) <$> DQ.heapify s i := by
  obtain ⟨k, rfl⟩ : ∃ k, fuel = k + 1 := ⟨fuel - 1, by omega⟩
  src_enter
  unfold DQ.heapify
  by_cases hsz : s.size ≤ 1
  · src_eval [dqHeapify_body, hsz]
  · src_eval [dqHeapify_body, hsz, call_dqHeapifyMin s i k (by omega) (by omega),
      call_dqHeapifyMax s i k (by omega) (by omega)]
    src_close

/-! ## `DoublePriorityQueue::find_max` -/

/-- `DoublePriorityQueue::find_max` = `DQ.findMax` -/
theorem dqFindMax (s : Store P) (fuel : Nat) (h : fuel ≥ 2) :
    Src.run SrcGen.prog fuel .dqFindMax s [] = (fun r => (r.1, Val.optNat r.2)) <$> DQ.findMax s := by
  obtain ⟨k, rfl⟩ : ∃ k, fuel = k + 2 := ⟨fuel - 2, by omega⟩
  src_enter
  unfold DQ.findMax
  obtain h0 | h1 | h2 | ⟨n, hn⟩ : s.size = 0 ∨ s.size = 1 ∨ s.size = 2 ∨ ∃ n, s.size = n + 3 := by
    by_cases h0 : s.size = 0
    · exact Or.inl h0
    by_cases h1 : s.size = 1
    · exact Or.inr (Or.inl h1)
    by_cases h2 : s.size = 2
    · exact Or.inr (Or.inr (Or.inl h2))
    exact Or.inr (Or.inr (Or.inr ⟨s.size - 3, by omega⟩))
  · src_eval [dqFindMax_body, h0]
  · src_eval [dqFindMax_body, h1]
  · src_eval [dqFindMax_body, h2]
  · src_eval [dqFindMax_body, hn, keysByPrioAt, call_storePrioAt, lastMax, unwrapO_some, List.foldl_cons, List.foldl_nil,
      List.length_cons, List.length_nil]
    src_close

/-! ## `DoublePriorityQueue::up_heapify`, `heap_build` -/

theorem dq_heapify_kept (s : Store P) (i : Nat) : Post (DQ.heapify s i) (Kept s) := by
  unfold DQ.heapify
  exact Post.ite (fun _ => Post.pure (Kept.refl s)) fun _ =>
    Post.ite (fun _ => heapifyMinLoop_down.kept _ _ _) (fun _ => heapifyMaxLoop_down.kept _ _ _)

theorem dq_bubbleUp_kept (s : Store P) (pos mp : Nat) : Post (DQ.bubbleUp s pos mp) (fun r => Kept s r.1) := by
  unfold DQ.bubbleUp
  refine Post.bind (Post.triv _) fun e _ => ?_
  dsimp only
  have tail : ∀ (x : Store P × Nat), Kept s x.1 → Post (do
      let heap ← setU x.1.heap x.2 mp 316
      let qp ← setU x.1.qp mp x.2 317
      pure (({ x.1 with heap := heap, qp := qp } : Store P), x.2)) (fun r => Kept s r.1) := fun x hx =>
    Post.bind (setU_post_size _ _ _ _) fun _ hh => Post.bind (Post.triv _) fun _ _ =>
      Post.pure ⟨hx.1, hx.2.1, hh.trans hx.2.2⟩
  have hmin : ∀ (s' : Store P) p, Kept s s' → Post (DQ.bubbleUpMin s' p mp) (fun r => Kept s r.1) :=
    fun s' p hs' => Post.bind (Post.triv _) fun e _ r hr => hs'.trans ((bubbleUpMinLoop_hole e.2).kept _ _ _ r hr)
  have hmax : ∀ (s' : Store P) p, Kept s s' → Post (DQ.bubbleUpMax s' p mp) (fun r => Kept s r.1) :=
    fun s' p hs' => Post.bind (Post.triv _) fun e _ r hr => hs'.trans ((bubbleUpMaxLoop_hole e.2).kept _ _ _ r hr)
  refine Post.ite (fun _ => ?_)
    (fun _ => Post.bind (Post.pure (Q := fun (r : Store P × Nat) => Kept s r.1) (Kept.refl s)) tail)
  refine Post.bind (Post.triv _) fun pp _ => Post.bind (Post.triv _) fun pi _ => ?_
  split
  · exact Post.bind (setU_post_size _ _ _ _) fun _ hh => Post.bind (Post.triv _) fun _ _ =>
      Post.bind (hmax _ _ ⟨rfl, rfl, hh⟩) tail
  · exact Post.bind (hmin _ _ ⟨rfl, rfl, rfl⟩) tail
  · exact Post.bind (hmax _ _ ⟨rfl, rfl, rfl⟩) tail
  · exact Post.bind (setU_post_size _ _ _ _) fun _ hh => Post.bind (Post.triv _) fun _ _ =>
      Post.bind (hmin _ _ ⟨rfl, rfl, hh⟩) tail

theorem call_dqHeapify (s : Store P) (i n : Nat) (h : n ≥ s.size + 3) :
    callWith (exec prog n) prog .dqHeapify s [i] [] [] = (fun s' => (s', Val.unit)) <$> DQ.heapify s i :=
  dqHeapify s i n h

theorem call_dqBubbleUp (s : Store P) (pos mp n : Nat) (h : n ≥ pos + 3) :
    callWith (exec prog n) prog .dqBubbleUp s [pos, mp] [] [] = (fun r => (r.1, Val.nat r.2)) <$> DQ.bubbleUp s pos mp :=
  dqBubbleUp s pos mp n h

/-- `DoublePriorityQueue::up_heapify` = `DQ.upHeapify` -/
theorem dqUpHeapify (s : Store P) (i : Nat) (fuel : Nat) (h : fuel ≥ s.size + min i s.heap.size + 4) :
    Src.run SrcGen.prog fuel .dqUpHeapify s [i] = (fun s' => (s', Val.unit)) <$> DQ.upHeapify s i := by
  rw [run_eq_pos rfl (by omega)]
  unfold DQ.upHeapify
  src_eval [dqUpHeapify_body]
  cases hget : s.heap[i]? with
  | none => src_eval
  | some tmp =>
    have hi : i < s.heap.size := getElem?_some_lt hget
    src_eval
    rw [call_dqBubbleUp _ _ _ _ (by omega)]
    src_eval
    refine bind_congr_ok fun r hr => ?_
    have hsz := (dq_bubbleUp_kept s i tmp r hr).1
    by_cases hne : i = r.2
    · simp only [hne, ne_eq, not_true_eq_false, ↓reduceIte, decide_false, Bool.false_eq_true, pure_bind]
      rw [call_dqHeapify _ _ _ (by omega)]
      src_eval
    · simp only [hne, ne_eq, not_false_eq_true, ↓reduceIte, decide_true]
      rw [call_dqHeapify _ _ _ (by omega)]
      src_eval
      refine bind_congr_ok fun s2 hs2 => ?_
      have hsz2 := (dq_heapify_kept r.1 i s2 hs2).1
      rw [call_dqHeapify _ _ _ (by omega)]
      src_eval

/-- `DoublePriorityQueue::heap_build` = `DQ.heapBuild` -/
theorem dqHeapBuild (s : Store P) (fuel : Nat) (h : fuel ≥ s.size + 4) :
    Src.run SrcGen.prog fuel .dqHeapBuild s [] = (fun s' => (s', Val.unit)) <$> DQ.heapBuild s := by
  rw [run_eq_pos rfl (by omega)]
  unfold DQ.heapBuild
  by_cases hsz : s.size = 0
  · src_eval [dqHeapBuild_body, hsz]
  · rw [dqHeapBuild_body, execStep_seq]
    src_eval [hsz, DQ.parentC]
    refine Agrees.fin_unit (heapBuild_for (heapifyM := DQ.heapify) (loopM := DQ.heapBuildLoop) (fun _ => rfl) (fun _ _ => rfl) dq_heapify_kept s.size _ ?_ _ _ rfl)
    intro j st hn
    rw [call_dqHeapify _ _ _ (by omega)]
    src_eval
end PQ.SrcEquiv
