import PQ.Lemmas.SrcEquivBase
/-!
# Source-translated tie: `Store::swap`, `get_priority_from_position` and the binary heap (`heapify`, `bubble_up`,
`up_heapify`, `heap_build` of `src/priority_queue/mod.rs`)

For each Rust function translated by `tools/gen_src.py` (`PQ.SrcGen.*`, regenerated from `/repo/src` on every run) a
theorem `PQ.SrcEquiv.<fn>`: with enough fuel the interpreter `PQ.Src.run` on the GENERATED term returns exactly what
the hand-written model function returns — the same store (including `ticks`), the same value, the same fault with
the same site.  These proofs are expected to FAIL when the Rust function is edited: that is the signal.
-/
set_option linter.unusedSimpArgs false
set_option linter.unusedSectionVars false
namespace PQ.SrcEquiv
open PQ PQ.Src PQ.SrcGen

variable {P : Type} [LT P] [DecidableLT P]

/-! ## `Store::swap`, `Store::get_priority_from_position` -/

/-- `Store::swap` = `Store.swap` -/
theorem storeSwap (s : Store P) (a b : Nat) (fuel : Nat) (h : fuel ≥ 1) :
    Src.run SrcGen.prog fuel .storeSwap s [a, b] = (fun s' => (s', Val.unit)) <$> s.swap a b := by
  rw [run_eq_pos rfl h]
  src_eval [ storeSwap_body, Store.swap]

/-- `Store::get_priority_from_position` = `Store.prioAt` -/
theorem storePrioAt (s : Store P) (pos : Nat) (fuel : Nat) (h : fuel ≥ 1) :
    Src.run SrcGen.prog fuel .storePrioAt s [pos] = (fun p => (s, Val.prio p)) <$> s.prioAt pos := by
  rw [run_eq_pos rfl h]
  src_eval [ storePrioAt_body, Store.prioAt]

/-- the two theorems above as rewrite rules for call sites -/
theorem call_storeSwap (s : Store P) (a b n : Nat) :
    callWith (exec prog (n + 1)) prog .storeSwap s [a, b] [] [] = (fun s' => (s', Val.unit)) <$> s.swap a b :=
  storeSwap s a b (n + 1) (by omega)

theorem call_storePrioAt (s : Store P) (a n : Nat) :
    callWith (exec prog (n + 1)) prog .storePrioAt s [a] [] [] = (fun p => (s, Val.prio p)) <$> s.prioAt a :=
  storePrioAt s a (n + 1) (by omega)

/-- what sifting leaves alone: the size counter, the map, the length of the heap table -/
def Kept (s s' : Store P) : Prop := s'.size = s.size ∧ s'.map = s.map ∧ s'.heap.size = s.heap.size

theorem Kept.refl (s : Store P) : Kept s s := ⟨rfl, rfl, rfl⟩
theorem Kept.trans {a b c : Store P} (h1 : Kept a b) (h2 : Kept b c) : Kept a c :=
  ⟨h2.1.trans h1.1, h2.2.1.trans h1.2.1, h2.2.2.trans h1.2.2⟩

/-! ## `PriorityQueue::heapify` -/

/-- the rest of `heapifyLoop` after a selection: stop, or swap and go on -/
def hK (f : Nat) (s : Store P) (i lg : Nat) : R (Store P) :=
  if lg = i then pure s else do let s ← s.swap i lg; MaxQ.heapifyLoop f s lg

/-- one iteration of the Rust loop in the hand model's terms: swap, then select again -/
def hStep (s : Store P) (i lg : Nat) : R (Store P × Nat × Nat) := do
  let s1 ← s.swap i lg
  let r ← MaxQ.pickLargest s1 lg
  pure (r.1, lg, r.2)

theorem hK_succ (f : Nat) (s : Store P) (i lg : Nat) (h : lg ≠ i) :
    hK (f + 1) s i lg = hStep s i lg >>= fun b => hK f b.1 b.2.1 b.2.2 := by
  simp only [hK, hStep, h, ↓reduceIte, MaxQ.heapifyLoop, bind_assoc, pure_bind]

/-- the selection before the Rust loop, in the hand model's terms -/
def hPick (s : Store P) (i : Nat) : R (Store P × Nat × Nat) := do
  let r ← MaxQ.pickLargest s i
  pure (r.1, i, r.2)

theorem heapifyLoop_succ (f : Nat) (s : Store P) (i : Nat) :
    MaxQ.heapifyLoop (f + 1) s i = hPick s i >>= fun b => hK f b.1 b.2.1 b.2.2 := by
  simp only [MaxQ.heapifyLoop, hK, hPick, bind_assoc, pure_bind]

/-- what the loop of `heapify` and its caller look at: the store, `i` (register 0) and `largest` (register 3) -/
def proj03 (st : St P) : Store P × Nat × Nat := (st.s, st.n 0, st.n 3)

theorem pqHeapify_loop_body (g : Nat) (st : St P) :
    (fun r => (proj03 r.1, r.2)) <$>
        execStep (exec prog (g + 1)) (callWith (exec prog (g + 1)) prog) pqHeapify_loop1_body st
      = (fun b => (b, Flow.normal)) <$> hStep st.s (st.n 0) (st.n 3) := by
  src_eval [pqHeapify_loop1_body, call_storeSwap, call_storePrioAt, MaxQ.pickLargest, proj03, hStep]
  refine bind_congr fun x => bind_congr fun ip => ite_congr_same (fun _ => bind_congr fun cp => ?_) (fun _ => rfl)
  -- the source selects the largest by control flow, the model by value: split on the two comparisons
  by_cases h1 : ip < cp <;> simp only [h1, ↓reduceIte, Bool.false_eq_true, bind_assoc, pure_bind, ite_bind]
  all_goals
    refine ite_congr_same (fun _ => bind_congr fun rp => ?_) (fun _ => rfl)
    split <;> rfl

theorem pqHeapify_loop_cond (callf : CallF P) (st : St P) :
    evalB callf st pqHeapify_loop1_cond = pure (st.s, decide (st.n 3 ≠ st.n 0)) := by
  src_eval [pqHeapify_loop1_cond]

/-- The `while largest != i` of `heapify`.  Not an instance of `while_agrees`: the model's loop is rotated against the
source's (select, test, swap against test, swap, select), so its unfolding `hK` is not `.error .fuel` at fuel `0`. -/
theorem pqHeapify_loop (f : Nat) : ∀ (k : Nat) (st : St P), f ≤ k →
    hK f st.s (st.n 0) (st.n 3) ≠ .error .fuel →
    Agrees (exec prog (k + 2) (.while pqHeapify_loop1_cond pqHeapify_loop1_body) st)
      (hK f st.s (st.n 0) (st.n 3)) (fun st' s' => st'.s = s') := by
  induction f with
  | zero =>
    intro k st _ hne
    rw [exec, execStep_while, pqHeapify_loop_cond]
    have hb := agrees_of_map_eq proj03 _ _ (pqHeapify_loop_body k st)
    by_cases hc : st.n 3 = st.n 0
    · simp only [hK, hc, ↓reduceIte, ne_eq, not_true_eq_false, decide_false, pure_bind, Bool.false_eq_true]
      exact ⟨st, rfl, rfl⟩
    · unfold hK at hne ⊢
      simp only [hc, ↓reduceIte] at hne ⊢
      src_eval [hc, ne_eq, not_false_eq_true, decide_true]
      unfold hStep at hb
      cases hs : st.s.swap (st.n 0) (st.n 3) with
      | ok s1 => simp [hs, MaxQ.heapifyLoop, ok_bind] at hne
      | error e =>
        simp only [hs, error_bind] at hb ⊢
        rw [Agrees.error_iff] at hb ⊢
        simp only [hb, error_bind]
  | succ f ih =>
    intro k st hk hne
    obtain ⟨k, rfl⟩ : ∃ k', k = k' + 1 := ⟨k - 1, by omega⟩
    rw [exec, execStep_while, pqHeapify_loop_cond]
    have hb := agrees_of_map_eq proj03 _ _ (pqHeapify_loop_body (k + 1) st)
    by_cases hc : st.n 3 = st.n 0
    · simp only [hK, hc, ↓reduceIte, ne_eq, not_true_eq_false, decide_false, pure_bind, Bool.false_eq_true]
      exact ⟨st, rfl, rfl⟩
    · rw [hK_succ _ _ _ _ hc] at hne ⊢
      src_eval [hc, ne_eq, not_false_eq_true, decide_true]
      refine Agrees.bindW hb ?_
      intro st2 b hy hrel
      subst hrel
      refine ih k st2 (by omega) ?_
      simpa only [hy, ok_bind, proj03] using hne

theorem pqHeapify_part1_eq (g : Nat) (st : St P) (h : ¬ st.s.size ≤ 1) :
    (fun r => (proj03 r.1, r.2)) <$>
        execStep (exec prog (g + 1)) (callWith (exec prog (g + 1)) prog) pqHeapify_part1 st
      = (fun b => (b, Flow.normal)) <$>
        hPick st.s (st.n 0) := by
  src_eval [SrcGen.pqHeapify_part1, call_storePrioAt, MaxQ.pickLargest, proj03, hPick, h]
  refine bind_congr fun ip => ite_congr_same (fun _ => bind_congr fun cp => ?_) (fun _ => rfl)
  by_cases h1 : ip < cp <;> simp only [h1, ↓reduceIte, Bool.false_eq_true, bind_assoc, pure_bind, ite_bind]
  all_goals
    refine ite_congr_same (fun _ => bind_congr fun rp => ?_) (fun _ => rfl)
    split <;> rfl

theorem swap_kept (s : Store P) (a b : Nat) : Post (s.swap a b) (Kept s) := by
  unfold Store.swap
  exact Post.bind (Post.triv _) fun _ _ => Post.bind (Post.triv _) fun _ _ => Post.bind (Post.triv _) fun _ _ =>
    Post.bind (swapC_post_size _ _ _ _) fun _ hh => Post.pure ⟨rfl, rfl, hh⟩

theorem swap_post (s : Store P) (a b : Nat) : Post (s.swap a b) (fun s' => s'.size = s.size) :=
  fun r h => (swap_kept s a b r h).1

theorem pickLargest_post (s : Store P) (i : Nat) :
    Post (MaxQ.pickLargest s i) (fun r => r.1.size = s.size ∧ (r.2 = i ∨ (i < r.2 ∧ r.2 < s.size))) := by
  unfold MaxQ.pickLargest
  refine Post.bind (Post.triv _) fun ip _ => Post.ite (fun hl => ?_) (fun _ => Post.pure ⟨rfl, Or.inl rfl⟩)
  refine Post.bind (Post.triv _) fun cp _ => Post.ite (fun hr => Post.bind (Post.triv _) fun rp _ => Post.pure ⟨rfl, ?_⟩)
    (fun _ => Post.pure ⟨rfl, ?_⟩)
  all_goals
    simp only [Arith.left, Arith.right, size_tick] at *
    repeat' split
    all_goals omega
theorem pickLargest_noFuel (s : Store P) (i : Nat) : NoFuel (MaxQ.pickLargest s i) := by
  unfold MaxQ.pickLargest
  no_fuel

theorem heapifyLoop_noFuel (f : Nat) : ∀ (s : Store P) (i : Nat), 1 ≤ f → s.size ≤ f + i →
    NoFuel (MaxQ.heapifyLoop f s i) := by
  induction f with
  | zero => intro s i h; omega
  | succ f ih =>
    intro s i _ hsz
    rw [MaxQ.heapifyLoop]
    refine NoFuel.bind (pickLargest_noFuel s i) fun r hr => ?_
    have hspec := pickLargest_post s i r hr
    obtain ⟨s', lg⟩ := r
    refine NoFuel.ite (fun _ => NoFuel.pure _) fun hne => NoFuel.bind (NoFuel.swap _ _ _) fun s'' hs => ?_
    have h2 := swap_post s' i lg s'' hs
    simp only at hspec h2
    exact ih s'' lg (by omega) (by omega)

/-- `PriorityQueue::heapify` = `MaxQ.heapify` -/
theorem pqHeapify (s : Store P) (i : Nat) (fuel : Nat) (h : fuel ≥ s.size + 2) :
    Src.run SrcGen.prog fuel .pqHeapify s [i] = (fun s' => (s', Val.unit)) <$> MaxQ.heapify s i := by
  obtain ⟨k, rfl⟩ : ∃ k, fuel = k + 2 := ⟨fuel - 2, by omega⟩
  src_enter
  unfold MaxQ.heapify
  by_cases hsz : s.size ≤ 1
  · src_eval [pqHeapify_body, pqHeapify_part1, hsz]
  · simp only [hsz, ↓reduceIte]
    obtain ⟨n, hn⟩ : ∃ n, s.size = n + 1 := ⟨s.size - 1, by omega⟩
    have hne := heapifyLoop_noFuel s.size s i (by omega) (by omega)
    rw [hn, heapifyLoop_succ] at hne ⊢
    rw [pqHeapify_body, execStep_seq]
    simp only [map_eq_pure_bind, bind_assoc, Function.comp]
    have h1 := agrees_of_map_eq proj03 _ _ (pqHeapify_part1_eq k
      { s := s, n := bindN [0] [i], p := bindP [] [] } hsz)
    simp only [bindN, upd, ↓reduceIte] at h1
    refine Agrees.bindFin (kx := execStep (exec prog (k + 1)) (callWith (exec prog (k + 1)) prog)
      (.while pqHeapify_loop1_cond pqHeapify_loop1_body)) h1 ?_
    intro st' b hy hrel
    subst hrel
    rw [exec_succ]
    refine Agrees.fin_unit (pqHeapify_loop n k st' (by omega) ?_)
    have := hne
    unfold NoFuel at this
    simpa only [hy, ok_bind, proj03] using this

/-! ## the hole-sifting loops: `bubble_up` here, `bubble_up_min` / `bubble_up_max` in `SrcEquivDQ` -/

/-- one iteration of a hole-sifting loop in the hand model's terms: the hole moves from `pos` to its ancestor `anc pos`
if `up` holds of the priority found there; the flag says whether it moved.  `g`, `w1`, `w2` are the sites of the read and
the two writes. -/
def holeStep (anc : Nat → Nat) (up : P → Prop) [DecidablePred up] (g w1 w2 : Nat) (s : Store P) (pos : Nat) :
    R ((Store P × Nat) × Bool) := do
  let ap ← s.prioAt (anc pos)
  let s := s.tick
  if up ap then do
    let ai ← getU s.heap (anc pos) g
    let heap ← setU s.heap pos ai w1
    let qp ← setU s.qp ai pos w2
    pure (({ s with heap := heap, qp := qp }, anc pos), true)
  else pure ((s, pos), false)

section HoleLoop
variable {anc : Nat → Nat} {up : P → Prop} [DecidablePred up] {g w1 w2 : Nat}

theorem holeStep_noFuel (s : Store P) (pos : Nat) : NoFuel (holeStep anc up g w1 w2 s pos) := by
  unfold holeStep
  no_fuel

theorem holeStep_post (s : Store P) (pos : Nat) :
    Post (holeStep anc up g w1 w2 s pos) (fun b => Kept s b.1.1 ∧ (b.2 = true → b.1.2 = anc pos)) := by
  unfold holeStep
  refine Post.bind (Post.triv _) fun _ _ => Post.ite (fun _ => ?_) (fun _ => Post.pure ⟨⟨rfl, rfl, rfl⟩, by simp⟩)
  exact Post.bind (Post.triv _) fun _ _ => Post.bind (setU_post_size _ _ _ _) fun _ hh => Post.bind (Post.triv _) fun _ _ =>
    Post.pure ⟨⟨rfl, rfl, hh⟩, fun _ => rfl⟩

/-- `L` is a hole-sifting loop of the model: out of fuel at `0`; otherwise, while `C` holds of the hole, one `holeStep`,
going on if the hole moved -/
def HoleLoop (L : Nat → Store P → Nat → R (Store P × Nat)) (C : Nat → Prop) [DecidablePred C]
    (anc : Nat → Nat) (up : P → Prop) [DecidablePred up] (g w1 w2 : Nat) : Prop :=
  (∀ s pos, L 0 s pos = .error .fuel) ∧ ∀ f s pos, L (f + 1) s pos =
    if C pos then holeStep anc up g w1 w2 s pos >>= fun b => if b.2 then L f b.1.1 b.1.2 else pure b.1
    else pure (s, pos)

variable {L : Nat → Store P → Nat → R (Store P × Nat)} {C : Nat → Prop} [DecidablePred C]

theorem HoleLoop.noFuel (h : HoleLoop L C anc up g w1 w2) (hanc : ∀ pos, C pos → anc pos < pos) (f : Nat) :
    ∀ (s : Store P) (pos : Nat), pos < f → NoFuel (L f s pos) := by
  induction f with
  | zero => intro s pos h; omega
  | succ f ih =>
    intro s pos hlt
    rw [h.2]
    refine NoFuel.ite (fun hc => NoFuel.bind (holeStep_noFuel _ _) fun b hb => ?_) (fun _ => NoFuel.pure _)
    refine NoFuel.ite (fun hb2 => ih _ _ ?_) (fun _ => NoFuel.pure _)
    rw [(holeStep_post s pos b hb).2 hb2]
    have := hanc pos hc
    omega

theorem HoleLoop.kept (h : HoleLoop L C anc up g w1 w2) (f : Nat) :
    ∀ (s : Store P) (pos : Nat), Post (L f s pos) (fun r => Kept s r.1) := by
  induction f with
  | zero => intro s pos r hr; rw [h.1] at hr; cases hr
  | succ f ih =>
    intro s pos
    rw [h.2]
    refine Post.ite (fun _ => Post.bind (holeStep_post s pos) fun b hb => ?_) (fun _ => Post.pure (Kept.refl s))
    refine Post.ite (fun _ => ?_) (fun _ => Post.pure hb.1)
    intro r hr
    exact hb.1.trans (ih _ _ r hr)

/-- sifting neither reads nor writes the size counter -/
theorem holeStep_size_frame (s : Store P) (pos n : Nat) :
    holeStep anc up g w1 w2 { s with size := n } pos
      = (fun b => ((({ b.1.1 with size := n } : Store P), b.1.2), b.2)) <$> holeStep anc up g w1 w2 s pos := by
  simp only [holeStep, Store.prioAt, Store.tick, map_eq_pure_bind, bind_assoc, pure_bind]
  refine bind_congr fun i => bind_congr fun e => ?_
  split
  · simp only [bind_assoc, pure_bind]
  · simp only [pure_bind]

theorem HoleLoop.size_frame (h : HoleLoop L C anc up g w1 w2) (n f : Nat) : ∀ (s : Store P) (pos : Nat),
    L f { s with size := n } pos = (fun r => (({ r.1 with size := n } : Store P), r.2)) <$> L f s pos := by
  induction f with
  | zero => intro s pos; rw [h.1, h.1]; rfl
  | succ f ih =>
    intro s pos
    rw [h.2, h.2, holeStep_size_frame]
    split
    · simp only [map_eq_pure_bind, bind_assoc, pure_bind]
      refine bind_congr fun b => ?_
      split
      · rw [ih, map_eq_pure_bind]
      · rfl
    · rfl

/-- the `while` of a hole-sifting function agrees with its model loop.  `proj` reads the store, the hole position and
what the loop leaves alone (`fr`) off the registers. -/
theorem HoleLoop.while {φ : Type} (h : HoleLoop L C anc up g w1 w2) {cnd : BExpr} {body : Stmt}
    (proj : St P → Store P × Nat × φ) (fr : φ) (hs : ∀ st, (proj st).1 = st.s)
    (hcond : ∀ (cf : CallF P) st, evalB cf st cnd = pure (st.s, decide (C (proj st).2.1)))
    (hbody : ∀ rec cf st, (proj st).2.2 = fr → C (proj st).2.1 →
      (fun r => (proj r.1, r.2)) <$> execStep rec cf body st
        = (fun b => ((b.1.1, b.1.2, fr), if b.2 then Flow.normal else Flow.brk)) <$>
          holeStep anc up g w1 w2 st.s (proj st).2.1)
    (f k : Nat) (st : St P) (hk : f ≤ k) (hfr : (proj st).2.2 = fr) (hne : NoFuel (L f st.s (proj st).2.1)) :
    Agrees (exec prog (k + 1) (.while cnd body) st) (L f st.s (proj st).2.1)
      (fun st' r => proj st' = (r.1, r.2, fr)) := by
  have hb : ∀ n (st : St P) (b : Store P × Nat), 0 ≤ n → proj st = (b.1, b.2, fr) →
      (pure (decide (C b.2)) : R Bool) = .ok true →
      AgreesB (execStep (exec prog n) (callWith (exec prog n) prog) body st) (holeStep anc up g w1 w2 b.1 b.2)
        (fun st b => proj st = (b.1, b.2, fr)) := by
    intro n st b _ hrel hc
    have e1 : st.s = b.1 := by rw [← hs, hrel]
    have e2 : (proj st).2.1 = b.2 := by rw [hrel]
    have := agreesB_of_map_eq' proj (fun (b : Store P × Nat) => (b.1, b.2, fr)) _ _
      (hbody (exec prog n) (callWith (exec prog n) prog) st (by rw [hrel]) (e2 ▸ of_decide_eq_true (Except.ok.inj hc)))
    rwa [e1, e2] at this
  exact (while_agrees (L := fun f (b : Store P × Nat) => L f b.1 b.2) (out := id) 0 (fun _ => h.1 _ _)
    (fun f b => by rw [h.2]; simp only [pure_bind, decide_eq_true_eq]; rfl)
    (fun cf st b hrel => by rw [hcond, hrel]; rfl) hb f k st (st.s, (proj st).2.1) hk (by rw [← hs, ← hfr]) hne).mono
    fun st' r ⟨b', h1, h2⟩ => h2 ▸ h1

end HoleLoop

/-! ## `PriorityQueue::bubble_up` -/

theorem bubbleUpLoop_hole (prio : P) :
    HoleLoop (fun f s pos => MaxQ.bubbleUpLoop f s pos prio) (· > 0) Arith.parent (· < prio) 201 202 203 :=
  ⟨fun _ _ => rfl, fun f s pos => by
    simp only [MaxQ.bubbleUpLoop, holeStep, bind_assoc, pure_bind, ite_bind, ↓reduceIte, Bool.false_eq_true]⟩

/-- what the rest of `bubble_up` looks at: the store, the hole (registers 3, 4) and the priority (register 2) -/
def projB (st : St P) : Store P × Nat × Nat × Option P := (st.s, st.n 3, st.n 4, st.p 2)

theorem pqBubbleUp_loop_body (prio : P) (mp : Nat) (rec : Stmt → St P → R (St P × Flow P)) (callf : CallF P) (st : St P)
    (hfr : (st.n 4, st.p 2) = (mp, some prio)) (hpos : st.n 3 > 0) :
    (fun r => (projB r.1, r.2)) <$> execStep rec callf pqBubbleUp_loop1_body st
      = (fun b => ((b.1.1, b.1.2, mp, some prio), if b.2 then Flow.normal else Flow.brk)) <$>
        holeStep Arith.parent (· < prio) 201 202 203 st.s (st.n 3) := by
  obtain ⟨rfl, hp⟩ := Prod.mk.inj hfr
  have hpos' : ¬ st.n 3 = 0 := by omega
  src_eval [pqBubbleUp_loop1_body, projB, holeStep, Store.prioAt, hp, hpos']
  src_close

theorem pqBubbleUp_loop_cond (callf : CallF P) (st : St P) :
    evalB callf st pqBubbleUp_loop1_cond = pure (st.s, decide (st.n 3 > 0)) := by
  src_eval [pqBubbleUp_loop1_cond]

theorem parent_lt (pos : Nat) (h : pos > 0) : Arith.parent pos < pos := by
  simp only [Arith.parent]
  omega

/-- `PriorityQueue::bubble_up` = `MaxQ.bubbleUp` -/
theorem pqBubbleUp (s : Store P) (position mapPosition : Nat) (fuel : Nat) (h : fuel ≥ position + 2) :
    Src.run SrcGen.prog fuel .pqBubbleUp s [position, mapPosition]
      = (fun r => (r.1, Val.nat r.2)) <$> MaxQ.bubbleUp s position mapPosition := by
  obtain ⟨k, rfl⟩ : ∃ k, fuel = k + 2 := ⟨fuel - 2, by omega⟩
  src_enter
  unfold MaxQ.bubbleUp
  src_eval [pqBubbleUp_body, pqBubbleUp_part1]
  refine bind_congr_ok fun e he => ?_
  have hl := (bubbleUpLoop_hole e.2).while projB (mapPosition, some e.2) (fun _ => rfl) pqBubbleUp_loop_cond
    (pqBubbleUp_loop_body e.2 mapPosition) (position + 1) (k + 1)
    { s := s, n := upd (upd (upd (upd (fun _ => 0) 1 mapPosition) 0 position) 3 position) 4 mapPosition,
      p := upd (fun _ => none) 2 (some e.snd) } (by omega) (by simp [projB, upd])
    (by simpa [projB, upd] using (bubbleUpLoop_hole e.2).noFuel parent_lt (position + 1) s position (by omega))
  simp only [projB, upd, ↓reduceIte, Nat.reduceEqDiff] at hl
  refine Agrees.bindFin (kx := execStep (exec prog (k + 1)) (callWith (exec prog (k + 1)) prog) pqBubbleUp_part2) hl ?_
  intro st' b hy hrel
  simp only [projB, Prod.mk.injEq] at hrel
  obtain ⟨h1, h2, h3, -⟩ := hrel
  src_eval [pqBubbleUp_part2, h1, h2, h3]

/-! ## `PriorityQueue::up_heapify` -/

theorem call_pqHeapify (s : Store P) (i n : Nat) (h : n ≥ s.size + 2) :
    callWith (exec prog n) prog .pqHeapify s [i] [] [] = (fun s' => (s', Val.unit)) <$> MaxQ.heapify s i :=
  pqHeapify s i n h

theorem call_pqBubbleUp (s : Store P) (pos mp n : Nat) (h : n ≥ pos + 2) :
    callWith (exec prog n) prog .pqBubbleUp s [pos, mp] [] [] = (fun r => (r.1, Val.nat r.2)) <$> MaxQ.bubbleUp s pos mp :=
  pqBubbleUp s pos mp n h

theorem bubbleUp_kept (s : Store P) (pos mp : Nat) : Post (MaxQ.bubbleUp s pos mp) (fun r => Kept s r.1) := by
  unfold MaxQ.bubbleUp
  refine Post.bind (Post.triv _) fun e _ => Post.bind ((bubbleUpLoop_hole e.2).kept _ s pos) fun r hr => ?_
  exact Post.bind (setU_post_size _ _ _ _) fun _ hh => Post.bind (Post.triv _) fun _ _ =>
    Post.pure ⟨hr.1, hr.2.1, hh.trans hr.2.2⟩

/-- `PriorityQueue::up_heapify` = `MaxQ.upHeapify` -/
theorem pqUpHeapify (s : Store P) (i : Nat) (fuel : Nat) (h : fuel ≥ s.size + min i s.heap.size + 3) :
    Src.run SrcGen.prog fuel .pqUpHeapify s [i] = (fun s' => (s', Val.unit)) <$> MaxQ.upHeapify s i := by
  rw [run_eq_pos rfl (by omega)]
  unfold MaxQ.upHeapify
  src_eval [pqUpHeapify_body]
  refine bind_congr_ok fun tmp htmp => ?_
  have hi : i < s.heap.size := getElem?_some_lt ((getU_ok_iff _ _ _ _).mp htmp)
  rw [call_pqBubbleUp _ _ _ _ (by omega)]
  src_eval
  refine bind_congr_ok fun r hr => ?_
  have hsz := (bubbleUp_kept s i tmp r hr).1
  rw [call_pqHeapify _ _ _ (by omega)]
  src_eval

/-! ## `PriorityQueue::heap_build` -/

theorem pickLargest_kept (s : Store P) (i : Nat) : Post (MaxQ.pickLargest s i) (fun r => Kept s r.1) := by
  unfold MaxQ.pickLargest
  refine Post.bind (Post.triv _) fun _ _ => Post.ite (fun _ => ?_) (fun _ => Post.pure (Kept.refl s))
  refine Post.bind (Post.triv _) fun _ _ => Post.ite (fun _ => ?_) (fun _ => Post.pure ⟨rfl, rfl, rfl⟩)
  exact Post.bind (Post.triv _) fun _ _ => Post.pure ⟨rfl, rfl, rfl⟩

theorem heapifyLoop_kept (f : Nat) : ∀ (s : Store P) (i : Nat), Post (MaxQ.heapifyLoop f s i) (Kept s) := by
  induction f with
  | zero => intro s i r hr; cases hr
  | succ f ih =>
    intro s i
    rw [MaxQ.heapifyLoop]
    refine Post.bind (pickLargest_kept s i) fun r hr => ?_
    obtain ⟨s1, lg⟩ := r
    refine Post.ite (fun _ => Post.pure hr) fun _ => Post.bind (swap_kept _ _ _) fun s2 h2 => ?_
    intro r hr2
    exact (hr.trans h2).trans (ih _ _ r hr2)

theorem heapify_kept (s : Store P) (i : Nat) : Post (MaxQ.heapify s i) (Kept s) := by
  unfold MaxQ.heapify
  exact Post.ite (fun _ => Post.pure (Kept.refl s)) fun _ => heapifyLoop_kept _ _ _

/-- the `for` loop of `heap_build` of either queue (`heapifyM`, `loopM`: the model's `heapify` and `heapBuildLoop`), for any
body that behaves like `heapify(j)` on stores of size `n` -/
theorem heapBuild_for {heapifyM loopM : Store P → Nat → R (Store P)} (h0 : ∀ s, loopM s 0 = heapifyM s 0)
    (hS : ∀ s k, loopM s (k + 1) = heapifyM s (k + 1) >>= fun s => loopM s k)
    (hkept : ∀ s i, Post (heapifyM s i) (Kept s)) (n : Nat) (body : Nat → St P → R (St P × Flow P))
    (hbody : ∀ j (st : St P), st.s.size = n → body j st =
      (fun s' => ({ st with s := s', n := upd st.n 0 j }, Flow.normal)) <$> heapifyM st.s j) :
    ∀ (h : Nat) (st : St P), st.s.size = n →
    Agrees (forDown body h st) (loopM st.s h) (fun st' s' => st'.s = s') := by
  intro h
  induction h with
  | zero =>
    intro st hn
    rw [forDown, hbody 0 st hn, h0]
    cases hh : heapifyM st.s 0 with
    | error e => exact Agrees.error_iff _ _ _ |>.mpr rfl
    | ok s' => exact ⟨_, rfl, rfl⟩
  | succ h ih =>
    intro st hn
    rw [forDown, hbody (h + 1) st hn, hS]
    cases hh : heapifyM st.s (h + 1) with
    | error e => exact Agrees.error_iff _ _ _ |>.mpr rfl
    | ok s' => exact ih _ ((hkept st.s (h + 1) s' hh).1.trans hn)

/-- `PriorityQueue::heap_build` = `MaxQ.heapBuild` -/
theorem pqHeapBuild (s : Store P) (fuel : Nat) (h : fuel ≥ s.size + 3) :
    Src.run SrcGen.prog fuel .pqHeapBuild s [] = (fun s' => (s', Val.unit)) <$> MaxQ.heapBuild s := by
  rw [run_eq_pos rfl (by omega)]
  unfold MaxQ.heapBuild
  by_cases hsz : s.size = 0
  · src_eval [pqHeapBuild_body, hsz]
  · rw [pqHeapBuild_body, execStep_seq]
    src_eval [hsz, MaxQ.parentC]
    refine Agrees.fin_unit (heapBuild_for (heapifyM := MaxQ.heapify) (loopM := MaxQ.heapBuildLoop) (fun _ => rfl) (fun _ _ => rfl) heapify_kept s.size _ ?_ _ _ rfl)
    intro j st hn
    rw [call_pqHeapify _ _ _ (by omega)]
    src_eval

end PQ.SrcEquiv
