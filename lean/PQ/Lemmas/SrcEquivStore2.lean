import PQ.Lemmas.SrcEquivOps
import PQ.Lemmas.IMapLemmas
/-!
# Source-translated tie: the remaining `Store` functions

`clear`, `drain`, `retain_mut`, `swap_remove_if`, `change_priority`, `change_priority_by`, `append`.
User closures are opaque values of the IR (`Val.pred`, `Val.setter`), passed as value arguments.
-/
set_option linter.unusedSimpArgs false
set_option linter.unusedSectionVars false
namespace PQ.SrcEquiv
open PQ PQ.Src PQ.SrcGen

variable {P : Type} [LT P] [DecidableLT P]

/-! ## `Store::clear`, `Store::drain` -/

/-- `Store::clear` = `Store.clear` -/
theorem storeClear (s : Store P) (fuel : Nat) (h : fuel ≥ 1) :
    Src.run SrcGen.prog fuel .storeClear s [] = pure (s.clear, Val.unit) := by
  rw [run_eq_pos rfl h]
  src_eval [storeClear_body, Store.clear]

/-- the ORDER of the statements of `clear` (the big-step semantics cannot see it): the tables and the size counter are
reset before the entries are dropped (`self.map.clear()` runs user `Drop` code) -/
theorem storeClear_order :
    storeClear_body = .seq .heapClear (.seq .qpClear (.seq (.sizeSet (.lit 0)) .mapClear)) := rfl

/-- `Store::drain` = `Store.drain`; the ghost part of the value says that the tables are empty and the size is `0`
at the moment the draining iterator is handed out -/
theorem storeDrain (s : Store P) (fuel : Nat) (h : fuel ≥ 1) :
    Src.run SrcGen.prog fuel .storeDrain s [] = pure (s.drain.2, Val.drained s.drain.1 #[] #[] 0) := by
  rw [run_eq_pos rfl h]
  src_eval [storeDrain_body, Store.drain]

/-! ## `Store::retain_mut` -/

/-- `Store::retain_mut` = `Store.retainMut` -/
theorem storeRetainMut (s : Store P) (f : Item → P → Bool × Item × P) (fuel : Nat) (h : fuel ≥ 1) :
    Src.run SrcGen.prog fuel .storeRetainMut s [] [] [Val.pred f] = pure (s.retainMut f, Val.unit) := by
  rw [run_eq_pos rfl h]
  src_eval [storeRetainMut_body, Store.retainMut]
  by_cases hc : (s.map.retain f).size = s.size
  · simp [hc]
  · simp [hc]

/-! ## `Store::swap_remove_if` -/

/-- `Store::swap_remove_if` = `Store.swapRemoveIf` -/
theorem storeSwapRemoveIf (s : Store P) (pos : Nat) (f : Item → P → Bool × Item × P) (fuel : Nat) (h : fuel ≥ 2) :
    Src.run SrcGen.prog fuel .storeSwapRemoveIf s [pos] [] [Val.pred f]
      = (fun r => (r.1, Val.optEntry r.2)) <$> s.swapRemoveIf pos f := by
  obtain ⟨n, rfl⟩ : ∃ n, fuel = n + 2 := ⟨fuel - 2, by omega⟩
  src_enter
  src_eval [storeSwapRemoveIf_body, Store.swapRemoveIf, call_storeSwapRemove]
  refine bind_congr_ok fun head _ => bind_congr_ok fun e he => ?_
  have hm : s.map[head]? = some e := (unwrapO_ok_iff _ _ _).mp he
  simp only [hm, pure_bind]
  src_close

/-! ## `Store::change_priority`, `Store::change_priority_by` -/

theorem getFull_some_getElem {m : IMap P} {k i : Nat} {it : Item} {p : P} (h : m.getFull k = some (i, it, p)) :
    m[i]? = some (it, p) := by
  unfold IMap.getFull at h
  cases hf : IMap.find? m k with
  | none => simp [hf] at h
  | some j =>
    simp only [hf] at h
    cases hj : m[j]? with
    | none => simp [hj] at h
    | some e =>
      simp only [hj, Option.some.injEq, Prod.mk.injEq] at h
      obtain ⟨rfl, rfl, rfl⟩ := h
      exact hj

/-- `Store::change_priority` = `Store.changePriority` -/
theorem storeChangePriority (s : Store P) (k : Nat) (p : P) (fuel : Nat) (h : fuel ≥ 1) :
    Src.run SrcGen.prog fuel .storeChangePriority s [k] [p]
      = (fun r => (r.1, Val.optPPos r.2)) <$> s.changePriority k p := by
  rw [run_eq_pos rfl h]
  unfold Store.changePriority
  cases hg : s.map.getFull k with
  | none => src_eval [storeChangePriority_body, hg]
  | some r =>
    obtain ⟨i, it, old⟩ := r
    have hm := getFull_some_getElem hg
    src_eval [storeChangePriority_body, hg, hm, IMap.setPrio]
    src_close

/-- `Store::change_priority_by` = `Store.changePriorityBy` -/
theorem storeChangePriorityBy (s : Store P) (k : Nat) (g : P → P) (fuel : Nat) (h : fuel ≥ 1) :
    Src.run SrcGen.prog fuel .storeChangePriorityBy s [k] [] [Val.setter g]
      = (fun r => (r.1, Val.optNat r.2)) <$> s.changePriorityBy k g := by
  rw [run_eq_pos rfl h]
  unfold Store.changePriorityBy
  cases hg : s.map.getFull k with
  | none => src_eval [storeChangePriorityBy_body, hg]
  | some r =>
    obtain ⟨i, it, old⟩ := r
    have hm := getFull_some_getElem hg
    src_eval [storeChangePriorityBy_body, hg, hm, IMap.setPrio]
    src_close

/-! ## `Store::append` -/

theorem call_storeDrain (o : Store P) (n : Nat) :
    callWith (exec prog (n + 1)) prog .storeDrain o [] [] [] = pure (o.drain.2, Val.drained o.drain.1 #[] #[] 0) :=
  storeDrain o (n + 1) (by omega)

/-- a `for` loop over a sequence whose body is a total state update that leaves `keep` alone -/
theorem forList_fold {α : Type} (body : Item × P → St P → R (St P × Flow P)) (step : Store P → Item × P → Store P)
    (keep : St P → α)
    (hbody : ∀ e st, ∃ st', body e st = .ok (st', .normal) ∧ st'.s = step st.s e ∧ keep st' = keep st) :
    ∀ (l : List (Item × P)) (st : St P),
      ∃ st', forList body l st = .ok (st', .normal) ∧ st'.s = l.foldl step st.s ∧ keep st' = keep st := by
  intro l
  induction l with
  | nil => intro st; exact ⟨st, rfl, rfl, rfl⟩
  | cons e l ih =>
    intro st
    obtain ⟨st1, h1, h2, h3⟩ := hbody e st
    obtain ⟨st2, h4, h5, h6⟩ := ih st1
    refine ⟨st2, ?_, ?_, ?_⟩
    · rw [forList, h1]; exact h4
    · rw [h5, h2]; rfl
    · rw [h6, h3]

theorem insertFull_fst_of_not_contains (m : IMap P) (e : Item × P) (h : m.contains e.1.key = false) :
    (m.insertFull e.1 e.2).1 = m.push e := by
  unfold IMap.contains at h
  unfold IMap.insertFull
  cases hf : IMap.find? m e.1.key with
  | some i => simp [hf] at h
  | none => rfl

/-- a `for` loop over a sequence followed by a continuation -/
theorem forList_bind {α β : Type} (body : Item × P → St P → R (St P × Flow P)) (l : List (Item × P)) (st0 : St P)
    (K : St P × Flow P → R β) (res : R β) (step : Store P → Item × P → Store P) (keep : St P → α)
    (hbody : ∀ e st, ∃ st', body e st = .ok (st', .normal) ∧ st'.s = step st.s e ∧ keep st' = keep st)
    (hK : ∀ st', st'.s = l.foldl step st0.s → keep st' = keep st0 → K (st', .normal) = res) :
    forList body l st0 >>= K = res := by
  obtain ⟨st', h1, h2, h3⟩ := forList_fold body step keep hbody l st0
  rw [h1]
  exact hK st' h2 h3

/-- what `src_eval` leaves of the body of the `for (k, v) in other.drain()` loop of `append` (registers: 2 the key, 3 the
value, 4 `self.size` before the insertion; 0 holds `other`): one `Store.pushIfAbsent`, register 0 untouched -/
theorem append_body_ok (st : St P) (e : Item × P) :
    ∃ st', (if (!st.s.map.contains e.fst.key) = true then
        (pure ({ s := { map := (st.s.map.insertFull e.fst e.snd).fst, heap := st.s.heap.push st.s.size,
                        qp := st.s.qp.push st.s.size, size := st.s.size + 1, ticks := st.s.ticks },
                 n := upd st.n 4 st.s.size, p := upd st.p 3 (some e.snd),
                 v := upd st.v 2 (some (Val.item e.fst)) }, Flow.normal) : R (St P × Flow P))
      else
        pure ({ s := st.s, n := st.n, p := upd st.p 3 (some e.snd), v := upd st.v 2 (some (Val.item e.fst)) },
              Flow.normal)) = .ok (st', .normal) ∧ st'.s = Store.pushIfAbsent st.s e ∧ st'.v 0 = st.v 0 := by
  unfold Store.pushIfAbsent
  cases hc : st.s.map.contains e.fst.key with
  | true => exact ⟨_, by simp; rfl, by simp, by simp [upd]⟩
  | false =>
    refine ⟨_, by simp; rfl, ?_, by simp [upd]⟩
    simp [insertFull_fst_of_not_contains _ _ hc]

/-- `Store::append` = `Store.append`; the IR function hands back `other` -/
theorem storeAppend (s o : Store P) (fuel : Nat) (h : fuel ≥ 2) :
    Src.run SrcGen.prog fuel .storeAppend s [] [] [Val.store o]
      = pure ((s.append o).1, Val.store (s.append o).2) := by
  obtain ⟨n, rfl⟩ : ∃ n, fuel = n + 2 := ⟨fuel - 2, by omega⟩
  src_enter
  unfold Store.append
  src_eval [storeAppend_body, call_storeDrain]
  by_cases hgt : o.size > s.size
  · simp only [hgt, ↓reduceIte]
    by_cases h0 : s.size = 0
    · simp only [h0, ↓reduceIte]
    · simp only [h0, ↓reduceIte]
      refine forList_bind _ _ _ _ _ Store.pushIfAbsent (fun st => st.v 0) (fun e st => append_body_ok st e) ?_
      intro st' h1 h2
      simp only [upd, ↓reduceIte, Nat.reduceEqDiff] at h2
      simp only [h2, pure_bind, fin_ret, h1, Array.foldl_toList]
  · simp only [hgt, ↓reduceIte]
    by_cases h0 : o.size = 0
    · simp only [h0, ↓reduceIte]
    · simp only [h0, ↓reduceIte]
      refine forList_bind _ _ _ _ _ Store.pushIfAbsent (fun st => st.v 0) (fun e st => append_body_ok st e) ?_
      intro st' h1 h2
      simp only [upd, ↓reduceIte, Nat.reduceEqDiff] at h2
      simp only [h2, pure_bind, fin_ret, h1, Array.foldl_toList]
end PQ.SrcEquiv
