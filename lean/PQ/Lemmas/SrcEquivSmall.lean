import PQ.Lemmas.SrcEquivOps
set_option linter.unusedSimpArgs false
set_option linter.unusedSectionVars false
/-! # Source-translated tie: `into_vec`, the sorted `Vec`s, `PartialEq for Store`, `Serialize for Store` -/
namespace PQ.SrcEquiv
open PQ PQ.Src PQ.SrcGen
variable {P : Type} [LT P] [DecidableLT P]

/-! ## `into_vec` -/

/-- `Store::into_vec`: the items of the map in slot order -/
theorem storeIntoVec (s : Store P) (fuel : Nat) (h : fuel ≥ 1) :
    Src.run SrcGen.prog fuel .storeIntoVec s [] = pure (s, Val.items (s.map.toList.map fun e => e.1)) := by
  rw [run_eq_pos rfl h]
  src_eval [storeIntoVec_body]

theorem call_storeIntoVec (s : Store P) (n : Nat) :
    callWith (exec prog (n + 1)) prog .storeIntoVec s [] [] [] = pure (s, Val.items (s.map.toList.map fun e => e.1)) :=
  storeIntoVec s (n + 1) (by omega)

/-- `PriorityQueue::into_vec` forwards to the store (`Observe`: the entries in slot order, here their items) -/
theorem pqIntoVec (s : Store P) (fuel : Nat) (h : fuel ≥ 2) :
    Src.run SrcGen.prog fuel .pqIntoVec s [] = pure (s, Val.items (s.map.toList.map fun e => e.1)) := by
  obtain ⟨k, rfl⟩ : ∃ k, fuel = k + 2 := ⟨fuel - 2, by omega⟩
  src_enter
  src_eval [pqIntoVec_body, call_storeIntoVec]

theorem dqIntoVec (s : Store P) (fuel : Nat) (h : fuel ≥ 2) :
    Src.run SrcGen.prog fuel .dqIntoVec s [] = pure (s, Val.items (s.map.toList.map fun e => e.1)) := by
  obtain ⟨k, rfl⟩ : ∃ k, fuel = k + 2 := ⟨fuel - 2, by omega⟩
  src_enter
  src_eval [dqIntoVec_body, call_storeIntoVec]

/-! ## `PartialEq for Store` -/

theorem eqvBy_decide [DecidableEq P] (a b : IMap P) : eqvBy (fun x y => decide (x = y)) a b = IMap.eqv a b := rfl

/-- `Store::eq` = `Store.eqv`, for the `P1: PartialEq<P2>` that is the equality of `P` -/
theorem storeEq [DecidableEq P] (s o : Store P) (fuel : Nat) (h : fuel ≥ 1) :
    Src.run SrcGen.prog fuel .storeEq s [] [] [Val.store o, Val.eqP (fun x y => decide (x = y))]
      = pure (s, Val.bool (Store.eqv s o)) := by
  rw [run_eq_pos rfl h]
  src_eval [storeEq_body, eqvBy_decide, Store.eqv]

/-! ## `Serialize for Store` -/

/-- the registers after one `serialize_element` -/
def serG (e : Item × P) (st : St P) (h : Option Nat) (xs : Array (Item × P)) : St P :=
  { s := st.s, n := st.n, p := upd st.p 3 (some e.snd),
    v := upd (upd st.v 2 (some (Val.item e.fst))) 0 (some (Val.seq h (xs.push (e.fst, e.snd)))) }

theorem forList_serElement (body : Item × P → St P → R (St P × Flow P))
    (hbody : ∀ e st h xs, st.v 0 = some (.seq h xs) → body e st = pure (serG e st h xs, Flow.normal)) (h : Option Nat) :
    ∀ (l : List (Item × P)) (st : St P) (xs : Array (Item × P)), st.v 0 = some (.seq h xs) →
    ∃ st', forList body l st = pure (st', Flow.normal) ∧ st'.v 0 = some (.seq h (xs ++ l.toArray)) ∧ st'.s = st.s := by
  intro l
  induction l with
  | nil => intro st xs hv; exact ⟨st, rfl, by simpa using hv, rfl⟩
  | cons e es ih =>
    intro st xs hv
    rw [forList, hbody e st h xs hv]
    obtain ⟨st', h1, h2, h3⟩ := ih (serG e st h xs) (xs.push e) (by simp [serG, upd])
    refine ⟨st', ?_, ?_, h3⟩
    · simpa only [pure_bind] using h1
    · rw [h2]; simp

/-- `Store::serialize` writes `Some(self.size)` as the announced length and then the pairs of the map in slot order: what
`visit_seq` of `Deserialize` reads back (the serializer is trusted not to fail) -/
theorem storeSerialize (s : Store P) (fuel : Nat) (h : fuel ≥ 1) :
    Src.run SrcGen.prog fuel .storeSerialize s [] = pure (s, Val.seq (some s.size) s.map) := by
  rw [run_eq_pos rfl h]
  src_eval [storeSerialize_body]
  have key : ∀ (body : Item × P → St P → R (St P × Flow P)) (K : St P × Flow P → R (Store P × Val P)),
      (∀ e st h xs, st.v 0 = some (.seq h xs) → body e st = pure (serG e st h xs, Flow.normal)) →
      (∀ st', st'.v 0 = some (.seq (some s.size) s.map) → st'.s = s → K (st', Flow.normal) = pure (s, Val.seq (some s.size) s.map)) →
      (forList body s.map.toList
        { s := s, n := fun x => 0, p := fun x => none,
          v := upd (upd (fun x => none) 0 (some (Val.seq (some s.size) #[]))) 1 (some (Val.entries s.map)) } >>= K)
        = pure (s, Val.seq (some s.size) s.map) := by
    intro body K hbody hK
    obtain ⟨st', h1, h2, h3⟩ := forList_serElement body hbody (some s.size) s.map.toList
      { s := s, n := fun x => 0, p := fun x => none,
        v := upd (upd (fun x => none) 0 (some (Val.seq (some s.size) #[]))) 1 (some (Val.entries s.map)) } #[] (by simp [upd])
    rw [h1]
    exact hK st' (by rw [h2]; simp) h3
  refine key _ _ (fun e st h xs hv => by simp only [hv]; rfl) ?_
  intro st' hv hs
  src_eval [hv, hs]

/-! ## `into_sorted_vec`, `into_ascending_sorted_vec`, `into_descending_sorted_vec`: pop until empty -/

theorem pop_post (s : Store P) : Post (MaxQ.pop s) (fun r => ∀ e, r.2 = some e → r.1.size + 1 = s.size) := by
  unfold MaxQ.pop
  split
  · exact Post.pure (fun e he => by cases he)
  · intro r hr e _; exact swapRemove_post_size s 0 r hr
  · refine Post.bind (swapRemove_post_size s 0) fun r hr => Post.bind (heapify_kept _ _) fun s' ⟨hs', _⟩ => Post.pure ?_
    intro e _; simp only at hs' ⊢; omega

theorem popMin_post (s : Store P) : Post (DQ.popMin s) (fun r => ∀ e, r.2 = some e → r.1.size + 1 = s.size) := by
  unfold DQ.popMin
  split
  · exact Post.pure (fun e he => by cases he)
  · refine Post.bind (swapRemove_post_size s _) fun r hr => Post.bind (dq_heapify_kept _ _) fun s' ⟨hs', _⟩ => Post.pure ?_
    intro e _; simp only at hs' ⊢; omega

theorem popMax_post (s : Store P) : Post (DQ.popMax s) (fun r => ∀ e, r.2 = some e → r.1.size + 1 = s.size) := by
  unfold DQ.popMax
  refine Post.bind (findMax_post s) fun fm ⟨hfm, _⟩ => ?_
  obtain ⟨s1, res⟩ := fm
  cases res with
  | none => exact Post.pure (fun e he => by cases he)
  | some i =>
    refine Post.bind (swapRemove_post_size s1 _) fun r hr => Post.bind (dq_heapify_kept _ _) fun s' ⟨hs', _⟩ => Post.pure ?_
    intro e _; simp only at hfm hs' ⊢; omega

/-- the `while let Some((i, _)) = self.pop() { res.push(i); }` loop against a "pop until empty" of the hand model -/
theorem whileSomeCall_drain (fid : FnId) (c : Nat) (popM : Store P → R (Store P × Option (Item × P)))
    (drain : Nat → Store P → R (List (Item × P)))
    (hdrain : ∀ f s, drain (f + 1) s = popM s >>= fun r =>
      match r.2 with
      | some e => drain f r.1 >>= fun rest => pure (e :: rest)
      | none => pure [])
    (hpost : ∀ s, Post (popM s) (fun r => ∀ e, r.2 = some e → r.1.size + 1 = s.size))
    (hcall : ∀ (s : Store P) n, n ≥ s.size + c →
      callWith (exec prog n) prog fid s [] [] [] = (fun r => (r.1, Val.optEntry r.2)) <$> popM s) :
    ∀ (f k : Nat) (st : St P) (l0 : List Item), st.v 0 = some (.items l0) → f ≥ st.s.size + 1 → k ≥ st.s.size + c →
      Agrees (exec prog (k + 1) (.whileSomeCall 1 fid (.itemsPush 0 1)) st) (drain f st.s)
        (fun st' l => st'.v 0 = some (.items (l0 ++ l.map fun e => e.1))) := by
  intro f
  induction f with
  | zero => intro k st l0 _ hf; omega
  | succ f ih =>
    intro k st l0 hv hf hk
    rw [exec, Src.execStep, hcall _ _ hk, hdrain]
    simp only [map_eq_pure_bind, bind_assoc, pure_bind]
    cases hp : popM st.s with
    | error e => exact (Agrees.error_iff _ _ _).mpr rfl
    | ok r =>
      obtain ⟨s1, res⟩ := r
      have hsz := hpost st.s (s1, res) hp
      cases res with
      | none =>
        simp only [ok_bind]
        exact ⟨_, rfl, by simpa [St.setS] using hv⟩
      | some e =>
        have h1 := hsz e rfl
        simp only at h1
        obtain ⟨k, rfl⟩ : ∃ k', k = k' + 1 := ⟨k - 1, by omega⟩
        simp only [ok_bind]
        src_eval [hv]
        have := ih k
          { s := s1, n := st.n, p := st.p,
            v := upd (upd st.v 1 (some (Val.optEntry (some e)))) 0 (some (Val.items (l0 ++ [e.fst]))) }
          (l0 ++ [e.1]) (by simp [upd]) (by simp only; omega) (by simp only; omega)
        simp only at this
        cases hd : drain f s1 with
        | error er =>
          rw [hd] at this
          rw [Agrees.error_iff] at this
          simp only [error_bind]
          exact (Agrees.error_iff _ _ _).mpr this
        | ok rest =>
          rw [hd] at this
          obtain ⟨st', hx, hr⟩ := this
          refine ⟨st', ?_, ?_⟩
          · simp only [hx, ok_bind]
          · simp only [ok_bind, pure, Except.pure] at hr ⊢
            simpa using hr

/-- `PriorityQueue::into_sorted_vec` = the items of `MaxQ.intoSortedVec` (pop until empty) -/
theorem pqIntoSortedVec (s : Store P) (fuel : Nat) (h : fuel ≥ s.size + 5) :
    (fun r => r.2) <$> Src.run SrcGen.prog fuel .pqIntoSortedVec s []
      = (fun l => Val.items (l.map fun e => e.1)) <$> MaxQ.intoSortedVec s := by
  obtain ⟨k, rfl⟩ : ∃ k, fuel = k + 2 := ⟨fuel - 2, by omega⟩
  src_enter
  rw [pqIntoSortedVec_body]
  src_eval
  have hl := whileSomeCall_drain .pqPop 3 MaxQ.pop MaxQ.drainSorted
    (fun f s => by rw [MaxQ.drainSorted]; rfl) pop_post
    (fun s n hn => by have := pqPop s n hn; simpa only [Src.run] using this)
    (s.size + 1) (k + 1)
    { s := s, n := fun x => 0, p := fun x => none, v := upd (fun x => none) 0 (some (Val.items [])) } [] (by simp [upd])
    (by simp only; omega) (by simp only; omega)
  simp only at hl
  unfold MaxQ.intoSortedVec
  cases hd : MaxQ.drainSorted (s.size + 1) s with
  | error e =>
    rw [hd] at hl
    rw [Agrees.error_iff] at hl
    simp only [hl, error_bind]
  | ok l =>
    rw [hd] at hl
    obtain ⟨st', hx, hr⟩ := hl
    simp only [hx, ok_bind]
    src_eval [hr]
    simp

/-- `DoublePriorityQueue::into_ascending_sorted_vec` = the items of `DQ.intoAscendingSortedVec` (pop until empty) -/
theorem dqIntoAscVec (s : Store P) (fuel : Nat) (h : fuel ≥ s.size + 6) :
    (fun r => r.2) <$> Src.run SrcGen.prog fuel .dqIntoAscVec s []
      = (fun l => Val.items (l.map fun e => e.1)) <$> DQ.intoAscendingSortedVec s := by
  obtain ⟨k, rfl⟩ : ∃ k, fuel = k + 2 := ⟨fuel - 2, by omega⟩
  src_enter
  rw [dqIntoAscVec_body]
  src_eval
  have hl := whileSomeCall_drain .dqPopMin 4 DQ.popMin DQ.drainAsc
    (fun f s => by rw [DQ.drainAsc]; rfl) popMin_post
    (fun s n hn => by have := dqPopMin s n hn; simpa only [Src.run] using this)
    (s.size + 1) (k + 1)
    { s := s, n := fun x => 0, p := fun x => none, v := upd (fun x => none) 0 (some (Val.items [])) } [] (by simp [upd])
    (by simp only; omega) (by simp only; omega)
  simp only at hl
  unfold DQ.intoAscendingSortedVec
  cases hd : DQ.drainAsc (s.size + 1) s with
  | error e =>
    rw [hd] at hl
    rw [Agrees.error_iff] at hl
    simp only [hl, error_bind]
  | ok l =>
    rw [hd] at hl
    obtain ⟨st', hx, hr⟩ := hl
    simp only [hx, ok_bind]
    src_eval [hr]
    simp

/-- `DoublePriorityQueue::into_descending_sorted_vec` = the items of `DQ.intoDescendingSortedVec` (pop until empty) -/
theorem dqIntoDescVec (s : Store P) (fuel : Nat) (h : fuel ≥ s.size + 6) :
    (fun r => r.2) <$> Src.run SrcGen.prog fuel .dqIntoDescVec s []
      = (fun l => Val.items (l.map fun e => e.1)) <$> DQ.intoDescendingSortedVec s := by
  obtain ⟨k, rfl⟩ : ∃ k, fuel = k + 2 := ⟨fuel - 2, by omega⟩
  src_enter
  rw [dqIntoDescVec_body]
  src_eval
  have hl := whileSomeCall_drain .dqPopMax 4 DQ.popMax DQ.drainDesc
    (fun f s => by rw [DQ.drainDesc]; rfl) popMax_post
    (fun s n hn => by have := dqPopMax s n hn; simpa only [Src.run] using this)
    (s.size + 1) (k + 1)
    { s := s, n := fun x => 0, p := fun x => none, v := upd (fun x => none) 0 (some (Val.items [])) } [] (by simp [upd])
    (by simp only; omega) (by simp only; omega)
  simp only at hl
  unfold DQ.intoDescendingSortedVec
  cases hd : DQ.drainDesc (s.size + 1) s with
  | error e =>
    rw [hd] at hl
    rw [Agrees.error_iff] at hl
    simp only [hl, error_bind]
  | ok l =>
    rw [hd] at hl
    obtain ⟨st', hx, hr⟩ := hl
    simp only [hx, ok_bind]
    src_eval [hr]
    simp
end PQ.SrcEquiv
