import PQ.Props.C09
/-!
# `double_priority_queue::IterMut`: once `None`, always `None` — the direct form (names carry the prefix `imf_`)

`C09_pq_none_forever` states for the `PriorityQueue` machine `PIterMut`: if the `j`-th answer is `None`, every later answer
is `None`.  For the two-cursor machine `DIterMut` C09 only has the counting form (`C09_dpq_exhaust` (b): once `n` slots have
been emitted …).  This file proves the direct form for `DIterMut`, for every `n` and every call list, with no hypothesis:
the run never faults (`C09_dpq_nofault`), and an answer `None` — to `next` or to `next_back` — is followed by `None` from
both ends, forever.
-/
namespace PQ

/-- **`double_priority_queue::IterMut` is fused, from both ends** — the direct form `C09_pq_none_forever` has for the
`PriorityQueue` machine.  For every number `n` of stored elements and EVERY call list (no hypothesis; the run never faults:
`C09_dpq_nofault`): if the `j`-th answer is `None` — whether `next` or `next_back` was asked — then every later `next` and
every later `next_back` answers `None`, and no later answer hands out a slot.  (So a `&mut` handed out earlier can never be
handed out again after the iterator reported exhaustion, and adaptors relying on `FusedIterator` are right.) -/
theorem imf_dpq_none_forever (n : Nat) (calls : List ICall) :
    ∃ outs, DIterMut.run n (DIterMut.new n) calls = .ok outs ∧
      ∀ j j' : Nat, j ≤ j' → outs[j]? = some (.slot none) →
        ((calls[j']? = some .next ∨ calls[j']? = some .nextBack) → outs[j']? = some (.slot none)) ∧
        (∀ s, outs[j']? = some (.slot s) → s = none) :=
  ⟨_, DIterMut.run_eq_cursor n calls, fun j j' hj h => Cursor.none_then_none _ calls j j' hj h⟩

/-- the same in the shape of `C09_pq_none_forever` (for a run that is given as `.ok outs`) -/
theorem imf_dpq_none_forever' (n : Nat) (calls : List ICall) (outs : List IOut)
    (hrun : DIterMut.run n (DIterMut.new n) calls = .ok outs) (j j' : Nat) (hj : j ≤ j')
    (h : outs[j]? = some (.slot none)) : ∀ s, outs[j']? = some (.slot s) → s = none := by
  obtain ⟨outs', hrun', hall⟩ := imf_dpq_none_forever n calls
  rw [hrun] at hrun'; cases hrun'
  exact (hall j j' hj h).2

/-- the same facts for `iter()` / `into_iter()` / `drain()` (the slice cursor itself) -/
theorem imf_cursor_none_forever (n : Nat) (calls : List ICall) (j j' : Nat) (hj : j ≤ j')
    (h : (Cursor.run (Cursor.new n) calls)[j]? = some (.slot none)) :
    ∀ s, (Cursor.run (Cursor.new n) calls)[j']? = some (.slot s) → s = none :=
  (Cursor.none_then_none _ calls j j' hj h).2

/-- three elements: both ends meet after three advancing calls; the fourth (a `next`) answers `None` at position 4, and
so do the `next_back` at position 6 and the `next` at position 7, while `len` in between answers `0` -/
example : DIterMut.run 3 (DIterMut.new 3) [.next, .nextBack, .len, .nextBack, .next, .len, .nextBack, .next]
    = .ok [.slot (some 0), .slot (some 2), .len 1, .slot (some 1), .slot none, .len 0, .slot none, .slot none] := by rfl

/-- the hypothesis of `imf_dpq_none_forever` is satisfiable (position 4 above) and its conclusion is not trivially true
(positions before the first `None` do hand out slots) -/
example : ∃ outs, DIterMut.run 3 (DIterMut.new 3) [.next, .nextBack, .len, .nextBack, .next, .len, .nextBack, .next]
      = .ok outs ∧ outs[4]? = some (.slot none) ∧ outs[3]? = some (.slot (some 1)) ∧
      outs[6]? = some (.slot none) ∧ outs[7]? = some (.slot none) :=
  ⟨[.slot (some 0), .slot (some 2), .len 1, .slot (some 1), .slot none, .len 0, .slot none, .slot none],
    by rfl, by decide, by decide, by decide, by decide⟩

/-- an empty queue: `None` from the first call on, from both ends -/
example : DIterMut.run 0 (DIterMut.new 0) [.nextBack, .next, .nextBack]
    = .ok [.slot none, .slot none, .slot none] := by rfl

end PQ

#print axioms PQ.imf_dpq_none_forever
#print axioms PQ.imf_dpq_none_forever'
#print axioms PQ.imf_cursor_none_forever
