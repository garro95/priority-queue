import PQ.Lemmas.Spec
/-!
# What the operations of both queue kinds share

`push_increase` / `push_decrease` are the same wrapper around the `push` of the kind (`pushCond_gen`); `change_priority`,
`change_priority_by` and `remove` are the same code around its `up_heapify` (`UpAfter`, `changePriority_gen`,
`changePriorityBy_gen`, `remove_gen`); `into_sorted_vec` of `PriorityQueue` and the two sorted vectors of
`DoublePriorityQueue` are the same loop over three different `pop`s (`drain_gen`).  Each is analysed once, for any
`push` / `up_heapify` / `pop` with the total interface the lemmas of the kind provide (`Ord` is the heap order of the kind).
-/
namespace PQ
open Store
variable {P : Type}

namespace Store

theorem WF.of_TWF_size {s : Store P} {n : Nat} (h : s.TWF n) (hn : s.size = n) : s.WF := by
  unfold Store.WF; rw [hn]; exact h

theorem TWF.congr {s t : Store P} {n : Nat} (h : s.TWF n) (hm : t.map = s.map) (hh : t.heap = s.heap)
    (hq : t.qp = s.qp) : t.TWF n :=
  ⟨by rw [hm]; exact h.map_size, by rw [hh]; exact h.heap_size, by rw [hq]; exact h.qp_size,
    by rw [hh, hq]; exact h.heap_qp, by rw [hh, hq]; exact h.qp_heap, by rw [hm]; exact h.nodup⟩

end Store

/-- the two ways a case split on `size = 0` is read: by the size, or by the answer -/
theorem of_size_cases {α : Type} {n : Nat} {r : Option α} {A : Prop} {T : α → Prop}
    (h0 : n = 0 → A ∧ r = none) (h1 : 0 < n → ∃ e, r = some e ∧ T e) :
    (r = none ↔ n = 0) ∧ (r = none → A) ∧ ∀ e, r = some e → T e := by
  rcases Nat.eq_zero_or_pos n with hz | hn
  · obtain ⟨ha, rfl⟩ := h0 hz
    exact ⟨⟨fun _ => hz, fun _ => rfl⟩, fun _ => ha, nofun⟩
  · obtain ⟨e, rfl, ht⟩ := h1 hn
    exact ⟨⟨nofun, fun hz => by omega⟩, nofun, fun e' he' => by cases he'; exact ht⟩

/-- a statement about a Boolean verdict from its two cases (the motive is read off the goal) -/
@[elab_as_elim]
theorem of_verdict {F : Bool → Prop} (b : Bool) (ht : b = true → F true) (hf : b = false → F false) : F b := by
  cases b
  · exact hf rfl
  · exact ht rfl

/-- the abstract contents read the map only: what the sift procedures return (same map) has the contents of what they
were given -/
theorem abs_of_map_eq {s s' : Store P} (hm : s'.map = s.map) : s'.abs = IMap.lookup s.map :=
  funext fun k => congrArg (IMap.lookup · k) hm

/-- the abstract effect of `push` is the abstract `extend` step -/
theorem absPush_eq_absStep (f : Nat → Option (Item × P)) (e : Item × P) : absPush f e.1 e.2 = Store.absStep f e := by
  funext k
  unfold absPush Store.absStep
  by_cases hk : k = e.1.key
  · subst hk; rfl
  · rw [if_neg hk, if_neg hk]

/-- **`push_increase` / `push_decrease`** (`c q` is the comparison of the stored priority `q` with the offered one): a new
item is pushed; a stored one is pushed again if `c` holds of its priority, after one comparison; otherwise that comparison
is all that happens and the OFFERED priority is handed back. -/
theorem pushCond_gen {push : Store P → Item → P → R (Store P × Option P)} {Ord : Store P → Prop}
    (hpush : ∀ {s : Store P}, s.WF → ∀ it p, ∃ s', push s it p = .ok (s', (s.abs it.key).map (·.2)) ∧ s'.WF ∧
      s'.abs = absPush s.abs it p ∧ s'.size = (if (s.abs it.key).isSome then s.size else s.size + 1) ∧
      (Ord s → Ord s'))
    (htick : ∀ {s : Store P}, Ord s → Ord s.tick)
    {s : Store P} (h : s.WF) (it : Item) (p : P) (c : P → Prop) [DecidablePred c] {x : R (Store P × Option P)}
    (h0 : s.abs it.key = none → x = push s it p)
    (h1 : ∀ e, s.abs it.key = some e → x = if c e.2 then push s.tick it p else .ok (s.tick, some p)) :
    ∃ s' r, x = .ok (s', r) ∧ s'.WF ∧
      (s.abs it.key = none → r = none ∧ s'.abs = absPush s.abs it p ∧ s'.size = s.size + 1) ∧
      (∀ e, s.abs it.key = some e →
        (c e.2 → r = some e.2 ∧ s'.abs = absPush s.abs it p ∧ s'.size = s.size) ∧
        (¬ c e.2 → s' = s.tick ∧ r = some p)) ∧
      (Ord s → Ord s') := by
  cases hl : s.abs it.key with
  | none =>
    obtain ⟨s', h1', h2, h3, h4, h5⟩ := hpush h it p
    rw [hl] at h1' h4
    exact ⟨s', none, by rw [h0 hl]; exact h1', h2, fun _ => ⟨rfl, h3, h4⟩, nofun, h5⟩
  | some e =>
    by_cases hc : c e.2
    · obtain ⟨s', h1', h2, h3, h4, h5⟩ := hpush (s := s.tick) (tick_TWF.mpr h) it p
      have hl' : (s.tick).abs it.key = some e := hl
      rw [hl'] at h1' h4
      refine ⟨s', some e.2, by rw [h1 e hl, if_pos hc]; exact h1', h2, nofun, fun e' he' => ?_, fun hm => h5 (htick hm)⟩
      cases he'
      exact ⟨fun _ => ⟨rfl, h3, h4⟩, fun hn => absurd hc hn⟩
    · refine ⟨s.tick, some p, by rw [h1 e hl, if_neg hc], tick_TWF.mpr h, nofun, fun e' he' => ?_, htick⟩
      cases he'
      exact ⟨fun hc' => absurd hc' hc, fun _ => ⟨rfl, rfl⟩⟩

/-- what `change_priority`, `change_priority_by` and `remove` need of the `up_heapify` of a queue kind whose heap order is
`Ord`: run on `s1` at the one position `pos < s1.size` where `s1` differs from a well-formed `s` with `s1.size ≤ s.size`, it
does not fault, keeps `WF`, the map and the size, and leaves an ordered store if `s` was ordered (`s.WF` and
`pos < s1.size` are what the binary heap needs; the min-max heap uses neither) -/
def UpAfter (up : Store P → Nat → R (Store P)) (Ord : Store P → Prop) : Prop :=
  ∀ (s s1 : Store P) (pos : Nat), s.WF → s1.WF → s1.size ≤ s.size → pos < s1.size →
    (∀ q, q < s1.size → q ≠ pos → s1.entryAt q = s.entryAt q) →
    ∃ s', up s1 pos = .ok s' ∧ s'.WF ∧ s'.map = s1.map ∧ s'.size = s1.size ∧ (Ord s → Ord s')

/-- **`change_priority`** of either kind (`up` its `up_heapify`): the old priority is returned, a stored item gets the new
one (its stored value is untouched); for an absent item nothing happens -/
theorem changePriority_gen {up : Store P → Nat → R (Store P)} {Ord : Store P → Prop} (hup : UpAfter up Ord)
    {s : Store P} (h : s.WF) (k : Nat) (p : P) :
    ∃ s', (do
        let (s, r) ← s.changePriority k p
        match r with
        | some (old, pos) => do
          let s ← up s pos
          pure (s, some old)
        | none => pure (s, none) : R (Store P × Option P)) = .ok (s', (s.abs k).map (·.2)) ∧ s'.WF ∧
      s'.size = s.size ∧ (s.abs k = none → s' = s) ∧ (∀ e, s.abs k = some e → s'.abs = absSet s.abs k (e.1, p)) ∧
      (Ord s → Ord s') := by
  cases hl : s.abs k with
  | none =>
    exact ⟨s, by simp [changePriority_spec_none hl, bind, Except.bind, pure, Except.pure], h, rfl, fun _ => rfl, nofun, id⟩
  | some e =>
    obtain ⟨s1, pos, hrun1, hpl, _, hwf1, hsz1, _, _, _, hent, hlook⟩ := changePriority_spec_some h hl p
    obtain ⟨s2, hrun, hwf2, hmap2, hsz2, hord⟩ := hup s s1 pos h hwf1 (by omega) (by omega)
      fun q _ hqp => by rw [hent q, if_neg hqp]
    refine ⟨s2, ?_, hwf2, by omega, nofun, fun e' he' => ?_, hord⟩
    · simp [hrun1, hrun, bind, Except.bind, pure, Except.pure]
    · cases he'
      exact (abs_of_map_eq hmap2).trans (funext hlook)

theorem changePriorityBy_gen {up : Store P → Nat → R (Store P)} {Ord : Store P → Prop} (hup : UpAfter up Ord)
    {s : Store P} (h : s.WF) (k : Nat) (setter : P → P) :
    ∃ s', (do
        let (s, r) ← s.changePriorityBy k setter
        match r with
        | some pos => do
          let s ← up s pos
          pure (s, true)
        | none => pure (s, false) : R (Store P × Bool)) = .ok (s', (s.abs k).isSome) ∧ s'.WF ∧
      s'.size = s.size ∧ (s.abs k = none → s' = s) ∧
      (∀ e, s.abs k = some e → s'.abs = absSet s.abs k (e.1, setter e.2)) ∧ (Ord s → Ord s') := by
  cases hl : s.abs k with
  | none =>
    exact ⟨s, by simp [changePriorityBy_spec_none hl, bind, Except.bind, pure, Except.pure], h, rfl, fun _ => rfl, nofun,
      id⟩
  | some e =>
    obtain ⟨s1, pos, hrun1, hpl, _, hwf1, hsz1, _, _, _, hent, hlook⟩ := changePriorityBy_spec_some h hl setter
    obtain ⟨s2, hrun, hwf2, hmap2, hsz2, hord⟩ := hup s s1 pos h hwf1 (by omega) (by omega)
      fun q _ hqp => by rw [hent q, if_neg hqp]
    refine ⟨s2, ?_, hwf2, by omega, nofun, fun e' he' => ?_, hord⟩
    · simp [hrun1, hrun, bind, Except.bind, pure, Except.pure]
    · cases he'
      exact (abs_of_map_eq hmap2).trans (funext hlook)

/-- **`remove`** of either kind: the stored pair is returned and its key disappears; the entry moved into the vacated
position is sifted, unless the vacated position was the last one (`hprefix`: what is left is then a prefix of `s`) -/
theorem remove_gen {up : Store P → Nat → R (Store P)} {Ord : Store P → Prop} (hup : UpAfter up Ord)
    (hprefix : ∀ (s s1 : Store P), s1.size ≤ s.size → (∀ q, q < s1.size → s1.entryAt q = s.entryAt q) → Ord s → Ord s1)
    {s : Store P} (h : s.WF) (k : Nat) :
    ∃ s', (do
        let (s, r) ← s.remove k
        match r with
        | some (it, p, pos) =>
          if pos < s.size then do
            let s ← up s pos
            pure (s, some (it, p))
          else pure (s, some (it, p))
        | none => pure (s, none) : R (Store P × Option (Item × P))) = .ok (s', s.abs k) ∧ s'.WF ∧
      s'.abs = absRemove s.abs k ∧ s'.size = (if (s.abs k).isSome then s.size - 1 else s.size) ∧
      (s.abs k = none → s' = s) ∧ (Ord s → Ord s') := by
  cases hl : s.abs k with
  | none =>
    refine ⟨s, by simp [remove_spec_none hl, bind, Except.bind, pure, Except.pure], h, ?_, rfl, fun _ => rfl, id⟩
    funext k'
    show s.abs k' = if k' = k then none else s.abs k'
    split
    · subst_vars; exact hl
    · rfl
  | some e =>
    obtain ⟨s1, pos, hrun1, hpl, _, hwf1, hsz1, _, hent, hlook⟩ := remove_spec_some h hl
    have hfr : ∀ q, q < s1.size → q ≠ pos → s1.entryAt q = s.entryAt q := fun q hq hqp => by
      rw [hent q (by omega), if_neg hqp]
    by_cases hps : pos < s1.size
    · obtain ⟨s2, hrun, hwf2, hmap2, hsz2, hord⟩ := hup s s1 pos h hwf1 (by omega) hps hfr
      refine ⟨s2, ?_, hwf2, (abs_of_map_eq hmap2).trans (funext hlook), by rw [hsz2]; exact hsz1, nofun, hord⟩
      simp [hrun1, hps, hrun, bind, Except.bind, pure, Except.pure]
    · refine ⟨s1, ?_, hwf1, funext hlook, hsz1, nofun, hprefix s s1 (by omega) fun q hq => hfr q hq (by omega)⟩
      simp [hrun1, hps, bind, Except.bind, pure, Except.pure]

/-- **pop until empty.**  `pop` answers `none` on the empty store and otherwise hands out a stored entry and removes
exactly its key; `drain` calls it until it answers `none` (`hnil`, `hcons`).  With more fuel than entries `drain` lists
every stored entry exactly once; if `pop` moreover keeps `Ord` and, under `Ord`, hands out an entry `le` every stored one,
the list is sorted by `le`. -/
theorem drain_gen {pop : Store P → R (Store P × Option (Item × P))} {drain : Nat → Store P → R (List (Item × P))}
    {Ord : Store P → Prop} {le : Item × P → Item × P → Prop}
    (hnil : ∀ fuel {s s' : Store P}, pop s = .ok (s', none) → drain (fuel + 1) s = .ok [])
    (hcons : ∀ fuel {s s' : Store P} {e : Item × P} {rest : List (Item × P)}, pop s = .ok (s', some e) →
      drain fuel s' = .ok rest → drain (fuel + 1) s = .ok (e :: rest))
    (hpop : ∀ {s : Store P}, s.WF → ∃ s' r, pop s = .ok (s', r) ∧ s'.WF ∧ (s.size = 0 → r = none) ∧
      (0 < s.size → ∃ e, r = some e ∧ s.abs e.1.key = some e ∧ s'.abs = absRemove s.abs e.1.key ∧
        s'.size = s.size - 1) ∧
      (Ord s → Ord s' ∧ ∀ e, r = some e → ∀ e', s.Mem e' → le e e'))
    (fuel : Nat) : ∀ {s : Store P}, s.WF → s.size < fuel →
    ∃ l, drain fuel s = .ok l ∧ l.length = s.size ∧ (∀ e, e ∈ l ↔ s.Mem e) ∧ (l.map (·.1.key)).Nodup ∧
      (Ord s → l.Pairwise le) := by
  induction fuel with
  | zero => intro s _ hf; omega
  | succ fuel ih =>
    intro s h hf
    obtain ⟨s1, r, hrun1, hwf1, h0, h1, hord1⟩ := hpop h
    rcases Nat.eq_zero_or_pos s.size with hz | hn
    · rw [h0 hz] at hrun1
      refine ⟨[], hnil fuel hrun1, by rw [hz]; rfl, fun e => ⟨nofun, ?_⟩, .nil, fun _ => .nil⟩
      rintro ⟨i, hi⟩
      have := lt_size_of_getElem? hi
      rw [h.map_size, hz] at this
      omega
    · obtain ⟨e, rfl, ha, habs1, hsz1⟩ := h1 hn
      obtain ⟨l, hrun, hlen, hmem, hnd, hpw⟩ := ih hwf1 (by omega)
      -- what is left after the pop is what was stored under the other keys
      have hmem1 : ∀ x, x ∈ l ↔ (x.1.key ≠ e.1.key ∧ s.Mem x) := by
        intro x
        rw [hmem x, mem_iff_lookup hwf1, mem_iff_lookup h]
        show s1.abs x.1.key = some x ↔ _
        rw [habs1]
        unfold absRemove
        by_cases hk : x.1.key = e.1.key <;> simp [hk]
      refine ⟨e :: l, hcons fuel hrun1 hrun, by rw [List.length_cons, hlen]; omega, fun x => ?_, ?_, fun hm => ?_⟩
      · rw [List.mem_cons, hmem1]
        constructor
        · rintro (rfl | ⟨_, hx⟩)
          · exact (mem_iff_lookup h).2 ha
          · exact hx
        · intro hx
          by_cases hk : x.1.key = e.1.key
          · have hx' := (mem_iff_lookup h).1 hx
            rw [hk] at hx'
            exact .inl (Option.some.inj (hx'.symm.trans ha))
          · exact .inr ⟨hk, hx⟩
      · rw [List.map_cons, List.nodup_cons]
        refine ⟨fun hc => ?_, hnd⟩
        obtain ⟨x, hx, hk⟩ := List.mem_map.1 hc
        exact ((hmem1 x).1 hx).1 hk
      · obtain ⟨hm1, hle⟩ := hord1 hm
        exact List.pairwise_cons.2 ⟨fun x hx => hle e rfl x ((hmem1 x).1 hx).2, hpw hm1⟩

end PQ
