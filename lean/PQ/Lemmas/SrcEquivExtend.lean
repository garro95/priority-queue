import PQ.Lemmas.SrcEquivBulkQ
import PQ.Lemmas.SrcEquivOps2
/-!
# Source-translated tie: `Extend` of both queues

The strategy choice (`better_to_rebuild`): rebuild (`Store::extend`, then `heap_build`) or push one by one.  The fuel
bound of the push loop needs the size counter and the length of the heap table to grow by at most one per `push`
(`Kept`, `push_post_grow`).
-/
set_option linter.unusedSimpArgs false
set_option linter.unusedSectionVars false
namespace PQ.SrcEquiv
open PQ PQ.Src PQ.SrcGen
variable {P : Type} [LT P] [DecidableLT P]

/-- same size counter, same length of the heap table -/
def Shape (s s' : Store P) : Prop := s'.size = s.size ∧ s'.heap.size = s.heap.size

theorem Shape.refl (s : Store P) : Shape s s := ⟨rfl, rfl⟩
theorem Shape.trans {a b c : Store P} (h1 : Shape a b) (h2 : Shape b c) : Shape a c :=
  ⟨h2.1.trans h1.1, h2.2.trans h1.2⟩

theorem swap_post_shape (s : Store P) (a b : Nat) : Post (s.swap a b) (Shape s) :=
  fun r h => ⟨(swap_kept s a b r h).1, (swap_kept s a b r h).2.2⟩

/-! ## `push` adds at most one to the size counter and to the length of the heap table -/

theorem upHeapify_kept (s : Store P) (i : Nat) : Post (MaxQ.upHeapify s i) (Kept s) := by
  unfold MaxQ.upHeapify
  refine Post.bind (Post.triv _) fun _ _ => Post.bind (bubbleUp_kept _ _ _) fun r hr => ?_
  intro s' hs'
  exact hr.trans (heapify_kept _ _ s' hs')

theorem push_post_grow (s : Store P) (it : Item) (p : P) :
    Post (MaxQ.push s it p) (fun r => r.1.size ≤ s.size + 1 ∧ r.1.heap.size ≤ s.heap.size + 1) := by
  unfold MaxQ.push
  cases hf : IMap.find? s.map it.key with
  | none =>
    rw [IMap.insertFull_of_find?_none hf]
    refine Post.bind (bubbleUp_kept _ _ _) fun r hr => Post.pure ?_
    obtain ⟨h1, -, h2⟩ := hr
    simp only [Array.size_push] at h1 h2 ⊢
    omega
  | some i =>
    obtain ⟨e, he, _⟩ := IMap.find?_getElem? hf
    rw [IMap.insertFull_of_find?_some hf he]
    refine Post.bind (Post.triv _) fun pos _ => Post.bind (upHeapify_kept _ _) fun s' hs' => Post.pure ?_
    obtain ⟨h1, -, h2⟩ := hs'
    simp only at h1 h2 ⊢
    omega

theorem dq_upHeapify_kept (s : Store P) (i : Nat) : Post (DQ.upHeapify s i) (Kept s) := by
  unfold DQ.upHeapify
  split
  · exact Post.pure (Kept.refl s)
  · refine Post.bind (dq_bubbleUp_kept _ _ _) fun r hr => ?_
    obtain ⟨s1, pos⟩ := r
    dsimp only
    refine Post.ite (fun _ => Post.bind (dq_heapify_kept _ _) fun s2 h2 => ?_)
      (fun _ => Post.bind (Post.pure (Q := Kept s1) (Kept.refl s1)) fun s2 h2 => ?_)
    all_goals exact fun s3 hs3 => (hr.trans h2).trans (dq_heapify_kept _ _ s3 hs3)

theorem dq_push_post_grow (s : Store P) (it : Item) (p : P) :
    Post (DQ.push s it p) (fun r => r.1.size ≤ s.size + 1 ∧ r.1.heap.size ≤ s.heap.size + 1) := by
  unfold DQ.push
  cases hf : IMap.find? s.map it.key with
  | none =>
    rw [IMap.insertFull_of_find?_none hf]
    refine Post.bind (dq_bubbleUp_kept _ _ _) fun r hr => Post.pure ?_
    obtain ⟨h1, -, h2⟩ := hr
    simp only [Array.size_push] at h1 h2 ⊢
    omega
  | some i =>
    obtain ⟨e, he, _⟩ := IMap.find?_getElem? hf
    rw [IMap.insertFull_of_find?_some hf he]
    refine Post.bind (Post.triv _) fun pos _ => Post.bind (dq_upHeapify_kept _ _) fun s' hs' => Post.pure ?_
    obtain ⟨h1, -, h2⟩ := hs'
    simp only at h1 h2 ⊢
    omega

/-! ## `Extend` of both queues -/

theorem call_storeExtend (s : Store P) (lo : Nat) (xs : Array (Item × P)) (n : Nat) :
    callWith (exec prog (n + 1)) prog .storeExtend s [] [] [Val.iter lo xs] = pure (s.extend xs, Val.unit) :=
  storeExtend s lo xs (n + 1) (by omega)

/-- the body of `extend` of either queue; `build` and `push` are its two callees (`heap_build`, `push`) -/
def extendBody (build push : FnId) : Stmt :=
  .seq (.setN 1 (.iterLo 0))
    (.seq
      (.ite (.neN (.var 1) (.lit 0))
        (.seq (.reserve (.var 1)) (.ite (.betterToRebuild .len (.var 1)) (.setN 2 (.lit 1)) (.setN 2 (.lit 0))))
        (.ite .ff (.setN 2 (.lit 1)) (.setN 2 (.lit 0))))
      (.ite (.neN (.var 2) (.lit 0))
        (.seq (.callX 3 .storeExtend [] [] [0]) (.call build [] []))
        (.forEntries 0 4 5 (.callX 6 push [] [(.var 5)] [4]))))

/-- the registers after one round of the push loop of `extend` -/
def extG (e : Item × P) (st : St P) (r : Store P × Option P) : St P :=
  { s := r.1, n := st.n, p := upd st.p 5 (some e.snd),
    v := upd (upd st.v 4 (some (Val.item e.fst))) 6 (some (Val.optP r.2)) }

section Extend
variable {pushM : Store P → Item → P → R (Store P × Option P)} {pushAllM : List (Item × P) → Store P → R (Store P)}
  (hnil : ∀ s, pushAllM [] s = pure s)
  (hcons : ∀ e l s, pushAllM (e :: l) s = pushM s e.1 e.2 >>= fun r => pushAllM l r.1)
  (hgrow : ∀ s it p, Post (pushM s it p) (fun r => r.1.size ≤ s.size + 1 ∧ r.1.heap.size ≤ s.heap.size + 1))
include hnil hcons hgrow

/-- the `for (item, priority) in iter { self.push(item, priority); }` loop is the model's `pushAll`; `c` is the fuel one
`push` needs beyond the two lengths -/
theorem forList_pushAll {β : Type} (c k : Nat) (body : Item × P → St P → R (St P × Flow P))
    (G : Item × P → St P → Store P × Option P → St P) (hG : ∀ e st r, (G e st r).s = r.1)
    (hbody : ∀ e st, k ≥ st.s.size + st.s.heap.size + c →
      body e st = pushM st.s e.1 e.2 >>= fun r => pure (G e st r, Flow.normal))
    (K : St P × Flow P → R β) (enc : Store P → β) (hK : ∀ st', K (st', .normal) = pure (enc st'.s)) :
    ∀ (l : List (Item × P)) (st : St P), k ≥ st.s.size + st.s.heap.size + 2 * l.length + c →
      forList body l st >>= K = enc <$> pushAllM l st.s := by
  intro l
  induction l with
  | nil => intro st _; simp only [forList, hnil, pure_bind, hK]; rfl
  | cons e l ih =>
    intro st hk
    simp only [List.length_cons] at hk
    rw [forList, hbody e st (by omega), hcons]
    cases hp : pushM st.s e.1 e.2 with
    | error f => rfl
    | ok r =>
      have hg := hgrow st.s e.1 e.2 r hp
      simp only [ok_bind, pure_bind]
      have := ih (G e st r) (by rw [hG]; omega)
      rw [hG] at this
      exact this

/-- `Extend::extend` of either queue (strategy choice by `better_to_rebuild`): `buildM`, `pushM` are what the two callees
compute, given `c - 2` resp. `c` units of fuel beyond the sizes -/
theorem extendM {fid build push : FnId} {buildM : Store P → R (Store P)} (c : Nat)
    (hfn : prog fid = some { nparams := [], pparams := [], body := extendBody build push, vparams := [0] })
    (hbuild : ∀ (s : Store P) n, n + 2 ≥ s.size + c →
      callWith (exec prog n) prog build s [] [] [] = (fun s' => (s', Val.unit)) <$> buildM s)
    (hpush : ∀ (s : Store P) it p n, n ≥ s.size + s.heap.size + c →
      callWith (exec prog n) prog push s [] [p] [Val.item it] = (fun r => (r.1, Val.optP r.2)) <$> pushM s it p)
    (s : Store P) (lo : Nat) (xs : Array (Item × P)) (fuel : Nat)
    (h : fuel ≥ s.size + s.heap.size + 2 * xs.size + (s.extend xs).size + (c + 2)) :
    Src.run SrcGen.prog fuel fid s [] [] [Val.iter lo xs] = (fun s' => (s', Val.unit)) <$> (do
      reserveC lo
      if (if lo ≠ 0 then Arith.betterToRebuild s.size lo else false) then buildM (s.extend xs)
      else pushAllM xs.toList s) := by
  obtain ⟨n, rfl⟩ : ∃ n, fuel = n + 2 := ⟨fuel - 2, by omega⟩
  rw [run_eq hfn]
  src_eval [extendBody]
  simp only [call_storeExtend, pure_bind, hbuild _ (n + 1) (by omega : n + 1 + 2 ≥ (s.extend xs).size + c),
    ne_eq, Nat.succ_ne_zero, not_false_eq_true, not_true_eq_false, ↓reduceIte, Bool.false_eq_true,
    Nat.one_ne_zero, map_eq_pure_bind, Function.comp]
  have loop : ∀ (st0 : St P) (body : Item × P → St P → R (St P × Flow P)), st0.s = s →
      (∀ e st, n + 1 ≥ st.s.size + st.s.heap.size + c →
        body e st = pushM st.s e.1 e.2 >>= fun r => pure (extG e st r, Flow.normal)) →
      forList body xs.toList st0 >>= fin = pushAllM xs.toList s >>= fun a => pure (a, Val.unit) := by
    intro st0 body h0 hbody
    have := forList_pushAll hnil hcons hgrow c (n + 1) body extG (fun _ _ _ => rfl) hbody fin (fun s' => (s', Val.unit))
      (fun st' => rfl) xs.toList st0 (by rw [h0]; simp only [Array.length_toList]; omega)
    rw [this, h0]
    simp only [map_eq_pure_bind, Function.comp]
  have hbody : ∀ (e : Item × P) (st : St P), n + 1 ≥ st.s.size + st.s.heap.size + c →
      (callWith (exec prog (n + 1)) prog push st.s [] [e.snd] [Val.item e.fst] >>= fun __x =>
          pure (({ s := __x.fst, n := st.n, p := upd st.p 5 (some e.snd), v := upd (upd st.v 4 (some (Val.item e.fst))) 6 (some __x.snd) } : St P), (Flow.normal : Flow P)))
        = pushM st.s e.1 e.2 >>= fun r => pure (extG e st r, (Flow.normal : Flow P)) := by
    intro e st hb
    rw [hpush _ _ _ _ hb]
    simp only [map_eq_pure_bind, bind_assoc, pure_bind, Function.comp, extG]
  by_cases hlo : lo = 0
  · subst hlo
    simp only [↓reduceIte, reserveC_zero, ok_bind, Bool.false_eq_true]
    exact loop _ _ rfl hbody
  · simp only [hlo, ↓reduceIte]
    refine bind_congr_ok fun _ _ => ?_
    by_cases hb : Arith.betterToRebuild s.size lo = true
    · simp only [hb, ↓reduceIte, not_false_eq_true, bind_assoc, pure_bind]
    · simp only [hb, ↓reduceIte, not_false_eq_true, Bool.false_eq_true]
      exact loop _ _ rfl hbody

end Extend

/-- `Extend for PriorityQueue` = `MaxQ.extend` (strategy choice by `better_to_rebuild`) -/
theorem pqExtend (s : Store P) (lo : Nat) (xs : Array (Item × P)) (fuel : Nat)
    (h : fuel ≥ s.size + s.heap.size + 2 * xs.size + (s.extend xs).size + 7) :
    Src.run SrcGen.prog fuel .pqExtend s [] [] [Val.iter lo xs]
      = (fun s' => (s', Val.unit)) <$> MaxQ.extend s lo xs :=
  extendM (fun _ => rfl) (fun _ _ _ => rfl) push_post_grow 5 rfl (fun s n hn => call_pqHeapBuild s n (by omega))
    call_pqPush s lo xs fuel h

/-- `Extend for DoublePriorityQueue` = `DQ.extend` (strategy choice by `better_to_rebuild`) -/
theorem dqExtend (s : Store P) (lo : Nat) (xs : Array (Item × P)) (fuel : Nat)
    (h : fuel ≥ s.size + s.heap.size + 2 * xs.size + (s.extend xs).size + 8) :
    Src.run SrcGen.prog fuel .dqExtend s [] [] [Val.iter lo xs]
      = (fun s' => (s', Val.unit)) <$> DQ.extend s lo xs :=
  extendM (fun _ => rfl) (fun _ _ _ => rfl) dq_push_post_grow 6 rfl (fun s n hn => call_dqHeapBuild s n (by omega))
    call_dqPush s lo xs fuel h

end PQ.SrcEquiv
