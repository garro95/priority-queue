import PQ.Lemmas.SiftUp
import PQ.Lemmas.Arith
/-!
# `PriorityQueue::bubble_up`, `up_heapify`, `heap_build`: order and well-formedness
-/
set_option linter.unusedSimpArgs false
set_option linter.unusedSectionVars false
namespace PQ
open Arith
variable {P : Type} [LT P] [DecidableLT P] [LE P] [Std.IsLinearPreorder P] [Std.LawfulOrderLT P]

namespace Store

theorem HoleTWF.prioAt_ok {s : Store P} {n hole idx p : Nat} (h : s.HoleTWF n hole idx) (hp : p < n) (hne : p ≠ hole) :
    ∃ i x, s.heap[p]? = some i ∧ s.prioAt p = .ok x ∧ s.pr p = some x := by
  obtain ⟨i, _, h1, h2⟩ := h.heap_qp p hp hne
  have hi : i < s.map.size := by have := lt_size_of_getElem? h2; rw [h.qp_size] at this; rw [h.map_size]; exact this
  have hm : s.map[i]? = some s.map[i] := by simp [hi]
  have hpr : s.pr p = some (s.map[i]).2 := by simp [pr, h1, hm]
  exact ⟨i, _, h1, prioAt_eq_ok_iff.mpr hpr, hpr⟩

/-- `a` dominates `b` under an option-valued priority function -/
def GeW (w : Nat → Option P) (a b : Nat) : Prop := ∀ x y, w a = some x → w b = some y → ¬ x < y

/-- loop invariant of the sift-up (order part), over the virtual priority function `w` with the travelling
priority `v` in the hole; `i0` is where the walk started -/
structure UpInv (w : Nat → Option P) (v : P) (n hole i0 : Nat) : Prop where
  edges : ∀ p, 0 < p → p < n → p ≠ hole → parent p ≠ hole → GeW w (parent p) p
  bridge : 0 < hole → ∀ c, 0 < c → c < n → parent c = hole → GeW w (parent hole) c
  below : hole ≠ i0 → ∀ c, 0 < c → c < n → parent c = hole → ∀ y, w c = some y → ¬ v < y

/-- one step of the sift-up: the parent's smaller priority `x` moves down into the hole, the hole moves to the parent -/
theorem UpInv.step {w w' : Nat → Option P} {v x : P} {n hole i0 : Nat} (inv : UpInv w v n hole i0) (h0 : 0 < hole)
    (hn : hole < n) (hw : ∀ p, w' p = w (swapPos hole (parent hole) p)) (hx : w (parent hole) = some x) (hlt : x < v) :
    UpInv w' v n (parent hole) i0 := by
  have hpl := parent_lt h0
  have hppne : parent hole ≠ hole := Nat.ne_of_lt hpl
  have hne : ∀ {c}, 0 < c → parent c = parent hole → c ≠ parent hole := fun hc hcp => by have := parent_lt hc; omega
  refine ⟨?_, ?_, ?_⟩
  · intro p hp hpn hpne hppne2
    unfold GeW
    rw [hw, hw]
    by_cases hph : p = hole
    · subst hph; exact absurd rfl hppne2
    · rw [swapPos_of_ne hph hpne]
      by_cases hpph : parent p = hole
      · rw [hpph, swapPos_left]; exact inv.bridge h0 p hp hpn hpph
      · rw [swapPos_of_ne hpph hppne2]; exact inv.edges p hp hpn hph hpph
  · intro hpp0 c hc hcn hcp
    have hgg := parent_lt hpp0
    have eg := inv.edges (parent hole) hpp0 (by omega) hppne (by omega)
    unfold GeW
    rw [hw, hw, swapPos_of_ne (by omega) (by omega)]
    by_cases hch : c = hole
    · subst hch; rw [swapPos_left]; exact eg
    · rw [swapPos_of_ne hch (hne hc hcp)]
      intro a b ha hb
      have e1 := eg a x ha hx
      have e2 := inv.edges c hc hcn hch (by rw [hcp]; exact hppne) x b (by rw [hcp]; exact hx) hb
      grind
  · intro _ c hc hcn hcp y hy
    rw [hw] at hy
    by_cases hch : c = hole
    · subst hch; rw [swapPos_left, hx] at hy; cases hy; grind
    · rw [swapPos_of_ne hch (hne hc hcp)] at hy
      have e2 := inv.edges c hc hcn hch (by rw [hcp]; exact hppne) x y (by rw [hcp]; exact hx) hy
      grind

end Store

namespace MaxQ
open Store

theorem bubbleUpLoop_spec (v : P) (n idx i0 : Nat) (fuel : Nat) : ∀ (s : Store P) (hole : Nat), s.HoleTWF n hole idx → hole + 1 ≤ fuel →
    UpInv (prH s hole v) v n hole i0 →
    ∃ s' pos, bubbleUpLoop fuel s hole v = .ok (s', pos) ∧ s'.HoleTWF n pos idx ∧ s'.map = s.map ∧ s'.size = s.size ∧
      pos ≤ hole ∧ UpInv (prH s' pos v) v n pos i0 ∧
      (0 < pos → ∀ x, prH s' pos v (parent pos) = some x → ¬ x < v) ∧
      (∀ p, hole < p → s'.heap[p]? = s.heap[p]?) := by
  induction fuel with
  | zero => intro s hole _ hf; omega
  | succ fuel ih =>
    intro s hole h hf inv
    by_cases h0 : hole > 0
    · have hppn : parent hole < n := by have := h.hole_lt; simp only [parent]; omega
      have hppne : parent hole ≠ hole := by simp only [parent]; omega
      obtain ⟨pi, x, hpi, hx, hxp⟩ := h.prioAt_ok hppn hppne
      by_cases hlt : x < v
      · -- the parent moves down, the hole moves up
        have hstep := (h.tick (k := 1)).step hppn hppne (by simpa using hpi)
        have hpiN : pi < s.qp.size := by
          obtain ⟨_, _, h2, h3⟩ := h.heap_qp _ hppn hppne
          rw [hpi] at h2; cases h2; exact lt_size_of_getElem? h3
        have hholeN : hole < s.heap.size := by rw [h.heap_size]; exact h.hole_lt
        obtain ⟨s1, hs1⟩ : ∃ s1 : Store P, s1 = { s.tick with heap := (s.tick).heap.setIfInBounds hole pi, qp := (s.tick).qp.setIfInBounds pi hole } := ⟨_, rfl⟩
        rw [← hs1] at hstep
        have hpl : parent hole < hole := by simp only [parent]; omega
        have hw : ∀ p, prH s1 (parent hole) v p = prH s hole v (swapPos hole (parent hole) p) := by
          intro p; rw [hs1]; exact prH_step (h.tick (k := 1)) hppne hpi v p
        have inv1 := inv.step h0 h.hole_lt hw (by simp [prH, hppne, hxp]) hlt
        obtain ⟨s', pos, hrun, hh', hm', hsz', hle, inv', hexit, hfr⟩ := ih s1 (parent hole) hstep (by omega) inv1
        refine ⟨s', pos, ?_, hh', by rw [hm', hs1]; rfl, by rw [hsz', hs1]; rfl, by omega, inv', hexit, ?_⟩
        · simp [bubbleUpLoop, h0, hx, hlt, getU_ok hpi, setU_ok pi hholeN, setU_ok hole hpiN, bind, Except.bind, pure, Except.pure]
          rw [hs1] at hrun; exact hrun
        · intro p hp
          rw [hfr p (by omega), hs1]
          simp [Array.getElem?_setIfInBounds]
          intro e; omega
      · refine ⟨s.tick, hole, ?_, h.tick, rfl, rfl, Nat.le_refl _, ?_, ?_, fun _ _ => rfl⟩
        · simp [bubbleUpLoop, h0, hx, hlt, bind, Except.bind, pure, Except.pure]
        · exact inv
        · intro _ y hy
          have : prH (s.tick) hole v (parent hole) = some x := by simp [prH, hppne, hxp]
          rw [this] at hy; cases hy; exact hlt
    · refine ⟨s, hole, ?_, h, rfl, rfl, Nat.le_refl _, inv, ?_, fun _ _ => rfl⟩
      · simp [bubbleUpLoop, h0]; rfl
      · intro hp; omega

/-- **`bubble_up`** from position `i` holding slot `idx`, on tables of length `n` (which may differ from `s.size`:
`push` sifts up before bumping `size`).  If every edge not incident to `i` is in order and the parent of `i`
dominates the children of `i`, the result has well-formed tables, every edge not leaving the final position `pos` in
order, the bridge property at `pos`, and full order below `pos` if the element moved. -/
theorem bubbleUp_spec {s : Store P} {n i idx : Nat} (h : s.TWF n) (hi : s.heap[i]? = some idx)
    (hE : ∀ p, 0 < p → p < n → p ≠ i → parent p ≠ i → s.Ge (parent p) p)
    (hB : 0 < i → ∀ c, 0 < c → c < n → parent c = i → s.Ge (parent i) c) :
    ∃ s' pos, bubbleUp s i idx = .ok (s', pos) ∧ s'.TWF n ∧ s'.map = s.map ∧ s'.size = s.size ∧ pos ≤ i ∧
      (∀ p, 0 < p → p < n → parent p ≠ pos → s'.Ge (parent p) p) ∧
      (0 < pos → ∀ c, 0 < c → c < n → parent c = pos → s'.Ge (parent pos) c) ∧
      (pos ≠ i → ∀ c, 0 < c → c < n → parent c = pos → s'.Ge pos c) ∧
      (∀ p, i < p → s'.heap[p]? = s.heap[p]?) := by
  have hidx : idx < n := h.heap_lt hi
  obtain ⟨e, he⟩ := h.map_some hidx
  have hpri : s.pr i = some e.2 := by simp [pr, hi, he]
  have hw0 : ∀ p, prH s i e.2 p = s.pr p := by
    intro p; unfold prH; split
    · next hp => subst hp; exact hpri.symm
    · rfl
  have inv0 : UpInv (prH s i e.2) e.2 n i i := by
    refine ⟨?_, ?_, fun hne => absurd rfl hne⟩
    · intro p hp hpn hpi hppi a b ha hb
      rw [hw0] at ha hb; exact hE p hp hpn hpi hppi a b ha hb
    · intro h0 c hc hcn hcp a b ha hb
      rw [hw0] at ha hb; exact hB h0 c hc hcn hcp a b ha hb
  obtain ⟨s1, pos, hrun, hh1, hm1, hsz1, hle, inv1, hexit, hfr⟩ :=
    bubbleUpLoop_spec e.2 n idx i (i + 1) s i (h.toHole hi) (Nat.le_refl _) inv0
  have hposN : pos < s1.heap.size := by rw [hh1.heap_size]; exact hh1.hole_lt
  have hidxN : idx < s1.qp.size := by rw [hh1.qp_size]; exact hidx
  have he1 : s1.map[idx]? = some e := by rw [hm1]; exact he
  have hfill := hh1.fill
  have hprf := pr_fill hh1 e he1
  refine ⟨{ s1 with heap := s1.heap.setIfInBounds pos idx, qp := s1.qp.setIfInBounds idx pos }, pos, ?_, hfill, hm1, hsz1, hle, ?_, ?_, ?_, ?_⟩
  · simp [bubbleUp, IMap.getIndex, unwrapO, he, hrun, setU_ok idx hposN, setU_ok pos hidxN, bind, Except.bind, pure, Except.pure]
  · intro p hp hpn hpp a b ha hb
    rw [hprf] at ha hb
    by_cases hpe : p = pos
    · subst hpe
      have : prH s1 p e.2 p = some e.2 := by simp [prH]
      rw [this] at hb; cases hb
      exact hexit hp a ha
    · exact inv1.edges p hp hpn hpe hpp a b ha hb
  · intro h0 c hc hcn hcp a b ha hb
    rw [hprf] at ha hb
    exact inv1.bridge h0 c hc hcn hcp a b ha hb
  · intro hne c hc hcn hcp a b ha hb
    rw [hprf] at ha hb
    have : prH s1 pos e.2 pos = some e.2 := by simp [prH]
    rw [this] at ha; cases ha
    exact inv1.below hne c hc hcn hcp b hb
  · intro p hp
    have hne : pos ≠ p := by omega
    simp [Array.getElem?_setIfInBounds, hne]
    exact hfr p hp

/-- `heapify` in the form used by the callers -/
theorem heapify_spec {s : Store P} {lo i : Nat} (h : s.WF) (hi : i < s.size) (hpre : s.SiftPre lo i) :
    ∃ s', heapify s i = .ok s' ∧ s'.WF ∧ s'.map = s.map ∧ s'.size = s.size ∧ s'.EdgesFrom lo ∧
      (∀ p, p < i → s'.heap[p]? = s.heap[p]?) := by
  unfold heapify
  by_cases h1 : s.size ≤ 1
  · refine ⟨s, by simp [h1]; rfl, h, rfl, rfl, ?_, fun _ _ => rfl⟩
    intro p hp hps; omega
  · simp only [h1, if_false]
    exact heapifyLoop_spec s.size s lo i h hi (by omega) hpre

/-- **`up_heapify(i)`** restores the max-heap after an arbitrary change of the priority at position `i`. -/
theorem upHeapify_spec {s : Store P} {i : Nat} (h : s.WF) (hi : i < s.size)
    (hE : ∀ p, 0 < p → p < s.size → p ≠ i → parent p ≠ i → s.Ge (parent p) p)
    (hB : 0 < i → ∀ c, 0 < c → c < s.size → parent c = i → s.Ge (parent i) c) :
    ∃ s', upHeapify s i = .ok s' ∧ s'.WF ∧ s'.map = s.map ∧ s'.size = s.size ∧ s'.MaxHeap := by
  obtain ⟨idx, hidx, _⟩ := TWF.heap_some h hi
  obtain ⟨s1, pos, hb, h1, hm1, hsz1, hle, e1, b1, _, _⟩ := bubbleUp_spec h hidx hE hB
  have h1wf : s1.WF := by unfold Store.WF; rw [hsz1]; exact h1
  have hpre : s1.SiftPre 0 pos := by
    constructor
    · intro p hp hps _ hpp; rw [hsz1] at hps; exact e1 p hp hps hpp
    · intro h0 _ c hc hcs hcp; rw [hsz1] at hcs; exact b1 h0 c hc hcs hcp
  obtain ⟨s', hh, hwf, hm, hsz, hed, _⟩ := heapify_spec h1wf (by rw [hsz1]; omega) hpre
  refine ⟨s', ?_, hwf, by rw [hm, hm1], by rw [hsz, hsz1], (maxHeap_iff_edgesFrom s').mpr hed⟩
  simp [upHeapify, getU_ok hidx, hb, hh, bind, Except.bind]

theorem heapBuildLoop_spec : ∀ (k : Nat) (s : Store P), s.WF → k < s.size → s.EdgesFrom (k + 1) →
    ∃ s', heapBuildLoop s k = .ok s' ∧ s'.WF ∧ s'.map = s.map ∧ s'.size = s.size ∧ s'.MaxHeap := by
  intro k
  induction k with
  | zero =>
    intro s h hk hed
    have hpre : s.SiftPre 0 0 := by
      constructor
      · intro p hp hps _ hpp; exact hed p hp hps (by omega)
      · intro h0; omega
    obtain ⟨s', hh, hwf, hm, hsz, hed', _⟩ := heapify_spec h hk hpre
    exact ⟨s', by simpa [heapBuildLoop] using hh, hwf, hm, hsz, (maxHeap_iff_edgesFrom s').mpr hed'⟩
  | succ k ih =>
    intro s h hk hed
    have hpre : s.SiftPre (k + 1) (k + 1) := by
      constructor
      · intro p hp hps hlo hpp; exact hed p hp hps (by omega)
      · intro _ hlo; have := parent_lt (i := k + 1) (by omega); omega
    obtain ⟨s1, hh, hwf, hm, hsz, hed', _⟩ := heapify_spec h hk hpre
    obtain ⟨s', hh', hwf', hm', hsz', hmax⟩ := ih s1 hwf (by rw [hsz]; omega) hed'
    exact ⟨s', by simp [heapBuildLoop, hh, hh', bind, Except.bind], hwf', by rw [hm', hm], by rw [hsz', hsz], hmax⟩

/-- **`heap_build`** (Floyd) turns any well-formed store into a max-heap. -/
theorem heapBuild_spec {s : Store P} (h : s.WF) :
    ∃ s', heapBuild s = .ok s' ∧ s'.WF ∧ s'.map = s.map ∧ s'.size = s.size ∧ s'.MaxHeap := by
  unfold heapBuild
  by_cases h0 : s.size = 0
  · refine ⟨s, by simp [h0]; rfl, h, rfl, rfl, ?_⟩
    intro p hp hps; omega
  · have hpl : parent s.size < s.size := parent_lt (by omega)
    have hed : s.EdgesFrom (parent s.size + 1) := by
      intro p hp hps hlo
      have : parent p ≤ parent s.size := parent_mono (by omega)
      omega
    obtain ⟨s', hh, rest⟩ := heapBuildLoop_spec (parent s.size) s h hpl hed
    exact ⟨s', by simp [h0, parentC, hh, bind, Except.bind], rest⟩

end MaxQ
end PQ
