import PQ.Lemmas.SrcEquivPanicDQ
set_option linter.unusedSimpArgs false
set_option linter.unusedSectionVars false
/-! # Unwinding tie: `retain{,_mut}`, `append`, the conversions and constructors, `Drop for IterMut` of both queues against
their fused twins (each is a store-level operation, comparison-free, followed by the fused `heap_build`) -/
namespace PQ.SrcEquivF
open PQ PQ.Src PQ.SrcGen PQ.SrcF PQ.Crash PQ.SrcEquiv
variable {P : Type} [LT P] [DecidableLT P]

theorem call_pqHeapBuildF (fuse : Nat) (s : Store P) (n : Nat) (h : n ≥ s.size + 3) :
    toCRcall (callWithF (execF prog unwind fuse false n) (exec prog n) prog unwind .pqHeapBuild s [] [] [])
      = (fun s' => (s', Val.unit)) <$> Crash.MaxQ.heapBuildF fuse s := by
  rw [← runF_eq]; exact pqHeapBuildF fuse s n h

theorem asNew_liftR_bind {α β : Type} (x : R α) (f : α → CR P β) :
    asNew (liftR x >>= f) = liftR x >>= fun a => asNew (f a) := by
  cases x <;> rfl
theorem asNew_map {α β : Type} (g : α → β) (x : CR P α) : asNew (g <$> x) = g <$> asNew x := by
  cases x with
  | ok a => rfl
  | error e => cases e <;> rfl
theorem asNew_bind_pure {α β : Type} (g : α → β) (x : CR P α) : asNew (x >>= fun a => pure (g a)) = asNew x >>= fun a => pure (g a) := by
  cases x with
  | ok a => rfl
  | error e => cases e <;> rfl

/-- `PriorityQueue::retain_mut` under a panicking comparison = `Crash.MaxQ.retainMutF` (the store-level retain is complete) -/
theorem pqRetainMutF (fuse : Nat) (s : Store P) (f : Item → P → Bool × Item × P) (fuel : Nat)
    (h : fuel ≥ (s.retainMut f).size + 5) :
    runF prog unwind fuse false fuel .pqRetainMut s [] [] [Val.pred f]
      = (fun s' => (s', Val.unit)) <$> Crash.MaxQ.retainMutF fuse s f := by
  obtain ⟨n, rfl⟩ := exists_eq_add 3 h (by decide)
  rw [runF_frame0 prog unwind fuse false (n + 2) .pqRetainMut _ s _ _ _ rfl rfl]
  unfold Crash.MaxQ.retainMutF
  rw [execF, pqRetainMut_body]
  srcF_eval
  srcF_cr [call_storeRetainMut]
  rw [call_pqHeapBuildF _ _ _ (by omega)]
  srcF_cr

/-- `PriorityQueue::retain` under a panicking comparison -/
theorem pqRetainF (fuse : Nat) (s : Store P) (g : Item → P → Bool) (fuel : Nat)
    (h : fuel ≥ (s.retainMut (fun i p => (g i p, i, p))).size + 5) :
    runF prog unwind fuse false fuel .pqRetain s [] [] [Val.predRO g]
      = (fun s' => (s', Val.unit)) <$> Crash.MaxQ.retainMutF fuse s (fun i p => (g i p, i, p)) := by
  obtain ⟨n, rfl⟩ := exists_eq_add 3 h (by decide)
  rw [runF_frame0 prog unwind fuse false (n + 2) .pqRetain _ s _ _ _ rfl rfl]
  unfold Crash.MaxQ.retainMutF
  rw [execF, pqRetain_body]
  srcF_eval
  srcF_cr [call_storeRetain]
  rw [call_pqHeapBuildF _ _ _ (by omega)]
  srcF_cr

/-- `PriorityQueue::append` under a panicking comparison = `Crash.MaxQ.appendF` (`other` is already drained; only the
receiver's store is reported) -/
theorem pqAppendF (fuse : Nat) (s o : Store P) (fuel : Nat) (h : fuel ≥ (s.append o).1.size + 5) :
    runF prog unwind fuse false fuel .pqAppend s [] [] [Val.store o]
      = (fun r => (r.1, Val.store r.2)) <$> Crash.MaxQ.appendF fuse s o := by
  obtain ⟨n, rfl⟩ := exists_eq_add 3 h (by decide)
  rw [runF_frame0 prog unwind fuse false (n + 2) .pqAppend _ s _ _ _ rfl rfl]
  unfold Crash.MaxQ.appendF
  rw [execF, pqAppend_body]
  srcF_eval [call_storeAppend]
  srcF_cr
  rw [call_pqHeapBuildF _ _ _ (by omega)]
  srcF_cr

/-- `From<Vec<(I, P)>> for PriorityQueue` under a panicking comparison = `Crash.MaxQ.fromVecF`: the queue under construction
is a local of the constructor, a panic drops it (`asNew`) -/
theorem pqFromVecF (fuse : Nat) (s : Store P) (v : Array (Item × P)) (hv : v.size < capLimit) (fuel : Nat)
    (h : fuel ≥ (Store.fromVec v : Store P).size + 5) :
    asNew (runF prog unwind fuse false fuel .pqFromVec s [] [] [Val.entries v])
      = (fun s' => (s', Val.unit)) <$> Crash.MaxQ.fromVecF fuse v := by
  obtain ⟨n, rfl⟩ := exists_eq_add 3 h (by decide)
  rw [runF_frame0 prog unwind fuse false (n + 2) .pqFromVec _ s _ _ _ rfl rfl]
  unfold Crash.MaxQ.fromVecF
  rw [execF, pqFromVec_body]
  srcF_eval
  srcF_cr [call_storeFromVec _ _ hv]
  rw [call_pqHeapBuildF _ _ _ (by omega)]
  srcF_cr
  rw [asNew_bind_pure]

/-- `FromIterator for PriorityQueue` under a panicking comparison = `Crash.MaxQ.fromIterF` -/
theorem pqFromIterF (fuse : Nat) (s : Store P) (lo : Nat) (xs : Array (Item × P)) (fuel : Nat)
    (h : fuel ≥ (Store.fromIter xs : Store P).size + 5) :
    asNew (runF prog unwind fuse false fuel .pqFromIter s [] [] [Val.iter lo xs])
      = (fun s' => (s', Val.unit)) <$> Crash.MaxQ.fromIterF fuse lo xs := by
  obtain ⟨n, rfl⟩ := exists_eq_add 3 h (by decide)
  rw [runF_frame0 prog unwind fuse false (n + 2) .pqFromIter _ s _ _ _ rfl rfl]
  unfold Crash.MaxQ.fromIterF
  rw [execF, pqFromIter_body]
  srcF_eval
  srcF_cr [call_storeFromIter]
  rw [asNew_liftR_bind]
  refine liftR_bind_congr_ok fun _ _ => ?_
  rw [call_pqHeapBuildF _ _ _ (by omega)]
  srcF_cr
  rw [asNew_bind_pure]

/-- `From<DoublePriorityQueue> for PriorityQueue` under a panicking comparison = `Crash.MaxQ.ofStoreF` (the consumed queue's
store is rebuilt in place) -/
theorem pqFromQueueF (fuse : Nat) (s : Store P) (fuel : Nat) (h : fuel ≥ s.size + 4) :
    runF prog unwind fuse false fuel .pqFromQueue s [] = (fun s' => (s', Val.unit)) <$> Crash.MaxQ.ofStoreF fuse s := by
  obtain ⟨n, rfl⟩ := exists_eq_add 1 h (by decide)
  rw [runF_frame0 prog unwind fuse false n .pqFromQueue _ s _ _ _ rfl rfl]
  unfold Crash.MaxQ.ofStoreF
  rw [execF, pqFromQueue_body]
  srcF_eval
  srcF_cr
  rw [call_pqHeapBuildF _ _ _ (by omega)]
  srcF_cr

/-- `Deserialize for PriorityQueue` under a panicking comparison = `Crash.MaxQ.deserializeF` -/
theorem pqDeserializeF (fuse : Nat) (s : Store P) (hint : Option Nat) (xs : Array (Item × P)) (fuel : Nat)
    (h : fuel ≥ (Store.visitSeq xs : Store P).size + 5) :
    asNew (runF prog unwind fuse false fuel .pqDeserialize s [] [] [Val.seq hint xs])
      = (fun s' => (s', Val.unit)) <$> Crash.MaxQ.deserializeF fuse hint xs := by
  obtain ⟨n, rfl⟩ := exists_eq_add 3 h (by decide)
  rw [runF_frame0 prog unwind fuse false (n + 2) .pqDeserialize _ s _ _ _ rfl rfl]
  unfold Crash.MaxQ.deserializeF
  rw [execF, pqDeserialize_body]
  srcF_eval
  srcF_cr [call_storeVisitSeq]
  cases hint with
  | none =>
    srcF_cr
    rw [call_pqHeapBuildF _ _ _ (by omega)]
    srcF_cr
    rw [asNew_bind_pure]
  | some hh =>
    simp only [Arith.deserPrealloc, bind_assoc]
    rw [asNew_liftR_bind]
    refine liftR_bind_congr_ok fun _ _ => ?_
    rw [call_pqHeapBuildF _ _ _ (by omega)]
    srcF_cr
    rw [asNew_bind_pure]

theorem call_dqHeapBuildF (fuse : Nat) (s : Store P) (n : Nat) (h : n ≥ s.size + 4) :
    toCRcall (callWithF (execF prog unwind fuse false n) (exec prog n) prog unwind .dqHeapBuild s [] [] [])
      = (fun s' => (s', Val.unit)) <$> Crash.DQ.heapBuildF fuse s := by
  rw [← runF_eq]; exact dqHeapBuildF fuse s n h

/-- `DoublePriorityQueue::retain_mut` under a panicking comparison = `Crash.DQ.retainMutF` (the store-level retain is complete) -/
theorem dqRetainMutF (fuse : Nat) (s : Store P) (f : Item → P → Bool × Item × P) (fuel : Nat)
    (h : fuel ≥ (s.retainMut f).size + 6) :
    runF prog unwind fuse false fuel .dqRetainMut s [] [] [Val.pred f]
      = (fun s' => (s', Val.unit)) <$> Crash.DQ.retainMutF fuse s f := by
  obtain ⟨n, rfl⟩ := exists_eq_add 3 h (by decide)
  rw [runF_frame0 prog unwind fuse false (n + 2) .dqRetainMut _ s _ _ _ rfl rfl]
  unfold Crash.DQ.retainMutF
  rw [execF, dqRetainMut_body]
  srcF_eval
  srcF_cr [call_storeRetainMut]
  rw [call_dqHeapBuildF _ _ _ (by omega)]
  srcF_cr

/-- `DoublePriorityQueue::retain` under a panicking comparison -/
theorem dqRetainF (fuse : Nat) (s : Store P) (g : Item → P → Bool) (fuel : Nat)
    (h : fuel ≥ (s.retainMut (fun i p => (g i p, i, p))).size + 6) :
    runF prog unwind fuse false fuel .dqRetain s [] [] [Val.predRO g]
      = (fun s' => (s', Val.unit)) <$> Crash.DQ.retainMutF fuse s (fun i p => (g i p, i, p)) := by
  obtain ⟨n, rfl⟩ := exists_eq_add 3 h (by decide)
  rw [runF_frame0 prog unwind fuse false (n + 2) .dqRetain _ s _ _ _ rfl rfl]
  unfold Crash.DQ.retainMutF
  rw [execF, dqRetain_body]
  srcF_eval
  srcF_cr [call_storeRetain]
  rw [call_dqHeapBuildF _ _ _ (by omega)]
  srcF_cr

/-- `DoublePriorityQueue::append` under a panicking comparison = `Crash.DQ.appendF` (`other` is already drained; only the
receiver's store is reported) -/
theorem dqAppendF (fuse : Nat) (s o : Store P) (fuel : Nat) (h : fuel ≥ (s.append o).1.size + 6) :
    runF prog unwind fuse false fuel .dqAppend s [] [] [Val.store o]
      = (fun r => (r.1, Val.store r.2)) <$> Crash.DQ.appendF fuse s o := by
  obtain ⟨n, rfl⟩ := exists_eq_add 3 h (by decide)
  rw [runF_frame0 prog unwind fuse false (n + 2) .dqAppend _ s _ _ _ rfl rfl]
  unfold Crash.DQ.appendF
  rw [execF, dqAppend_body]
  srcF_eval [call_storeAppend]
  srcF_cr
  rw [call_dqHeapBuildF _ _ _ (by omega)]
  srcF_cr

/-- `From<Vec<(I, P)>> for DoublePriorityQueue` under a panicking comparison = `Crash.DQ.fromVecF`: the queue under construction
is a local of the constructor, a panic drops it (`asNew`) -/
theorem dqFromVecF (fuse : Nat) (s : Store P) (v : Array (Item × P)) (hv : v.size < capLimit) (fuel : Nat)
    (h : fuel ≥ (Store.fromVec v : Store P).size + 6) :
    asNew (runF prog unwind fuse false fuel .dqFromVec s [] [] [Val.entries v])
      = (fun s' => (s', Val.unit)) <$> Crash.DQ.fromVecF fuse v := by
  obtain ⟨n, rfl⟩ := exists_eq_add 3 h (by decide)
  rw [runF_frame0 prog unwind fuse false (n + 2) .dqFromVec _ s _ _ _ rfl rfl]
  unfold Crash.DQ.fromVecF
  rw [execF, dqFromVec_body]
  srcF_eval
  srcF_cr [call_storeFromVec _ _ hv]
  rw [call_dqHeapBuildF _ _ _ (by omega)]
  srcF_cr
  rw [asNew_bind_pure]

/-- `FromIterator for DoublePriorityQueue` under a panicking comparison = `Crash.DQ.fromIterF` -/
theorem dqFromIterF (fuse : Nat) (s : Store P) (lo : Nat) (xs : Array (Item × P)) (fuel : Nat)
    (h : fuel ≥ (Store.fromIter xs : Store P).size + 6) :
    asNew (runF prog unwind fuse false fuel .dqFromIter s [] [] [Val.iter lo xs])
      = (fun s' => (s', Val.unit)) <$> Crash.DQ.fromIterF fuse lo xs := by
  obtain ⟨n, rfl⟩ := exists_eq_add 3 h (by decide)
  rw [runF_frame0 prog unwind fuse false (n + 2) .dqFromIter _ s _ _ _ rfl rfl]
  unfold Crash.DQ.fromIterF
  rw [execF, dqFromIter_body]
  srcF_eval
  srcF_cr [call_storeFromIter]
  rw [asNew_liftR_bind]
  refine liftR_bind_congr_ok fun _ _ => ?_
  rw [call_dqHeapBuildF _ _ _ (by omega)]
  srcF_cr
  rw [asNew_bind_pure]

/-- `From<PriorityQueue> for DoublePriorityQueue` under a panicking comparison = `Crash.DQ.ofStoreF` (the consumed queue's
store is rebuilt in place) -/
theorem dqFromQueueF (fuse : Nat) (s : Store P) (fuel : Nat) (h : fuel ≥ s.size + 5) :
    runF prog unwind fuse false fuel .dqFromQueue s [] = (fun s' => (s', Val.unit)) <$> Crash.DQ.ofStoreF fuse s := by
  obtain ⟨n, rfl⟩ := exists_eq_add 1 h (by decide)
  rw [runF_frame0 prog unwind fuse false n .dqFromQueue _ s _ _ _ rfl rfl]
  unfold Crash.DQ.ofStoreF
  rw [execF, dqFromQueue_body]
  srcF_eval
  srcF_cr
  rw [call_dqHeapBuildF _ _ _ (by omega)]
  srcF_cr

/-- `Deserialize for DoublePriorityQueue` under a panicking comparison = `Crash.DQ.deserializeF` -/
theorem dqDeserializeF (fuse : Nat) (s : Store P) (hint : Option Nat) (xs : Array (Item × P)) (fuel : Nat)
    (h : fuel ≥ (Store.visitSeq xs : Store P).size + 6) :
    asNew (runF prog unwind fuse false fuel .dqDeserialize s [] [] [Val.seq hint xs])
      = (fun s' => (s', Val.unit)) <$> Crash.DQ.deserializeF fuse hint xs := by
  obtain ⟨n, rfl⟩ := exists_eq_add 3 h (by decide)
  rw [runF_frame0 prog unwind fuse false (n + 2) .dqDeserialize _ s _ _ _ rfl rfl]
  unfold Crash.DQ.deserializeF
  rw [execF, dqDeserialize_body]
  srcF_eval
  srcF_cr [call_storeVisitSeq]
  cases hint with
  | none =>
    srcF_cr
    rw [call_dqHeapBuildF _ _ _ (by omega)]
    srcF_cr
    rw [asNew_bind_pure]
  | some hh =>
    simp only [Arith.deserPrealloc, bind_assoc]
    rw [asNew_liftR_bind]
    refine liftR_bind_congr_ok fun _ _ => ?_
    rw [call_dqHeapBuildF _ _ _ (by omega)]
    srcF_cr
    rw [asNew_bind_pure]

/-! ## `Drop for IterMut` of both queues: the rebuild under a panicking comparison -/

/-- `Drop for priority_queue::IterMut` under a panicking comparison = `Crash.MaxQ.heapBuildF` (what `Crash.MaxQ.iterMutDropF`
runs after the writes) -/
theorem pqIterMutDropF (fuse : Nat) (s : Store P) (pos : Nat) (fuel : Nat) (h : fuel ≥ s.size + 4) :
    runF prog unwind fuse false fuel .pqIterMutDrop s [pos] = (fun s' => (s', Val.unit)) <$> Crash.MaxQ.heapBuildF fuse s := by
  obtain ⟨n, rfl⟩ := exists_eq_add 1 h (by decide)
  rw [runF_frame0 prog unwind fuse false n .pqIterMutDrop _ s _ _ _ rfl rfl]
  rw [execF, pqIterMutDrop_body]
  srcF_eval
  srcF_cr
  rw [call_pqHeapBuildF _ _ _ (by omega)]
  srcF_cr

/-- `Drop for double_priority_queue::IterMut` under a panicking comparison = `Crash.DQ.heapBuildF` -/
theorem dqIterMutDropF (fuse : Nat) (s : Store P) (pos back : Nat) (fuel : Nat) (h : fuel ≥ s.size + 5) :
    runF prog unwind fuse false fuel .dqIterMutDrop s [pos, back]
      = (fun s' => (s', Val.unit)) <$> Crash.DQ.heapBuildF fuse s := by
  obtain ⟨n, rfl⟩ := exists_eq_add 1 h (by decide)
  rw [runF_frame0 prog unwind fuse false n .dqIterMutDrop _ s _ _ _ rfl rfl]
  rw [execF, dqIterMutDrop_body]
  srcF_eval
  srcF_cr
  rw [call_dqHeapBuildF _ _ _ (by omega)]
  srcF_cr
end PQ.SrcEquivF
