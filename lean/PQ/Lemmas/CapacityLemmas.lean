import PQ.Model.Capacity
import PQ.Lemmas.Monad
/-!
# Capacity management is invisible and fails cleanly — for every allocator (helper lemmas for C17)
-/
namespace PQ.Cap
open PQ
variable {P : Type} [LT P] [DecidableLT P]

/-- whatever the allocator answers: no capacity shrinks; on success all three fit `len + n`; on failure the capacities that
were grown before the refusal stay grown (and still fit what they fitted before) -/
theorem tryReserve_spec (a : Alloc) (c : Caps) (len n : Nat) :
    c.map ≤ (tryReserve a c len n).1.map ∧ c.heap ≤ (tryReserve a c len n).1.heap ∧ c.qp ≤ (tryReserve a c len n).1.qp ∧
      ((tryReserve a c len n).2 = true →
        len + n ≤ (tryReserve a c len n).1.map ∧ len + n ≤ (tryReserve a c len n).1.heap ∧
          len + n ≤ (tryReserve a c len n).1.qp) := by
  cases h1 : a.grant .map c.map len n with
  | none => simp [tryReserve, h1]
  | some m =>
    have g1 := a.grant_fits _ _ _ _ _ h1
    cases h2 : a.grant .heap c.heap len n with
    | none => simp [tryReserve, h1, h2]; omega
    | some h =>
      have g2 := a.grant_fits _ _ _ _ _ h2
      cases h3 : a.grant .qp c.qp len n with
      | none => simp [tryReserve, h1, h2, h3]; omega
      | some q =>
        have g3 := a.grant_fits _ _ _ _ _ h3
        simp [tryReserve, h1, h2, h3]; omega

/-- a partial outcome of a refusal: the map's reservation succeeds, the heap's is refused (the collections have different
element sizes and are allocated one after the other), and the map stays grown -/
theorem tryReserve_partial (a : Alloc) (c : Caps) (len n m : Nat)
    (h1 : a.grant .map c.map len n = some m) (h2 : a.grant .heap c.heap len n = none) :
    tryReserve a c len n = ({ c with map := m }, false) := by
  simp [tryReserve, h1, h2]

/-- the queue a capacity-aware step leaves is the queue the plain step leaves; capacity operations leave it untouched —
whatever the allocator does, success or failure -/
theorem stepC_queue (a : Alloc) (x : QC P) (cop : COp P) :
    (stepC a x cop).map (fun r => r.1.q) =
      match cop with
      | .plain op => (step x.q op).map (·.1)
      | .reserve n | .reserveExact n => if (tryReserve a x.caps x.q.s.size n).2 then .ok x.q else .error .capacity
      | _ => .ok x.q := by
  cases cop with
  | plain op =>
    simp only [stepC]
    cases step x.q op <;> rfl
  | reserve n | reserveExact n | tryReserve n | tryReserveExact n =>
    simp only [stepC]
    rcases h : tryReserve a x.caps x.q.s.size n with ⟨c, b⟩
    cases b <;> rfl
  | shrinkToFit | capacity => rfl

/-- `try_reserve` / `try_reserve_exact` never panic: they always return, with `Ok` or `Err` -/
theorem stepC_try_total (a : Alloc) (x : QC P) (n : Nat) :
    (∃ x', stepC a x (.tryReserve n) = .ok (x', .tryOk) ∨ stepC a x (.tryReserve n) = .ok (x', .tryErr)) ∧
    (∃ x', stepC a x (.tryReserveExact n) = .ok (x', .tryOk) ∨ stepC a x (.tryReserveExact n) = .ok (x', .tryErr)) := by
  simp only [stepC]
  rcases h : tryReserve a x.caps x.q.s.size n with ⟨c, b⟩
  cases b <;> simp [pure, Except.pure]

/-- the contract of one capacity-aware step, for every allocator:
* the queue is untouched by every capacity operation (also by a failing one);
* `len ≤ capacity` is preserved for all three collections;
* after `Ok` from `reserve` / `reserve_exact` / `try_reserve` / `try_reserve_exact` every collection — in particular the map,
  which is what `capacity()` reports — has room for `len + n`;
* after `Err` nothing shrank;
* after `shrink_to_fit` every capacity is between the length and its old value. -/
theorem stepC_spec (a : Alloc) {x x' : QC P} {cop : COp P} {o : COut P} (hok : x.CapsOk) (h : stepC a x cop = .ok (x', o)) :
    x'.CapsOk ∧
    (match cop with
     | .plain op => ∃ o', step x.q op = .ok (x'.q, o') ∧ o = .plain o'
     | .reserve n | .reserveExact n =>
        x'.q = x.q ∧ o = .unit ∧ x.q.s.size + n ≤ x'.caps.map ∧ x.q.s.size + n ≤ x'.caps.heap ∧ x.q.s.size + n ≤ x'.caps.qp
     | .tryReserve n | .tryReserveExact n =>
        x'.q = x.q ∧ x.caps.map ≤ x'.caps.map ∧ x.caps.heap ≤ x'.caps.heap ∧ x.caps.qp ≤ x'.caps.qp ∧
          ((o = .tryOk ∧ x.q.s.size + n ≤ x'.caps.map ∧ x.q.s.size + n ≤ x'.caps.heap ∧ x.q.s.size + n ≤ x'.caps.qp) ∨
            o = .tryErr)
     | .shrinkToFit =>
        x'.q = x.q ∧ o = .unit ∧ x'.caps.map ≤ x.caps.map ∧ x'.caps.heap ≤ x.caps.heap ∧ x'.caps.qp ≤ x.caps.qp
     | .capacity => x' = x ∧ o = .cap x.caps.map) := by
  obtain ⟨hm, hh, hq⟩ := hok
  -- the two reserving families share one argument
  have res : ∀ n (x' : QC P), x' = { x with caps := (tryReserve a x.caps x.q.s.size n).1 } →
      x'.q = x.q ∧ x.caps.map ≤ x'.caps.map ∧ x.caps.heap ≤ x'.caps.heap ∧ x.caps.qp ≤ x'.caps.qp ∧ x'.CapsOk ∧
      ((tryReserve a x.caps x.q.s.size n).2 = true →
        x.q.s.size + n ≤ x'.caps.map ∧ x.q.s.size + n ≤ x'.caps.heap ∧ x.q.s.size + n ≤ x'.caps.qp) := by
    intro n x' hx
    obtain ⟨s1, s2, s3, s4⟩ := tryReserve_spec a x.caps x.q.s.size n
    subst hx
    refine ⟨rfl, s1, s2, s3, ⟨?_, ?_, ?_⟩, s4⟩
    · show x.q.s.size ≤ (tryReserve a x.caps x.q.s.size n).1.map; omega
    · show x.q.s.size ≤ (tryReserve a x.caps x.q.s.size n).1.heap; omega
    · show x.q.s.size ≤ (tryReserve a x.caps x.q.s.size n).1.qp; omega
  cases cop with
  | plain op =>
    obtain ⟨⟨q', o'⟩, hs, h⟩ := bind_eq_ok.1 h
    obtain ⟨rfl, rfl⟩ := Prod.mk.inj (pure_eq_ok.1 h)
    exact ⟨⟨a.regrow_fits _ _ _, a.regrow_fits _ _ _, a.regrow_fits _ _ _⟩, o', hs, rfl⟩
  | reserve n | reserveExact n =>
    simp only [stepC] at h
    rcases ht : tryReserve a x.caps x.q.s.size n with ⟨c, b⟩
    rw [ht] at h
    cases b with
    | false => simp at h
    | true =>
      simp only [pure, Except.pure, Except.ok.injEq, Prod.mk.injEq] at h
      obtain ⟨hx, ho⟩ := h
      obtain ⟨r1, _, _, _, r5, r6⟩ := res n x' (by rw [← hx, ht])
      exact ⟨r5, r1, ho.symm, r6 (by rw [ht])⟩
  | tryReserve n | tryReserveExact n =>
    simp only [stepC] at h
    rcases ht : tryReserve a x.caps x.q.s.size n with ⟨c, b⟩
    rw [ht] at h
    have hx : x' = { x with caps := c } := by cases b <;> cases h <;> rfl
    obtain ⟨r1, r2, r3, r4, r5, r6⟩ := res n x' (by rw [hx, ht])
    refine ⟨r5, r1, r2, r3, r4, ?_⟩
    cases b
    · exact .inr (by cases h; rfl)
    · exact .inl ⟨by cases h; rfl, r6 (by rw [ht])⟩
  | shrinkToFit =>
    simp only [stepC, pure, Except.pure, Except.ok.injEq, Prod.mk.injEq] at h
    obtain ⟨hx, ho⟩ := h
    subst hx ho
    have k1 := a.shrink_fits .map _ _ hm
    have k2 := a.shrink_fits .heap _ _ hh
    have k3 := a.shrink_fits .qp _ _ hq
    exact ⟨⟨k1.1, k2.1, k3.1⟩, rfl, rfl, k1.2, k2.2, k3.2⟩
  | capacity =>
    simp only [stepC, pure, Except.pure, Except.ok.injEq, Prod.mk.injEq] at h
    obtain ⟨hx, ho⟩ := h
    subst hx ho
    exact ⟨⟨hm, hh, hq⟩, rfl, rfl⟩

/-- a step that returns, read backwards: a plain operation is the plain step on the queue; a capacity operation keeps the
queue and contributes neither an operation nor a result to the plain history -/
theorem stepC_ok_inv (a : Alloc) {x x' : QC P} {cop : COp P} {o : COut P} (h : stepC a x cop = .ok (x', o)) :
    (∃ op o', cop = .plain op ∧ step x.q op = .ok (x'.q, o') ∧ o = .plain o') ∨
    (x'.q = x.q ∧ (∀ cops, plainOps (cop :: cops) = plainOps cops) ∧ ∀ os, plainOuts (o :: os) = plainOuts os) := by
  cases cop with
  | plain op =>
    obtain ⟨⟨q', o'⟩, hst, h⟩ := bind_eq_ok.1 h
    obtain ⟨rfl, rfl⟩ := Prod.mk.inj (pure_eq_ok.1 h)
    exact .inl ⟨op, o', rfl, hst, rfl⟩
  | reserve n | reserveExact n =>
    simp only [stepC] at h
    rcases ht : tryReserve a x.caps x.q.s.size n with ⟨c, b⟩
    rw [ht] at h
    cases b with
    | false => simp at h
    | true =>
      simp only [pure, Except.pure, Except.ok.injEq, Prod.mk.injEq] at h
      obtain ⟨rfl, rfl⟩ := h
      exact .inr ⟨rfl, fun _ => rfl, fun _ => rfl⟩
  | tryReserve n | tryReserveExact n =>
    simp only [stepC] at h
    rcases ht : tryReserve a x.caps x.q.s.size n with ⟨c, b⟩
    rw [ht] at h
    cases b <;> simp only [pure, Except.pure, Except.ok.injEq, Prod.mk.injEq] at h <;> obtain ⟨rfl, rfl⟩ := h <;>
      exact .inr ⟨rfl, fun _ => rfl, fun _ => rfl⟩
  | shrinkToFit | capacity =>
    simp only [stepC, pure, Except.pure, Except.ok.injEq, Prod.mk.injEq] at h
    obtain ⟨rfl, rfl⟩ := h
    exact .inr ⟨rfl, fun _ => rfl, fun _ => rfl⟩

theorem runC_cons_inv {a : Alloc} {x x' : QC P} {cop : COp P} {cops : List (COp P)} {outs : List (COut P)}
    (h : runC a x (cop :: cops) = .ok (x', outs)) :
    ∃ x1 o os, stepC a x cop = .ok (x1, o) ∧ runC a x1 cops = .ok (x', os) ∧ outs = o :: os := by
  obtain ⟨⟨x1, o⟩, hs, h⟩ := bind_eq_ok.1 h
  obtain ⟨⟨x2, os⟩, hr, h⟩ := bind_eq_ok.1 h
  obtain ⟨rfl, rfl⟩ := Prod.mk.inj (pure_eq_ok.1 h)
  exact ⟨x1, o, os, hs, hr, rfl⟩

/-- **Capacity is invisible, for every allocator and every failure pattern.**  If a capacity-aware history runs to completion
under allocator `a`, then the plain history obtained by deleting every capacity operation runs to completion on the bare
queue, ends in the same queue and returns the same results for the plain operations.  (A capacity-aware history can only
stop early where `reserve` panics or where the plain history itself would stop.) -/
theorem runC_erase (a : Alloc) (cops : List (COp P)) : ∀ (x x' : QC P) (outs : List (COut P)),
    runC a x cops = .ok (x', outs) → run x.q (plainOps cops) = .ok (x'.q, plainOuts outs) := by
  induction cops with
  | nil =>
    intro x x' outs h
    simp only [runC, pure, Except.pure, Except.ok.injEq, Prod.mk.injEq] at h
    obtain ⟨rfl, rfl⟩ := h
    rfl
  | cons cop cops ih =>
    intro x x' outs h
    obtain ⟨x1, o, os, hs, hr, rfl⟩ := runC_cons_inv h
    have ih' := ih x1 x' os hr
    rcases stepC_ok_inv a hs with ⟨op, o', rfl, hst, rfl⟩ | ⟨hq, hc, ho⟩
    · simp only [plainOps, plainOuts, run, hst, bind, Except.bind, ih']
      rfl
    · rw [hc, ho, ← hq]
      exact ih'

/-- two allocators (two machines, two growth policies, one of them running out of memory on every `try_reserve`), two
different placements of capacity operations around the same plain operations: same final queue, same results -/
theorem runC_allocator_independent (a₁ a₂ : Alloc) (c₁ c₂ : List (COp P)) (hp : plainOps c₁ = plainOps c₂)
    {x₁ x₂ x₁' x₂' : QC P} (hq : x₁.q = x₂.q) {o₁ o₂ : List (COut P)}
    (h₁ : runC a₁ x₁ c₁ = .ok (x₁', o₁)) (h₂ : runC a₂ x₂ c₂ = .ok (x₂', o₂)) :
    x₁'.q = x₂'.q ∧ plainOuts o₁ = plainOuts o₂ := by
  have e₁ := runC_erase a₁ c₁ x₁ x₁' o₁ h₁
  have e₂ := runC_erase a₂ c₂ x₂ x₂' o₂ h₂
  rw [hp, hq] at e₁
  rw [e₁] at e₂
  simp only [Except.ok.injEq, Prod.mk.injEq] at e₂
  exact e₂

theorem runC_capsOk (a : Alloc) (cops : List (COp P)) : ∀ (x x' : QC P) (outs : List (COut P)),
    x.CapsOk → runC a x cops = .ok (x', outs) → x'.CapsOk := by
  induction cops with
  | nil =>
    intro x x' outs hok h
    simp only [runC, pure, Except.pure, Except.ok.injEq, Prod.mk.injEq] at h
    obtain ⟨rfl, _⟩ := h
    exact hok
  | cons cop cops ih =>
    intro x x' outs hok h
    obtain ⟨x1, o, os, hs, hr, _⟩ := runC_cons_inv h
    exact ih x1 x' os (stepC_spec a hok hs).1 hr

end PQ.Cap
