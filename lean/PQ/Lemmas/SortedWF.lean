import PQ.Lemmas.BulkProps
/-!
# Sorted consumption of a queue that is only well-formed (all names carry the prefix `swf_`)

The theorems of `PQ/Props/C06.lean` assume the full invariant (`MaxQ.Inv s` / `DQ.Inv s`).  A queue left by a leaked
`iter_mut` guard or by a caught panic inside `Ord::cmp` is only *well-formed* (`s.WF`: the index tables are mutually
inverse bijections agreeing with `size`; NO heap order).  This file proves the order-free halves of the C06 theorems
from `s.WF` alone: the sorted vectors and the sorted iterators never fault, yield each stored element exactly once and
then `None` forever, and the `size` of the store the iterator still holds — what `len`/`size_hint` of the
`DoublePriorityQueue` iterator report; the `PriorityQueue` one implements neither — is exact at every step.
Nothing is said about the ORDER of the answers (there is none to speak of on such a queue).

No operation involved needs the heap order to be fault-free.
-/
namespace PQ
open Store
variable {P : Type} [LT P] [DecidableLT P] [LE P] [Std.IsLinearPreorder P] [Std.LawfulOrderLT P]

/-- five entries, priorities by heap position: 3 / 9 1 / 5 7 (the root is neither the greatest nor the smallest) -/
def swf_exU : Store Nat :=
  { map := #[(⟨1, 10⟩, 3), (⟨2, 20⟩, 9), (⟨3, 30⟩, 1), (⟨4, 40⟩, 5), (⟨5, 50⟩, 7)],
    heap := #[0, 1, 2, 3, 4], qp := #[0, 1, 2, 3, 4], size := 5 }

theorem swf_exU_wf : swf_exU.WF := by decide +kernel

theorem swf_exU_not_maxHeap : ¬ MaxQ.Inv swf_exU := by decide +kernel

theorem swf_exU_not_minMaxHeap : ¬ swf_exU.MinMaxHeap := fun hm => by
  have := hm 0 2 (Anc.parent (d := 2) (by decide)) (by decide) 3 1 (by decide +kernel) (by decide +kernel)
  revert this; decide

/-- **`into_sorted_vec` of a well-formed `PriorityQueue`** (no order hypothesis): never faults, yields a permutation of
the stored entries (every element exactly once: as many as `len`, the stored ones, with pairwise distinct items) -/
theorem swf_pq_sorted_vec {s : Store P} (h : s.WF) :
    ∃ l, MaxQ.intoSortedVec s = .ok l ∧ l.Perm s.map.toList ∧ l.length = s.size ∧ (∀ e, e ∈ l ↔ s.Mem e) ∧
      (l.map (·.1.key)).Nodup := by
  obtain ⟨l, hl, hlen, hmem, hnd⟩ := MaxQ.intoSortedVec_safe h
  exact ⟨l, hl, bp_perm_of_mem h hnd hmem, hlen, hmem, hnd⟩

/-- the "sorted" vector of the unordered `swf_exU` is a permutation of its entries that is NOT sorted -/
example : swf_exU.WF ∧ ¬ MaxQ.Inv swf_exU ∧ bp_okR (MaxQ.intoSortedVec swf_exU)
    (fun l => l.map (·.2) = [3, 9, 7, 5, 1]) := ⟨swf_exU_wf, swf_exU_not_maxHeap, by decide +kernel⟩

theorem swf_popCalls (n : Nat) : ∀ {s : Store P}, s.WF →
    ∃ l s', MaxQ.intoSortedVec s = .ok l ∧
      bp_popCalls n s = .ok ((l.take n).map some ++ List.replicate (n - l.length) none, s') ∧
      s'.WF ∧ s'.size = s.size - n ∧ MaxQ.intoSortedVec s' = .ok (l.drop n) :=
  bp_popCalls_inv (fun h => h)
    (fun h hp => let ⟨s', e, a, _, b, _, c⟩ := (MaxQ.pop_safe h).2 hp; ⟨s', e, a, b, c⟩) n

/-- **`into_sorted_iter` of a well-formed `PriorityQueue`, consumed from the front** (no order hypothesis): with `l`
the vector `into_sorted_vec` would give, ANY number `n` of `next` calls never faults and answers the first `n` elements
of `l` (all of `l` when `n ≥ len`) and then `None` forever; the iterator then holds a well-formed queue of `len - n`
elements whose own vector is the rest of `l` -/
theorem swf_pq_sorted_iter {s : Store P} (h : s.WF) :
    ∃ l, MaxQ.intoSortedVec s = .ok l ∧
      ∀ n, ∃ s', bp_popCalls n s = .ok ((l.take n).map some ++ List.replicate (n - l.length) none, s') ∧
        s'.WF ∧ s'.size = s.size - n ∧ MaxQ.intoSortedVec s' = .ok (l.drop n) := by
  obtain ⟨l, hl, _⟩ := MaxQ.intoSortedVec_safe h
  refine ⟨l, hl, fun n => ?_⟩
  obtain ⟨l', s', hl', hrun, hwf, hsz, hrest⟩ := swf_popCalls n h
  rw [hl] at hl'; cases hl'
  exact ⟨s', hrun, hwf, hsz, hrest⟩

example : swf_exU.WF ∧ ¬ MaxQ.Inv swf_exU ∧
    bp_okR (bp_popCalls 7 swf_exU) (fun r => r.1.map (fun o => o.map (·.2)) =
      [some 3, some 9, some 7, some 5, some 1, none, none] ∧ r.2.size = 0) ∧
    bp_okR (bp_popCalls 2 swf_exU) (fun r => r.1.map (fun o => o.map (·.2)) = [some 3, some 9] ∧ r.2.size = 3) :=
  ⟨swf_exU_wf, swf_exU_not_maxHeap, by decide +kernel⟩

/-- **`into_ascending_sorted_vec` of a well-formed `DoublePriorityQueue`** (no order hypothesis): never faults, a
permutation of the stored entries -/
theorem swf_dpq_ascending {s : Store P} (h : s.WF) :
    ∃ l, DQ.intoAscendingSortedVec s = .ok l ∧ l.Perm s.map.toList ∧ l.length = s.size ∧ (∀ e, e ∈ l ↔ s.Mem e) ∧
      (l.map (·.1.key)).Nodup := by
  obtain ⟨l, hl, hlen, hmem, hnd⟩ := DQ.intoAscendingSortedVec_safe h
  exact ⟨l, hl, bp_perm_of_mem h hnd hmem, hlen, hmem, hnd⟩

example : swf_exU.WF ∧ ¬ swf_exU.MinMaxHeap ∧ bp_okR (DQ.intoAscendingSortedVec swf_exU)
    (fun l => l.map (·.2) = [3, 1, 5, 7, 9]) := ⟨swf_exU_wf, swf_exU_not_minMaxHeap, by decide +kernel⟩

/-- **`into_descending_sorted_vec` of a well-formed `DoublePriorityQueue`** (no order hypothesis): never faults, a
permutation of the stored entries -/
theorem swf_dpq_descending {s : Store P} (h : s.WF) :
    ∃ l, DQ.intoDescendingSortedVec s = .ok l ∧ l.Perm s.map.toList ∧ l.length = s.size ∧ (∀ e, e ∈ l ↔ s.Mem e) ∧
      (l.map (·.1.key)).Nodup := by
  obtain ⟨l, hl, hlen, hmem, hnd⟩ := DQ.intoDescendingSortedVec_safe h
  exact ⟨l, hl, bp_perm_of_mem h hnd hmem, hlen, hmem, hnd⟩

example : swf_exU.WF ∧ ¬ swf_exU.MinMaxHeap ∧ bp_okR (DQ.intoDescendingSortedVec swf_exU)
    (fun l => l.map (·.2) = [9, 7, 5, 1, 3]) := ⟨swf_exU_wf, swf_exU_not_minMaxHeap, by decide +kernel⟩

omit [LT P] [DecidableLT P] [LE P] [Std.IsLinearPreorder P] [Std.LawfulOrderLT P] in
theorem swf_mem_toList {s : Store P} {e : Item × P} : e ∈ s.map.toList ↔ s.Mem e := by
  rw [Array.mem_toList_iff, Array.mem_iff_getElem?]; rfl

theorem swf_mem_filterMap_id {α : Type} {outs : List (Option α)} {e : α} : e ∈ outs.filterMap id ↔ some e ∈ outs := by
  rw [List.mem_filterMap]
  exact ⟨fun ⟨o, ho, hoe⟩ => (show o = some e from hoe) ▸ ho, fun he => ⟨some e, he, rfl⟩⟩

/-- **every stored element exactly once**: the entries handed out by a run of the double-ended sorted iterator
together with the entries still held afterwards are a permutation of the entries stored at the start -/
theorem swf_sortedCalls_perm {s s' : Store P} (h : s.WF) (h' : s'.WF) {calls : List Bool}
    {outs : List (Option (Item × P))} (hsr : DQ.SortedRun DQ.HeldQ s.abs calls outs s'.abs) :
    ((outs.filterMap id) ++ s'.map.toList).Perm s.map.toList := by
  have hnd : ((outs.filterMap id).map (·.1.key)).Nodup := DQ.SortedRun.nodup (fun _ _ _ hq => hq) hsr
  obtain ⟨hheld, hkeep⟩ := DQ.SortedRun.held (fun _ _ _ hq => hq) hsr
  have hout : ∀ e, e ∈ outs.filterMap id ↔ some e ∈ outs := fun _ => swf_mem_filterMap_id
  have hmem' : ∀ e, e ∈ s'.map.toList ↔ s'.Mem e := fun _ => swf_mem_toList
  apply bp_perm_of_mem h
  · rw [List.map_append, List.nodup_append]
    refine ⟨hnd, IMap.noDupKeys_iff_nodup.1 h'.nodup, ?_⟩
    intro a ha b hb hab
    obtain ⟨ea, hea, rfl⟩ := List.mem_map.1 ha
    obtain ⟨eb, heb, rfl⟩ := List.mem_map.1 hb
    have h1 := (hheld ea ((hout ea).1 hea)).2
    have h2 := (DQ.mem_iff_abs h').1 ((hmem' eb).1 heb)
    rw [← hab, h1] at h2
    cases h2
  · intro e
    rw [List.mem_append, hout, hmem', DQ.mem_iff_abs h, DQ.mem_iff_abs h']
    constructor
    · rintro (he | he)
      · exact (hheld e he).1
      · rw [← hkeep e.1.key]
        · exact he
        · intro e' he' hk
          have := (hheld e' he').2
          rw [hk, he] at this
          cases this
    · intro he
      by_cases hex : ∃ e', some e' ∈ outs ∧ e'.1.key = e.1.key
      · obtain ⟨e', he', hk⟩ := hex
        have := (hheld e' he').1
        rw [hk, he] at this
        cases this
        exact Or.inl he'
      · right
        rw [hkeep e.1.key]
        · exact he
        · intro e' he' hk
          exact hex ⟨e', he', hk⟩

/-- **the double-ended sorted iterator of a well-formed `DoublePriorityQueue`** (no order hypothesis), for EVERY
interleaving `calls` of `next` (`false`) and `next_back` (`true`), calls after exhaustion included.  It never faults.
With `outs` the answers and `s'` the queue held afterwards:

* the entries handed out have pairwise distinct items (the two ends never return the same element), each was stored
  at the start and is not held afterwards;
* the entries handed out together with the entries still held are a permutation of the entries stored at the start
  (each stored element exactly once);
* call by call: before call `j` the iterator holds `sj`, the state after the first `j` calls; `sj` is a well-formed
  queue whose length (= what `len`/`size_hint` report) is the original length minus the number of entries handed out
  so far; if `sj` is empty call `j` AND EVERY LATER CALL answer `None`; otherwise call `j` answers an entry held by `sj`;
* afterwards the iterator holds a well-formed queue of `len - (number of entries handed out)` elements. -/
theorem swf_dpq_deque {s : Store P} (h : s.WF) (calls : List Bool) :
    ∃ outs s', DQ.sortedCalls calls s = .ok (outs, s') ∧ s'.WF ∧ outs.length = calls.length ∧
      ((outs.filterMap id).map (·.1.key)).Nodup ∧
      (∀ e, some e ∈ outs → s.Mem e ∧ ¬ s'.Mem e) ∧
      ((outs.filterMap id) ++ s'.map.toList).Perm s.map.toList ∧
      (∀ e, s.Mem e ↔ (some e ∈ outs ∨ s'.Mem e)) ∧
      s'.size = s.size - (outs.filterMap id).length ∧ (outs.filterMap id).length = min s.size calls.length ∧
      (∀ j, j < calls.length →
        ∃ sj, DQ.sortedCalls (calls.take j) s = .ok (outs.take j, sj) ∧ sj.WF ∧
          sj.size = s.size - ((outs.take j).filterMap id).length ∧
          (sj.size = 0 → ∀ j', j ≤ j' → j' < calls.length → outs[j']? = some none) ∧
          (0 < sj.size → ∃ e, outs[j]? = some (some e) ∧ sj.Mem e)) := by
  obtain ⟨outs, s', hrun, hwf, hlen, hsz, hsr, hnd⟩ := DQ.sortedCalls_safe h calls
  have hcount := bp_sortedCalls_count calls h hrun
  have hheld := (DQ.SortedRun.held (fun _ _ _ hq => hq) hsr).1
  have hperm := swf_sortedCalls_perm h hwf hsr
  refine ⟨outs, s', hrun, hwf, hlen, hnd, fun e he => ?_, hperm, fun e => ?_, by omega, by omega, fun j hj => ?_⟩
  · obtain ⟨h1, h2⟩ := hheld e he
    refine ⟨(DQ.mem_iff_abs h).2 h1, fun hm => ?_⟩
    rw [(DQ.mem_iff_abs hwf).1 hm] at h2; cases h2
  · rw [← swf_mem_toList (s := s), ← swf_mem_toList (s := s'), ← hperm.mem_iff, List.mem_append, swf_mem_filterMap_id]
  · obtain ⟨sj, h1, h2, _, h3, h4, h5⟩ := bp_sortedCalls_at_wf h hrun j hj
    exact ⟨sj, h1, h2, by omega, h4, fun hp => let ⟨e, he, hm, _⟩ := h5 hp; ⟨e, he, hm⟩⟩

/-- on the unordered `swf_exU` the two ends hand out every entry once (in no particular order), then `None` forever;
after three calls the iterator still holds exactly the two entries not handed out -/
example : swf_exU.WF ∧ ¬ swf_exU.MinMaxHeap ∧
    bp_okR (DQ.sortedCalls [false, true, false, true, true, false, false] swf_exU)
      (fun r => r.1.map (fun o => o.map (·.2)) = [some 3, some 9, some 1, some 7, some 5, none, none] ∧
        r.2.size = 0) ∧
    bp_okR (DQ.sortedCalls [false, true, false] swf_exU)
      (fun r => r.1.map (fun o => o.map (·.2)) = [some 3, some 9, some 1] ∧ r.2.size = 2 ∧
        r.2.map.toList.map (·.2) = [7, 5]) :=
  ⟨swf_exU_wf, swf_exU_not_minMaxHeap, by decide +kernel⟩

end PQ

#print axioms PQ.swf_pq_sorted_vec
#print axioms PQ.swf_pq_sorted_iter
#print axioms PQ.swf_dpq_ascending
#print axioms PQ.swf_dpq_descending
#print axioms PQ.swf_dpq_deque
