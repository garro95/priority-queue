import PQ.Model.Ops
import PQ.Lemmas.Monad
/-!
# The ghost comparison counter `Store.ticks` is write-only ("frame" laws)

Every function of the model that takes a store commutes with shifting the counter:
`f (s.tick k) a = mapOk (shift k) (f s a)`, where `shift k` adds `k` to the counter of the store(s) in the result and
leaves the other outputs alone (functions that return no store: `f (s.tick k) a = f s a`).  Each law is proved by unfolding
`f` once and normalising both sides (`tick_simp`).

Two stores that agree on everything but the counter (`Store.Same`) are shifts of one store (`same_elim`); rewriting both
runs with the law of the operation shows that a step, and so a history, from either gives the same fault or the same
outputs and stores that again agree up to the counter (`step_same`, `run_same`).

`Store.append` takes two stores, shifted independently in `append_tick₂`: the counters of the two results are those of the
inputs, swapped when the receiver was the smaller store.  `step_same` uses it with the other store shifted by `0`.
-/
set_option linter.unusedSectionVars false
namespace PQ.TickFrame
open PQ

variable {P : Type} {α β γ δ : Type}

def mapOk (f : α → β) : R α → R β
  | .ok a => .ok (f a)
  | .error e => .error e

def RelR (r : α → β → Prop) : R α → R β → Prop
  | .ok a, .ok b => r a b
  | .error e, .error e' => e = e'
  | _, _ => False

theorem RelR.ok {r : α → β → Prop} {a : α} {b : β} (h : r a b) : RelR r (.ok a) (.ok b) := h

theorem RelR.bind {r : α → β → Prop} {r' : γ → δ → Prop} {x : R α} {y : R β} {f : α → R γ} {g : β → R δ}
    (h : RelR r x y) (hfg : ∀ a b, r a b → RelR r' (f a) (g b)) : RelR r' (x >>= f) (y >>= g) := by
  cases x <;> cases y <;> simp only [RelR] at h
  · subst h; rfl
  · exact hfg _ _ h

theorem RelR.error_iff {r : α → β → Prop} {x : R α} {y : R β} (h : RelR r x y) (e : Fault) :
    x = .error e ↔ y = .error e := by
  cases x <;> cases y <;> simp only [RelR] at h
  · subst h; simp
  · simp

theorem RelR.ok_left {r : α → β → Prop} {x : R α} {y : R β} (h : RelR r x y) {a : α} (hx : x = .ok a) :
    ∃ b, y = .ok b ∧ r a b := by
  subst hx
  cases y <;> simp only [RelR] at h
  exact ⟨_, rfl, h⟩

theorem RelR.bind_same {r : β → γ → Prop} (x : R α) {f : α → R β} {g : α → R γ}
    (h : ∀ a, RelR r (f a) (g a)) : RelR r (x >>= f) (x >>= g) := by
  cases x
  · rfl
  · exact h _

theorem RelR.mapOk_right {r : α → β → Prop} {g : α → β} (x : R α) (h : ∀ a, r a (g a)) : RelR r x (mapOk g x) := by
  cases x
  · rfl
  · exact h _

theorem mapOk_bind (h : β → γ) (x : R α) (f : α → R β) : mapOk h (x >>= f) = x >>= fun a => mapOk h (f a) := by
  cases x <;> rfl
theorem mapOk_pure (h : α → β) (a : α) : mapOk h (pure a) = pure (h a) := rfl
theorem mapOk_error (h : α → β) (e : Fault) : mapOk h (.error e) = .error e := rfl
-- `{_ : Decidable c}`, not `[Decidable c]`: when this rule is tried simp has already rewritten the condition, and the
-- instance in the term is the old one transported, not the one instance search would find.
theorem mapOk_ite (h : α → β) (c : Prop) {_ : Decidable c} (x y : R α) :
    mapOk h (if c then x else y) = if c then mapOk h x else mapOk h y := by
  split <;> rfl
theorem bind_mapOk (h : α → β) (x : R α) (f : β → R γ) : mapOk h x >>= f = x >>= fun a => f (h a) := by
  cases x <;> rfl

class TickRel (d : Nat → Nat → Prop) : Prop where
  add : ∀ {a b : Nat} (n : Nat), d a b → d (a + n) (b + n)

def shiftT (k : Nat) : Nat → Nat → Prop := fun a b => b = a + k

def Rel (d : Nat → Nat → Prop) (s t : Store P) : Prop := Store.Same s t ∧ d s.ticks t.ticks

variable {d : Nat → Nat → Prop}

theorem Rel.tick [TickRel d] {s t : Store P} (h : Rel d s t) (n : Nat) : Rel d (s.tick n) (t.tick n) :=
  ⟨h.1, TickRel.add n h.2⟩

theorem same_elim {motive : Store P → Store P → Prop} {s t : Store P} (h : Store.Same s t)
    (H : ∀ (s₀ : Store P) (n₁ n₂ : Nat), motive (s₀.tick n₁) (s₀.tick n₂)) : motive s t := by
  obtain ⟨m, hp, q, z, n₁⟩ := s
  obtain ⟨m', hp', q', z', n₂⟩ := t
  obtain ⟨h1, h2, h3, h4⟩ := h
  simp only at h1 h2 h3 h4
  subst h1 h2 h3 h4
  have := H ⟨m, hp, q, z, 0⟩ n₁ n₂
  simpa only [Store.tick, Nat.zero_add] using this

def tickP (k : Nat) (x : Store P × β) : Store P × β := (x.1.tick k, x.2)
def tickQ (k : Nat) (x : β × Store P) : β × Store P := (x.1, x.2.tick k)

def QSame (q r : Q P) : Prop := q.kind = r.kind ∧ Store.Same q.s r.s

def QOut (x y : Q P × Out P) : Prop := QSame x.1 y.1 ∧ x.2 = y.2
def QOuts (x y : Q P × List (Out P)) : Prop := QSame x.1 y.1 ∧ x.2 = y.2

theorem QSame.refl (q : Q P) : QSame q q := ⟨rfl, rfl, rfl, rfl, rfl⟩

theorem tick_map (s : Store P) (k : Nat) : (s.tick k).map = s.map := by cases s; rfl
theorem tick_heap (s : Store P) (k : Nat) : (s.tick k).heap = s.heap := by cases s; rfl
theorem tick_qp (s : Store P) (k : Nat) : (s.tick k).qp = s.qp := by cases s; rfl
theorem tick_size (s : Store P) (k : Nat) : (s.tick k).size = s.size := by cases s; rfl
theorem tick_zero (s : Store P) : s.tick 0 = s := rfl
/-- the left side is what `{ s.tick k with .. }` has become once the projections `tick_map` .. `tick_size` are rewritten -/
theorem mk_tick (s : Store P) (k : Nat) (m : IMap P) (h q : Array Nat) (z : Nat) :
    (⟨m, h, q, z, (s.tick k).ticks⟩ : Store P) = Store.tick ⟨m, h, q, z, s.ticks⟩ k := rfl
theorem tick_comm (s : Store P) (k n : Nat) : (s.tick k).tick n = (s.tick n).tick k := by
  simp only [Store.tick, Nat.add_right_comm]

/-- `tick_simp k [f, g_tick _ k, ..]` closes a law `f (s.tick k) a = mapOk (shift k) (f s a)`, given the laws of the
functions `g` that `f` calls, by bringing both sides to one normal form: the body of `f` at `s`, with `mapOk` nowhere but
directly around a `pure` (there it is computed away: `tickP`, `tickQ`) — so the shift sits exactly on the stores that are
returned.

* Left side, `f` unfolded at `s.tick k`: the shift moves outwards.  It leaves field reads (`tick_map` .. `tick_size`: the body
  now reads `s`), record updates (`mk_tick`) and the ticks `f` adds itself (`tick_comm _ k`; for this `k` only, which orients
  the rule).  At a call `g (x.tick k) b` the law of `g` makes it a `mapOk` in front of the call, and `bind_mapOk` hands it to
  the continuation, where it moves outwards again; a pattern-matching continuation `fun (s, r) => ..` is no obstacle, simp
  reduces it to projections.  What is left are shifts directly under a `pure`, or a tail call under a `mapOk`.
* Right side, `mapOk (shift k)` around the body at `s`: `mapOk` moves inwards through `>>=`, `if` and `pure`
  (`mapOk_bind`, `mapOk_ite`, `mapOk_pure`) and arrives at the same places.

`mapOk` does not pass a `match` that distinguishes cases.  Where `f` has one, its discriminant (which does not involve the
counter) is decided first (`rcases h : ..` and `h` in the list), or the goal is finished under the binders by `split`.
The projection laws are proved so that `dsimp` does not use them: a condition `i < (s.tick k).size` must be rewritten together
with its `Decidable` instance, or `mapOk_ite` no longer applies. -/
macro "tick_simp" k:term:max "[" ls:Lean.Parser.Tactic.simpLemma,* "]" : tactic =>
  `(tactic| simp only [$ls,*, tick_map, tick_heap, tick_qp, tick_size, mk_tick, tick_comm _ $k, mapOk_bind, mapOk_pure,
    mapOk_ite, bind_mapOk, pure_bind, tickP, tickQ])

section StoreTick

theorem swap_tick (s : Store P) (k : Nat) (a b : Nat) :
    Store.swap (s.tick k) a b = mapOk (·.tick k) (Store.swap s a b) := by
  tick_simp k [Store.swap]

theorem prioAt_tick (s : Store P) (k : Nat) (pos : Nat) :
    Store.prioAt (s.tick k) pos = Store.prioAt s pos :=
  rfl

theorem swapRemove_tick (s : Store P) (k : Nat) (pos : Nat) :
    Store.swapRemove (s.tick k) pos = mapOk (tickP k) (Store.swapRemove s pos) := by
  -- the slot leaving the map is fixed by the first step; naming it decides the final `match` beforehand
  cases h : swapRemoveC s.heap pos 107 with
  | error e => simp only [Store.swapRemove, tick_heap, h, error_bind, mapOk_error]
  | ok a => cases h' : s.map.swapRemoveIndex a.1 <;> tick_simp k [Store.swapRemove, h, h', ok_bind]

theorem retainMut_tick (s : Store P) (k : Nat) (f : Item → P → Bool × Item × P) :
    Store.retainMut (s.tick k) f = (Store.retainMut s f).tick k := by
  simp only [Store.retainMut, tick_map, tick_size]
  split <;> rfl

theorem swapRemoveIf_tick (s : Store P) (k : Nat) (pos : Nat) (f : Item → P → Bool × Item × P) :
    Store.swapRemoveIf (s.tick k) pos f = mapOk (tickP k) (Store.swapRemoveIf s pos f) := by
  tick_simp k [Store.swapRemoveIf, swapRemove_tick _ k]

theorem changePriority_tick (s : Store P) (k : Nat) (key : Nat) (p : P) :
    Store.changePriority (s.tick k) key p = mapOk (tickP k) (Store.changePriority s key p) := by
  rcases h : s.map.getFull key with _ | ⟨i, it, old⟩ <;> tick_simp k [Store.changePriority, h]

theorem changePriorityBy_tick (s : Store P) (k : Nat) (key : Nat) (g : P → P) :
    Store.changePriorityBy (s.tick k) key g = mapOk (tickP k) (Store.changePriorityBy s key g) := by
  rcases h : s.map.getFull key with _ | ⟨i, it, old⟩ <;> tick_simp k [Store.changePriorityBy, h]

theorem getPriority_tick (s : Store P) (k : Nat) (key : Nat) :
    Store.getPriority (s.tick k) key = Store.getPriority s key :=
  rfl

theorem get_tick (s : Store P) (k : Nat) (key : Nat) :
    Store.get (s.tick k) key = Store.get s key :=
  rfl

theorem getMutWrite_tick (s : Store P) (k : Nat) (key : Nat) (w : Item → Item) :
    Store.getMutWrite (s.tick k) key w = tickP k (Store.getMutWrite s key w) := by
  simp only [Store.getMutWrite, tick_map]
  split <;> rfl

theorem remove_tick (s : Store P) (k : Nat) (key : Nat) :
    Store.remove (s.tick k) key = mapOk (tickP k) (Store.remove s key) := by
  rcases h : s.map.swapRemoveFull key with _ | ⟨i, e, map⟩ <;> tick_simp k [Store.remove, h]

theorem pushIfAbsent_tick (s : Store P) (k : Nat) (e : Item × P) :
    Store.pushIfAbsent (s.tick k) e = (Store.pushIfAbsent s e).tick k := by
  simp only [Store.pushIfAbsent, tick_map]
  split <;> rfl

theorem extendStep_tick (s : Store P) (k : Nat) (e : Item × P) :
    Store.extendStep (s.tick k) e = (Store.extendStep s e).tick k := by
  simp only [Store.extendStep, tick_map]
  split <;> rfl

theorem foldl_tick {step : Store P → Item × P → Store P} {k : Nat}
    (hstep : ∀ s e, step (s.tick k) e = (step s e).tick k) (xs : Array (Item × P)) (s : Store P) :
    xs.foldl step (s.tick k) = (xs.foldl step s).tick k := by
  rw [← Array.foldl_toList, ← Array.foldl_toList]
  generalize xs.toList = l
  induction l generalizing s with
  | nil => rfl
  | cons e es ih => rw [List.foldl_cons, hstep, ih, List.foldl_cons]

theorem extend_tick (s : Store P) (k : Nat) (xs : Array (Item × P)) :
    Store.extend (s.tick k) xs = (Store.extend s xs).tick k :=
  foldl_tick (extendStep_tick · k) xs s

theorem clear_tick (s : Store P) (k : Nat) :
    Store.clear (s.tick k) = (Store.clear s).tick k :=
  rfl

theorem drain_tick (s : Store P) (k : Nat) :
    Store.drain (s.tick k) = tickQ k (Store.drain s) :=
  rfl

theorem append_eq (s o : Store P) : s.append o =
    if o.size > s.size then
      (if s.size = 0 then (o, s) else (s.drain.1.foldl Store.pushIfAbsent o, s.drain.2))
    else (if o.size = 0 then (s, o) else (o.drain.1.foldl Store.pushIfAbsent s, o.drain.2)) := by
  simp only [Store.append]; split <;> rfl

/-- each result carries the counter of the input it grew from (`append` swaps the stores when the receiver is the smaller) -/
theorem append_tick₂ (s o : Store P) (k j : Nat) :
    (s.tick k).append (o.tick j) =
      if o.size > s.size then ((s.append o).1.tick j, (s.append o).2.tick k)
      else ((s.append o).1.tick k, (s.append o).2.tick j) := by
  rw [append_eq, append_eq s]
  simp only [tick_size]
  split
  · split
    · rfl
    · exact Prod.ext (foldl_tick (pushIfAbsent_tick · j) _ o) rfl
  · split
    · rfl
    · exact Prod.ext (foldl_tick (pushIfAbsent_tick · k) _ s) rfl

theorem append_tick (s o : Store P) (k : Nat) :
    (s.tick k).append (o.tick k) = ((s.append o).1.tick k, (s.append o).2.tick k) := by
  rw [append_tick₂, ite_self]

theorem append_tick_same (s o : Store P) (k : Nat) :
    Store.Same (s.append o).1 ((s.tick k).append o).1 ∧ Store.Same (s.append o).2 ((s.tick k).append o).2 := by
  have h := append_tick₂ s o k 0
  rw [tick_zero] at h
  rw [h]
  -- named, so that the `rfl`s below do not unfold `append`
  generalize s.append o = x
  split <;> exact ⟨⟨rfl, rfl, rfl, rfl⟩, ⟨rfl, rfl, rfl, rfl⟩⟩

end StoreTick

namespace MaxQ
open PQ.MaxQ
variable [LT P] [DecidableLT P]

theorem pickLargest_tick (s : Store P) (k : Nat) (i : Nat) :
    pickLargest (s.tick k) i = mapOk (tickP k) (pickLargest s i) := by
  tick_simp k [pickLargest, prioAt_tick]

theorem heapifyLoop_tick (fuel : Nat) (s : Store P) (k : Nat) (i : Nat) :
    heapifyLoop fuel (s.tick k) i = mapOk (·.tick k) (heapifyLoop fuel s i) := by
  induction fuel generalizing s i with
  | zero => rfl
  | succ n ih => tick_simp k [heapifyLoop, pickLargest_tick _ k, swap_tick _ k, ih]

theorem heapify_tick (s : Store P) (k : Nat) (i : Nat) :
    heapify (s.tick k) i = mapOk (·.tick k) (heapify s i) := by
  tick_simp k [heapify, heapifyLoop_tick _ _ k]

theorem bubbleUpLoop_tick (fuel : Nat) (s : Store P) (k : Nat) (pos : Nat) (p : P) :
    bubbleUpLoop fuel (s.tick k) pos p = mapOk (tickP k) (bubbleUpLoop fuel s pos p) := by
  induction fuel generalizing s pos with
  | zero => rfl
  | succ n ih => tick_simp k [bubbleUpLoop, prioAt_tick, ih]

theorem bubbleUp_tick (s : Store P) (k : Nat) (pos mp : Nat) :
    bubbleUp (s.tick k) pos mp = mapOk (tickP k) (bubbleUp s pos mp) := by
  tick_simp k [bubbleUp, bubbleUpLoop_tick _ _ k]

theorem upHeapify_tick (s : Store P) (k : Nat) (i : Nat) :
    upHeapify (s.tick k) i = mapOk (·.tick k) (upHeapify s i) := by
  tick_simp k [upHeapify, bubbleUp_tick _ k, heapify_tick _ k]

theorem heapBuildLoop_tick (s : Store P) (k : Nat) (i : Nat) :
    heapBuildLoop (s.tick k) i = mapOk (·.tick k) (heapBuildLoop s i) := by
  induction i generalizing s with
  | zero => exact heapify_tick s k 0
  | succ n ih => tick_simp k [heapBuildLoop, heapify_tick _ k, ih]

theorem heapBuild_tick (s : Store P) (k : Nat) :
    heapBuild (s.tick k) = mapOk (·.tick k) (heapBuild s) := by
  tick_simp k [heapBuild, heapBuildLoop_tick _ k]

theorem peek_tick (s : Store P) (k : Nat) :
    peek (s.tick k) = peek s :=
  rfl

theorem peekMutWrite_tick (s : Store P) (k : Nat) (w : Item → Item) :
    peekMutWrite (s.tick k) w = mapOk (tickP k) (peekMutWrite s w) := by
  tick_simp k [peekMutWrite]
  split
  · rfl
  · refine bind_congr fun i => ?_
    split <;> rfl

theorem pop_tick (s : Store P) (k : Nat) :
    pop (s.tick k) = mapOk (tickP k) (pop s) := by
  simp only [pop, tick_size]
  split <;> tick_simp k [swapRemove_tick _ k, heapify_tick _ k]

theorem popIf_tick (s : Store P) (k : Nat) (f : Item → P → Bool × Item × P) :
    popIf (s.tick k) f = mapOk (tickP k) (popIf s f) := by
  simp only [popIf, tick_size]
  split <;> tick_simp k [swapRemoveIf_tick _ k, heapify_tick _ k]

theorem push_tick (s : Store P) (k : Nat) (it : Item) (p : P) :
    push (s.tick k) it p = mapOk (tickP k) (push s it p) := by
  rcases h : s.map.insertFull it p with ⟨map, idx, _ | old⟩ <;>
    tick_simp k [push, h, upHeapify_tick _ k, bubbleUp_tick _ k]

theorem pushIncrease_tick (s : Store P) (k : Nat) (it : Item) (p : P) :
    pushIncrease (s.tick k) it p = mapOk (tickP k) (pushIncrease s it p) := by
  rcases h : s.getPriority it.key with _ | q <;> tick_simp k [pushIncrease, getPriority_tick, h, push_tick _ k]

theorem pushDecrease_tick (s : Store P) (k : Nat) (it : Item) (p : P) :
    pushDecrease (s.tick k) it p = mapOk (tickP k) (pushDecrease s it p) := by
  rcases h : s.getPriority it.key with _ | q <;> tick_simp k [pushDecrease, getPriority_tick, h, push_tick _ k]

theorem changePriority_tick (s : Store P) (k : Nat) (key : Nat) (p : P) :
    changePriority (s.tick k) key p = mapOk (tickP k) (changePriority s key p) := by
  tick_simp k [changePriority, TickFrame.changePriority_tick _ k, upHeapify_tick _ k]
  refine bind_congr fun a => ?_
  split <;> tick_simp k [mapOk_pure]

theorem changePriorityBy_tick (s : Store P) (k : Nat) (key : Nat) (g : P → P) :
    changePriorityBy (s.tick k) key g = mapOk (tickP k) (changePriorityBy s key g) := by
  tick_simp k [changePriorityBy, TickFrame.changePriorityBy_tick _ k, upHeapify_tick _ k]
  refine bind_congr fun a => ?_
  split <;> tick_simp k [mapOk_pure]

theorem remove_tick (s : Store P) (k : Nat) (key : Nat) :
    remove (s.tick k) key = mapOk (tickP k) (remove s key) := by
  tick_simp k [remove, TickFrame.remove_tick _ k, upHeapify_tick _ k]
  refine bind_congr fun a => ?_
  split <;> tick_simp k [mapOk_pure]

theorem retainMut_tick (s : Store P) (k : Nat) (f : Item → P → Bool × Item × P) :
    retainMut (s.tick k) f = mapOk (·.tick k) (retainMut s f) := by
  rw [retainMut, TickFrame.retainMut_tick, heapBuild_tick, retainMut]

theorem ofStore_tick (s : Store P) (k : Nat) :
    ofStore (s.tick k) = mapOk (·.tick k) (ofStore s) :=
  heapBuild_tick s k

theorem pushAll_tick (s : Store P) (k : Nat) (es : List (Item × P)) :
    pushAll es (s.tick k) = mapOk (·.tick k) (pushAll es s) := by
  induction es generalizing s with
  | nil => rfl
  | cons e es ih => tick_simp k [pushAll, push_tick _ k, ih]

theorem extend_tick (s : Store P) (k : Nat) (lo : Nat) (xs : Array (Item × P)) :
    extend (s.tick k) lo xs = mapOk (·.tick k) (extend s lo xs) := by
  tick_simp k [extend, TickFrame.extend_tick, heapBuild_tick _ k, pushAll_tick _ k]

theorem drainSorted_tick (fuel : Nat) (s : Store P) (k : Nat) :
    drainSorted fuel (s.tick k) = drainSorted fuel s := by
  induction fuel generalizing s with
  | zero => rfl
  | succ n ih => simp only [drainSorted, pop_tick _ k, bind_mapOk, tickP, ih]

theorem intoSortedVec_tick (s : Store P) (k : Nat) :
    intoSortedVec (s.tick k) = intoSortedVec s := by
  simp only [intoSortedVec, tick_size, drainSorted_tick]

theorem append_tick₂ (s o : Store P) (k j : Nat) :
    append (s.tick k) (o.tick j) =
      mapOk (fun x => if o.size > s.size then (x.1.tick j, x.2.tick k) else (x.1.tick k, x.2.tick j)) (append s o) := by
  simp only [append, TickFrame.append_tick₂]
  split <;> simp only [heapBuild_tick, mapOk_bind, mapOk_pure, bind_mapOk]

theorem append_tick (s o : Store P) (k : Nat) :
    append (s.tick k) (o.tick k) = mapOk (fun x => (x.1.tick k, x.2.tick k)) (append s o) := by
  simp only [append_tick₂, ite_self]

theorem append_tick_same (s o : Store P) (k : Nat) :
    RelR (fun x y => Store.Same x.1 y.1 ∧ Store.Same x.2 y.2) (append s o) (append (s.tick k) o) := by
  have h := append_tick₂ s o k 0
  rw [tick_zero] at h
  rw [h]
  refine RelR.mapOk_right _ fun x => ?_
  split <;> exact ⟨⟨rfl, rfl, rfl, rfl⟩, ⟨rfl, rfl, rfl, rfl⟩⟩

end MaxQ

namespace DQ
open PQ.DQ
variable [LT P] [DecidableLT P]

theorem candidates_go_tick (s : Store P) (k : Nat) (l : List Nat) : candidates.go (s.tick k) l = candidates.go s l := by
  induction l with
  | nil => rfl
  | cons c cs ih => simp only [candidates.go, ih, tick_heap, tick_map]

theorem candidates_tick (s : Store P) (k : Nat) (i : Nat) :
    candidates (s.tick k) i = candidates s i :=
  candidates_go_tick s k _

theorem heapifyMinLoop_tick (fuel : Nat) (s : Store P) (k : Nat) (i : Nat) :
    heapifyMinLoop fuel (s.tick k) i = mapOk (·.tick k) (heapifyMinLoop fuel s i) := by
  induction fuel generalizing s i with
  | zero => rfl
  | succ n ih => tick_simp k [heapifyMinLoop, candidates_tick, prioAt_tick, swap_tick _ k, ih]

theorem heapifyMaxLoop_tick (fuel : Nat) (s : Store P) (k : Nat) (i : Nat) :
    heapifyMaxLoop fuel (s.tick k) i = mapOk (·.tick k) (heapifyMaxLoop fuel s i) := by
  induction fuel generalizing s i with
  | zero => rfl
  | succ n ih => tick_simp k [heapifyMaxLoop, candidates_tick, prioAt_tick, swap_tick _ k, ih]

theorem heapify_tick (s : Store P) (k : Nat) (i : Nat) :
    heapify (s.tick k) i = mapOk (·.tick k) (heapify s i) := by
  tick_simp k [heapify, heapifyMinLoop_tick _ _ k, heapifyMaxLoop_tick _ _ k]

theorem bubbleUpMinLoop_tick (fuel : Nat) (s : Store P) (k : Nat) (pos : Nat) (p : P) :
    bubbleUpMinLoop fuel (s.tick k) pos p = mapOk (tickP k) (bubbleUpMinLoop fuel s pos p) := by
  induction fuel generalizing s pos with
  | zero => rfl
  | succ n ih => tick_simp k [bubbleUpMinLoop, prioAt_tick, ih]

theorem bubbleUpMaxLoop_tick (fuel : Nat) (s : Store P) (k : Nat) (pos : Nat) (p : P) :
    bubbleUpMaxLoop fuel (s.tick k) pos p = mapOk (tickP k) (bubbleUpMaxLoop fuel s pos p) := by
  induction fuel generalizing s pos with
  | zero => rfl
  | succ n ih => tick_simp k [bubbleUpMaxLoop, prioAt_tick, ih]

theorem bubbleUpMin_tick (s : Store P) (k : Nat) (pos mp : Nat) :
    bubbleUpMin (s.tick k) pos mp = mapOk (tickP k) (bubbleUpMin s pos mp) := by
  tick_simp k [bubbleUpMin, bubbleUpMinLoop_tick _ _ k]

theorem bubbleUpMax_tick (s : Store P) (k : Nat) (pos mp : Nat) :
    bubbleUpMax (s.tick k) pos mp = mapOk (tickP k) (bubbleUpMax s pos mp) := by
  tick_simp k [bubbleUpMax, bubbleUpMaxLoop_tick _ _ k]

theorem bubbleUp_tick (s : Store P) (k : Nat) (pos mp : Nat) :
    bubbleUp (s.tick k) pos mp = mapOk (tickP k) (bubbleUp s pos mp) := by
  tick_simp k [bubbleUp, prioAt_tick, bubbleUpMin_tick _ k, bubbleUpMax_tick _ k]
  refine bind_congr fun e => ?_
  split
  · refine bind_congr fun pp => bind_congr fun pi => ?_
    split <;> tick_simp k [mapOk_pure]
  · rfl

theorem upHeapify_tick (s : Store P) (k : Nat) (i : Nat) :
    upHeapify (s.tick k) i = mapOk (·.tick k) (upHeapify s i) := by
  simp only [upHeapify, tick_heap]
  split <;> tick_simp k [bubbleUp_tick _ k, heapify_tick _ k]

theorem heapBuildLoop_tick (s : Store P) (k : Nat) (i : Nat) :
    heapBuildLoop (s.tick k) i = mapOk (·.tick k) (heapBuildLoop s i) := by
  induction i generalizing s with
  | zero => exact heapify_tick s k 0
  | succ n ih => tick_simp k [heapBuildLoop, heapify_tick _ k, ih]

theorem heapBuild_tick (s : Store P) (k : Nat) :
    heapBuild (s.tick k) = mapOk (·.tick k) (heapBuild s) := by
  tick_simp k [heapBuild, heapBuildLoop_tick _ k]

theorem findMin_tick (s : Store P) (k : Nat) :
    findMin (s.tick k) = findMin s :=
  rfl

theorem findMax_tick (s : Store P) (k : Nat) :
    findMax (s.tick k) = mapOk (tickP k) (findMax s) := by
  simp only [findMax, tick_size]
  split <;> tick_simp k [prioAt_tick]

theorem entryAt_tick (s : Store P) (k : Nat) (pos site : Nat) :
    entryAt (s.tick k) pos site = entryAt s pos site :=
  rfl

theorem peekMin_tick (s : Store P) (k : Nat) :
    peekMin (s.tick k) = peekMin s :=
  rfl

theorem peekMax_tick (s : Store P) (k : Nat) :
    peekMax (s.tick k) = mapOk (tickP k) (peekMax s) := by
  tick_simp k [peekMax, findMax_tick _ k, entryAt_tick]
  refine bind_congr fun a => ?_
  split <;> tick_simp k [mapOk_pure]

theorem peekMinMutWrite_tick (s : Store P) (k : Nat) (w : Item → Item) :
    peekMinMutWrite (s.tick k) w = mapOk (tickP k) (peekMinMutWrite s w) := by
  simp only [peekMinMutWrite, findMin_tick]
  split
  · rfl
  · tick_simp k [mapOk_pure]
    refine bind_congr fun i => ?_
    split <;> rfl

theorem peekMaxMutWrite_tick (s : Store P) (k : Nat) (w : Item → Item) :
    peekMaxMutWrite (s.tick k) w = mapOk (tickP k) (peekMaxMutWrite s w) := by
  tick_simp k [peekMaxMutWrite, findMax_tick _ k]
  refine bind_congr fun a => ?_
  split
  · rfl
  · tick_simp k [mapOk_pure]
    refine bind_congr fun i => ?_
    split <;> rfl

theorem popMin_tick (s : Store P) (k : Nat) :
    popMin (s.tick k) = mapOk (tickP k) (popMin s) := by
  simp only [popMin, findMin_tick]
  split <;> tick_simp k [swapRemove_tick _ k, heapify_tick _ k]

theorem popMax_tick (s : Store P) (k : Nat) :
    popMax (s.tick k) = mapOk (tickP k) (popMax s) := by
  tick_simp k [popMax, findMax_tick _ k, swapRemove_tick _ k, heapify_tick _ k]
  refine bind_congr fun a => ?_
  split <;> tick_simp k [mapOk_pure]

theorem popMinIf_tick (s : Store P) (k : Nat) (f : Item → P → Bool × Item × P) :
    popMinIf (s.tick k) f = mapOk (tickP k) (popMinIf s f) := by
  simp only [popMinIf, findMin_tick]
  split <;> tick_simp k [swapRemoveIf_tick _ k, heapify_tick _ k]

theorem popMaxIf_tick (s : Store P) (k : Nat) (f : Item → P → Bool × Item × P) :
    popMaxIf (s.tick k) f = mapOk (tickP k) (popMaxIf s f) := by
  tick_simp k [popMaxIf, findMax_tick _ k, swapRemoveIf_tick _ k, upHeapify_tick _ k]
  refine bind_congr fun a => ?_
  split <;> tick_simp k [mapOk_pure]

theorem push_tick (s : Store P) (k : Nat) (it : Item) (p : P) :
    push (s.tick k) it p = mapOk (tickP k) (push s it p) := by
  rcases h : s.map.insertFull it p with ⟨map, idx, _ | old⟩ <;>
    tick_simp k [push, h, upHeapify_tick _ k, bubbleUp_tick _ k]

theorem pushIncrease_tick (s : Store P) (k : Nat) (it : Item) (p : P) :
    pushIncrease (s.tick k) it p = mapOk (tickP k) (pushIncrease s it p) := by
  rcases h : s.getPriority it.key with _ | q <;> tick_simp k [pushIncrease, getPriority_tick, h, push_tick _ k]

theorem pushDecrease_tick (s : Store P) (k : Nat) (it : Item) (p : P) :
    pushDecrease (s.tick k) it p = mapOk (tickP k) (pushDecrease s it p) := by
  rcases h : s.getPriority it.key with _ | q <;> tick_simp k [pushDecrease, getPriority_tick, h, push_tick _ k]

theorem changePriority_tick (s : Store P) (k : Nat) (key : Nat) (p : P) :
    changePriority (s.tick k) key p = mapOk (tickP k) (changePriority s key p) := by
  tick_simp k [changePriority, TickFrame.changePriority_tick _ k, upHeapify_tick _ k]
  refine bind_congr fun a => ?_
  split <;> tick_simp k [mapOk_pure]

theorem changePriorityBy_tick (s : Store P) (k : Nat) (key : Nat) (g : P → P) :
    changePriorityBy (s.tick k) key g = mapOk (tickP k) (changePriorityBy s key g) := by
  tick_simp k [changePriorityBy, TickFrame.changePriorityBy_tick _ k, upHeapify_tick _ k]
  refine bind_congr fun a => ?_
  split <;> tick_simp k [mapOk_pure]

theorem remove_tick (s : Store P) (k : Nat) (key : Nat) :
    remove (s.tick k) key = mapOk (tickP k) (remove s key) := by
  tick_simp k [remove, TickFrame.remove_tick _ k, upHeapify_tick _ k]
  refine bind_congr fun a => ?_
  split <;> tick_simp k [mapOk_pure]

theorem retainMut_tick (s : Store P) (k : Nat) (f : Item → P → Bool × Item × P) :
    retainMut (s.tick k) f = mapOk (·.tick k) (retainMut s f) := by
  rw [retainMut, TickFrame.retainMut_tick, heapBuild_tick, retainMut]

theorem ofStore_tick (s : Store P) (k : Nat) :
    ofStore (s.tick k) = mapOk (·.tick k) (ofStore s) :=
  heapBuild_tick s k

theorem pushAll_tick (s : Store P) (k : Nat) (es : List (Item × P)) :
    pushAll es (s.tick k) = mapOk (·.tick k) (pushAll es s) := by
  induction es generalizing s with
  | nil => rfl
  | cons e es ih => tick_simp k [pushAll, push_tick _ k, ih]

theorem extend_tick (s : Store P) (k : Nat) (lo : Nat) (xs : Array (Item × P)) :
    extend (s.tick k) lo xs = mapOk (·.tick k) (extend s lo xs) := by
  tick_simp k [extend, TickFrame.extend_tick, heapBuild_tick _ k, pushAll_tick _ k]

theorem sortedCalls_tick (s : Store P) (k : Nat) (bs : List Bool) :
    sortedCalls bs (s.tick k) = mapOk (tickQ k) (sortedCalls bs s) := by
  induction bs generalizing s with
  | nil => rfl
  | cons b bs ih => cases b <;> tick_simp k [sortedCalls, popMin_tick _ k, popMax_tick _ k, ih]

theorem drainAsc_tick (fuel : Nat) (s : Store P) (k : Nat) :
    drainAsc fuel (s.tick k) = drainAsc fuel s := by
  induction fuel generalizing s with
  | zero => rfl
  | succ n ih => simp only [drainAsc, popMin_tick _ k, bind_mapOk, tickP, ih]

theorem drainDesc_tick (fuel : Nat) (s : Store P) (k : Nat) :
    drainDesc fuel (s.tick k) = drainDesc fuel s := by
  induction fuel generalizing s with
  | zero => rfl
  | succ n ih => simp only [drainDesc, popMax_tick _ k, bind_mapOk, tickP, ih]

theorem intoAscendingSortedVec_tick (s : Store P) (k : Nat) :
    intoAscendingSortedVec (s.tick k) = intoAscendingSortedVec s := by
  simp only [intoAscendingSortedVec, tick_size, drainAsc_tick]

theorem intoDescendingSortedVec_tick (s : Store P) (k : Nat) :
    intoDescendingSortedVec (s.tick k) = intoDescendingSortedVec s := by
  simp only [intoDescendingSortedVec, tick_size, drainDesc_tick]

theorem append_tick₂ (s o : Store P) (k j : Nat) :
    append (s.tick k) (o.tick j) =
      mapOk (fun x => if o.size > s.size then (x.1.tick j, x.2.tick k) else (x.1.tick k, x.2.tick j)) (append s o) := by
  simp only [append, TickFrame.append_tick₂]
  split <;> simp only [heapBuild_tick, mapOk_bind, mapOk_pure, bind_mapOk]

theorem append_tick (s o : Store P) (k : Nat) :
    append (s.tick k) (o.tick k) = mapOk (fun x => (x.1.tick k, x.2.tick k)) (append s o) := by
  simp only [append_tick₂, ite_self]

theorem append_tick_same (s o : Store P) (k : Nat) :
    RelR (fun x y => Store.Same x.1 y.1 ∧ Store.Same x.2 y.2) (append s o) (append (s.tick k) o) := by
  have h := append_tick₂ s o k 0
  rw [tick_zero] at h
  rw [h]
  refine RelR.mapOk_right _ fun x => ?_
  split <;> exact ⟨⟨rfl, rfl, rfl, rfl⟩, ⟨rfl, rfl, rfl, rfl⟩⟩

end DQ

section Histories
variable [LT P] [DecidableLT P]

theorem heapBuildK_tick (kind : Kind) (s : Store P) (k : Nat) :
    heapBuildK kind (s.tick k) = mapOk (·.tick k) (heapBuildK kind s) := by
  cases kind
  · exact MaxQ.heapBuild_tick s k
  · exact DQ.heapBuild_tick s k

theorem QSame.shift {k : Kind} {s : Store P} {n₁ n₂ : Nat} : QSame ⟨k, s.tick n₁⟩ ⟨k, s.tick n₂⟩ :=
  ⟨rfl, rfl, rfl, rfl, rfl⟩

theorem RelR.shift_store {x : R α} {k : Kind} {f : α → Store P} {out : α → Out P} {n₁ n₂ : Nat} :
    RelR QOut (x >>= fun a => Pure.pure (⟨k, (f a).tick n₁⟩, out a))
      (x >>= fun a => Pure.pure (⟨k, (f a).tick n₂⟩, out a)) :=
  RelR.bind_same _ fun _ => RelR.ok ⟨.shift, rfl⟩

/-- The two stores are shifts of one store `s₀` (`same_elim`); the law of the operation's function moves both shifts to the
store it returns.  `fromVec`/`fromIter`/`deserialize` do not read the store, and `append` shifts the receiver alone. -/
theorem step_same {q r : Q P} (h : QSame q r) (op : Op P) : RelR QOut (step q op) (step r op) := by
  obtain ⟨k, s⟩ := q
  obtain ⟨k', t⟩ := r
  obtain ⟨hk, hs⟩ := h
  simp only at hk hs
  subst hk
  apply same_elim hs; intro s₀ n₁ n₂
  cases op with
  | push it p =>
    cases k <;> simp only [step, MaxQ.push_tick, DQ.push_tick, bind_mapOk] <;> exact RelR.shift_store
  | pushIncrease it p =>
    cases k <;> simp only [step, MaxQ.pushIncrease_tick, DQ.pushIncrease_tick, bind_mapOk] <;> exact RelR.shift_store
  | pushDecrease it p =>
    cases k <;> simp only [step, MaxQ.pushDecrease_tick, DQ.pushDecrease_tick, bind_mapOk] <;> exact RelR.shift_store
  | changePriority k' p =>
    cases k <;> simp only [step, MaxQ.changePriority_tick, DQ.changePriority_tick, bind_mapOk] <;> exact RelR.shift_store
  | changePriorityBy k' g =>
    cases k <;> simp only [step, MaxQ.changePriorityBy_tick, DQ.changePriorityBy_tick, bind_mapOk] <;> exact RelR.shift_store
  | remove k' =>
    cases k <;> simp only [step, MaxQ.remove_tick, DQ.remove_tick, bind_mapOk] <;> exact RelR.shift_store
  | popFront =>
    cases k <;> simp only [step, MaxQ.pop_tick, DQ.popMin_tick, bind_mapOk] <;> exact RelR.shift_store
  | popFrontIf f =>
    cases k <;> simp only [step, MaxQ.popIf_tick, DQ.popMinIf_tick, bind_mapOk] <;> exact RelR.shift_store
  | peekFrontMut w =>
    cases k <;> simp only [step, MaxQ.peekMutWrite_tick, DQ.peekMinMutWrite_tick, bind_mapOk] <;> exact RelR.shift_store
  | popBack =>
    cases k <;> simp only [step, DQ.popMax_tick, bind_mapOk]
    · exact RelR.ok ⟨.shift, rfl⟩
    · exact RelR.shift_store
  | popBackIf f =>
    cases k <;> simp only [step, DQ.popMaxIf_tick, bind_mapOk]
    · exact RelR.ok ⟨.shift, rfl⟩
    · exact RelR.shift_store
  | peekBackMut w =>
    cases k <;> simp only [step, DQ.peekMaxMutWrite_tick, bind_mapOk]
    · exact RelR.ok ⟨.shift, rfl⟩
    · exact RelR.shift_store
  | retainMut f =>
    cases k <;> simp only [step, MaxQ.retainMut_tick, DQ.retainMut_tick, bind_mapOk] <;> exact RelR.shift_store
  | extend lo xs =>
    cases k <;> simp only [step, MaxQ.extend_tick, DQ.extend_tick, bind_mapOk] <;> exact RelR.shift_store
  | convert =>
    cases k <;> simp only [step, MaxQ.ofStore_tick, DQ.ofStore_tick, bind_mapOk] <;> exact RelR.shift_store
  | iterMut leak prog =>
    -- the program runs on the map alone; the rebuild is `heapBuildK` of the store with the rewritten map
    simp only [step, tick_map, mk_tick]
    refine RelR.bind_same _ fun a => ?_
    cases leak <;> simp only [heapBuildK_tick, bind_mapOk, pure_bind, Bool.false_eq_true, if_true, if_false]
    · exact RelR.shift_store
    · exact RelR.ok ⟨.shift, rfl⟩
  | append o =>
    rw [← tick_zero o]
    cases k <;> simp only [step, MaxQ.append_tick₂, DQ.append_tick₂, bind_mapOk] <;>
      refine RelR.bind_same _ fun _ => ?_ <;> split <;> exact RelR.ok ⟨.shift, rfl⟩
  | getMut k' w =>
    simp only [step, getMutWrite_tick]
    exact RelR.ok ⟨.shift, rfl⟩
  | fromVec xs => exact RelR.bind_same _ fun _ => RelR.ok ⟨QSame.refl _, rfl⟩
  | fromIter lo xs => exact RelR.bind_same _ fun _ => RelR.ok ⟨QSame.refl _, rfl⟩
  | deserialize hint xs => exact RelR.bind_same _ fun _ => RelR.ok ⟨QSame.refl _, rfl⟩
  | clear => exact RelR.ok ⟨⟨rfl, rfl, rfl, rfl, rfl⟩, rfl⟩
  | drain => exact RelR.ok ⟨⟨rfl, rfl, rfl, rfl, rfl⟩, rfl⟩
  | capacityOp => exact RelR.ok ⟨.shift, rfl⟩

theorem run_same {q r : Q P} (h : QSame q r) (ops : List (Op P)) : RelR QOuts (run q ops) (run r ops) := by
  induction ops generalizing q r with
  | nil => exact RelR.ok ⟨h, rfl⟩
  | cons op ops ih =>
    simp only [run]
    refine RelR.bind (step_same h op) fun a b hab => ?_
    rw [hab.2]
    refine RelR.bind (ih hab.1) fun a' b' hab' => ?_
    rw [hab'.2]
    exact RelR.ok ⟨hab'.1, rfl⟩

theorem RelR.unfold {x y : R (Q P × β)} {r : Q P → Q P → Prop} (h : RelR (fun a b => r a.1 b.1 ∧ a.2 = b.2) x y) :
    (∀ e, x = .error e ↔ y = .error e) ∧ (∀ q' o, x = .ok (q', o) → ∃ r', y = .ok (r', o) ∧ r q' r') := by
  refine ⟨fun e => h.error_iff e, fun q' o hq => ?_⟩
  obtain ⟨⟨r', o'⟩, h1, h2, h3⟩ := h.ok_left hq
  simp only at h2 h3
  subst h3
  exact ⟨r', h1, h2⟩

/-- The ghost counter has no influence on behaviour.  (The exact shift law does NOT hold for `step`, hence `QSame` and not
an equation: `fromVec`/`fromIter`/`deserialize` install a store whose counter does not depend on the old one, and `append`
may keep the counter of the other store.) -/
theorem run_ticks_irrelevant (q r : Q P) (h : QSame q r) (ops : List (Op P)) :
    (∀ e, run q ops = .error e ↔ run r ops = .error e) ∧
    (∀ q' outs, run q ops = .ok (q', outs) → ∃ r', run r ops = .ok (r', outs) ∧ QSame q' r') :=
  (run_same h ops).unfold

theorem step_ticks_irrelevant (q r : Q P) (h : QSame q r) (op : Op P) :
    (∀ e, step q op = .error e ↔ step r op = .error e) ∧
    (∀ q' o, step q op = .ok (q', o) → ∃ r', step r op = .ok (r', o) ∧ QSame q' r') :=
  (step_same h op).unfold

theorem drain_same_new (s : Store P) (k : Kind) : QSame ({ kind := k, s := (s.drain).2 } : Q P) (Q.new k) :=
  ⟨rfl, rfl, rfl, rfl, rfl⟩
theorem clear_same_new (s : Store P) (k : Kind) : QSame ({ kind := k, s := s.clear } : Q P) (Q.new k) :=
  ⟨rfl, rfl, rfl, rfl, rfl⟩

/-- C16: the store left by `drain` / `clear` behaves like that of `new()` for every later history -/
theorem drained_behaves_like_new (s : Store P) (k : Kind) (ops : List (Op P)) :
    (∀ q' outs, run { kind := k, s := (s.drain).2 } ops = .ok (q', outs) →
      ∃ r', run (Q.new k) ops = .ok (r', outs) ∧ QSame q' r') ∧
    (∀ q' outs, run { kind := k, s := s.clear } ops = .ok (q', outs) →
      ∃ r', run (Q.new k) ops = .ok (r', outs) ∧ QSame q' r') ∧
    (∀ e, run { kind := k, s := (s.drain).2 } ops = .error e ↔ run (Q.new k) ops = .error e) :=
  ⟨(run_ticks_irrelevant _ _ (drain_same_new s k) ops).2, (run_ticks_irrelevant _ _ (clear_same_new s k) ops).2,
    (run_ticks_irrelevant _ _ (drain_same_new s k) ops).1⟩

theorem cleared_faults_like_new (s : Store P) (k : Kind) (ops : List (Op P)) (e : Fault) :
    run { kind := k, s := s.clear } ops = .error e ↔ run (Q.new k) ops = .error e :=
  (run_ticks_irrelevant _ _ (clear_same_new s k) ops).1 e

def exQ : Q Nat :=
  { kind := .pq, s := { map := #[(⟨1, 0⟩, 5), (⟨2, 0⟩, 3)], heap := #[0, 1], qp := #[0, 1], size := 2, ticks := 0 } }
def exR : Q Nat := { exQ with s := exQ.s.tick 7 }

example : QSame exQ exR ∧ exQ.s.ticks ≠ exR.s.ticks := ⟨⟨rfl, rfl, rfl, rfl, rfl⟩, by decide⟩

/-- non-vacuity: on this history the counters of both runs move (the statements are not about a frozen field), stay
different, and the outputs agree -/
example :
    (match run exQ [.push ⟨3, 0⟩ 9, .popFront], run exR [.push ⟨3, 0⟩ 9, .popFront] with
      | .ok (q', _), .ok (r', _) =>
        decide (q'.s.ticks = 2 ∧ r'.s.ticks = 9 ∧ q'.s.map = r'.s.map ∧ q'.s.heap = r'.s.heap)
      | _, _ => false) = true := by decide +kernel

example : QSame ({ kind := .dpq, s := (exR.s.drain).2 } : Q Nat) (Q.new .dpq) ∧ (exR.s.drain).2.ticks = 7 :=
  ⟨⟨rfl, rfl, rfl, rfl, rfl⟩, rfl⟩

example : Rel (shiftT 7) exQ.s exR.s := ⟨⟨rfl, rfl, rfl, rfl⟩, rfl⟩

end Histories


#print axioms run_ticks_irrelevant
#print axioms drained_behaves_like_new

end PQ.TickFrame
