import PQ.Lemmas.SiftUp
import PQ.Lemmas.Arith
/-!
# Vocabulary for the min-max heap proofs (shared by the trickle-down and the bubble-up developments)
-/
namespace PQ
open Arith
variable {P : Type} [LT P]

namespace Store

/-- the order relation between an ancestor position `a` and a descendant position `d`: on an even (min) level the
ancestor is not greater, on an odd (max) level it is not smaller -/
def Rel (s : Store P) (a d : Nat) : Prop :=
  ∀ x y, s.pr a = some x → s.pr d = some y → if level a % 2 = 0 then ¬ y < x else ¬ x < y

/-- every ancestor/descendant pair whose ancestor is at position `≥ lo` is in min-max order -/
def MinMaxFrom (s : Store P) (lo : Nat) : Prop :=
  ∀ a d, Anc a d → d < s.size → lo ≤ a → s.Rel a d

theorem minMaxHeap_iff_from (s : Store P) : s.MinMaxHeap ↔ s.MinMaxFrom 0 := by
  unfold MinMaxHeap MinMaxFrom Rel
  constructor
  · intro h a d had hd _ x y hx hy; exact h a d had hd x y hx hy
  · intro h a d had hd x y hx hy; exact h a d had hd (Nat.zero_le _) x y hx hy

end Store
namespace DQ
variable [DecidableLT P]

/-- a fold that keeps one of its two arguments at every step ends with one of the elements -/
theorem foldl_pick_mem {α : Type} (f : α → α → α) (hf : ∀ a b, f a b = a ∨ f a b = b) :
    ∀ (xs : List α) (x : α), xs.foldl f x ∈ x :: xs := by
  intro xs
  induction xs with
  | nil => intro x; simp
  | cons y ys ih =>
    intro x
    rw [List.foldl_cons]
    have := ih (f x y)
    rcases hf x y with h | h
    · rw [h] at this ⊢
      rcases List.mem_cons.1 this with h' | h'
      · rw [h']; exact List.mem_cons_self
      · exact List.mem_cons_of_mem _ (List.mem_cons_of_mem _ h')
    · rw [h] at this ⊢
      exact List.mem_cons_of_mem _ this

theorem mem_of_minByKey {cs : List (Nat × P)} {c : Nat × P} (h : minByKey cs = some c) : c ∈ cs := by
  cases cs with
  | nil => cases h
  | cons x xs =>
    unfold minByKey at h
    cases h
    exact foldl_pick_mem _ (fun a b => by split <;> simp) xs x

theorem mem_of_maxByKey {cs : List (Nat × P)} {c : Nat × P} (h : maxByKey cs = some c) : c ∈ cs := by
  cases cs with
  | nil => cases h
  | cons x xs =>
    unfold maxByKey at h
    cases h
    exact foldl_pick_mem _ (fun a b => by split <;> simp) xs x

/-- `heapify_min` and `heapify_max` are one loop: `pick` selects among the candidates, `lt pc pm` decides whether to exchange,
`d1 … d4` are the fault sites.  A proof about both takes the loop as a variable with this equation. -/
def TrickleEq (loop : Nat → Store P → Nat → R (Store P)) (pick : List (Nat × P) → Option (Nat × P)) (lt : P → P → Prop)
    [∀ x y, Decidable (lt x y)] (d1 d2 d3 d4 : Nat) : Prop :=
  ∀ fuel s i, loop (fuel + 1) s i = do
    let last ← decC s.size d1
    let bound ← parentC last d2
    if i ≤ bound then do
      let cs ← candidates s i
      let c ← unwrapO (pick cs) d3
      let s := s.tick (cs.length - 1)
      let pc ← s.prioAt c.1
      let pm ← s.prioAt i
      let s := s.tick
      if lt pc pm then do
        let s ← s.swap c.1 i
        if c.1 > right i then do
          let p ← parentC c.1 d4
          let pc ← s.prioAt c.1
          let pp ← s.prioAt p
          let s := s.tick
          let s ← if lt pp pc then s.swap c.1 p else pure s
          loop fuel s c.1
        else pure s
      else pure s
    else pure s

theorem trickleEq_min : TrickleEq (P := P) heapifyMinLoop minByKey (fun x y => x < y) 301 302 304 305 := fun _ _ _ => rfl
theorem trickleEq_max : TrickleEq (P := P) heapifyMaxLoop maxByKey (fun x y => y < x) 306 307 308 309 := fun _ _ _ => rfl

/-- likewise `bubble_up_min` and `bubble_up_max`: the hole climbs over grandparents while `up gpp priority` -/
def ClimbEq (loop : Nat → Store P → Nat → P → R (Store P × Nat)) (up : P → P → Prop) [∀ g v, Decidable (up g v)]
    (a b c : Nat) : Prop :=
  ∀ fuel s q v, loop (fuel + 1) s q v =
    if q > 0 ∧ parent q > 0 then do
      let gpp ← s.prioAt (parent (parent q))
      let s := s.tick
      if up gpp v then do
        let gpi ← getU s.heap (parent (parent q)) a
        let heap ← setU s.heap q gpi b
        let qp ← setU s.qp gpi q c
        loop fuel { s with heap := heap, qp := qp } (parent (parent q)) v
      else pure (s, q)
    else pure (s, q)

theorem climbEq_min : ClimbEq (P := P) bubbleUpMinLoop (fun g v => v < g) 320 321 322 := fun _ _ _ _ => rfl
theorem climbEq_max : ClimbEq (P := P) bubbleUpMaxLoop (fun g v => g < v) 323 324 325 := fun _ _ _ _ => rfl

end DQ
end PQ
