import PQ.Model.SrcGen
import PQ.Model.PQ
import PQ.Model.DPQ
import PQ.Lemmas.Basic
/-!
# Infrastructure for the source-translated tie (`SrcEquiv*`)

Helper lemmas and the tactics used to prove that the interpreter `PQ.Src.exec`, run on the terms that
`tools/gen_src.py` generated from the Rust source (`PQ.SrcGen.*`), computes what the hand-written model computes.

* `src_enter` : a run of a translated function becomes the run of its body (`run_eq`).
* `src_eval [extra]` : symbolic evaluation — `simp only` with the equations of the interpreter, the monad laws of
  `Except`, register look-ups, and the `extra` lemmas (the generated terms to unfold, the model functions to unfold,
  call lemmas of callees already tied).  A loop is NOT unfolded (`exec_while`, `exec_whileSomeCall` fold it back into
  `exec`): a `while` is tied to the model's fuel loop by `while_agrees`.
* `src_close` : closes an equation between two `do` blocks in `R` that perform the same reads in the same order:
  congruence under binds and conditionals, case splits, `simp_all` at the leaves.  It also gets through a cell that the
  model reads a second time at another site (`getU_bind_congr` keeps the value read for every site, `simp_all` uses it:
  the loop bodies of the three `bubble_up*`).  Where the two sides differ in more than that (a selection by control flow
  against one by value, the repeated read of `DoublePriorityQueue::bubble_up` under a `match`) the proofs give the steps.

Registers: the translator numbers the locals of a Rust function in order of appearance, parameters first
(`PQ/Model/SRC_README.md`); the `proj…` functions and the register numbers in the statements below follow that numbering.
-/
set_option linter.unusedSimpArgs false
set_option linter.unusedSectionVars false
namespace PQ.SrcEquiv
open PQ PQ.Src

variable {P : Type}

@[simp] theorem prioAt_tick (s : Store P) (k i : Nat) : (s.tick k).prioAt i = s.prioAt i := rfl
@[simp] theorem size_tick (s : Store P) (k : Nat) : (s.tick k).size = s.size := rfl
@[simp] theorem heap_tick (s : Store P) (k : Nat) : (s.tick k).heap = s.heap := rfl
@[simp] theorem qp_tick (s : Store P) (k : Nat) : (s.tick k).qp = s.qp := rfl
@[simp] theorem map_tick (s : Store P) (k : Nat) : (s.tick k).map = s.map := rfl

theorem ite_bind {α β : Type} (c : Prop) [Decidable c] (a b : R α) (f : α → R β) :
    (if c then a else b) >>= f = if c then a >>= f else b >>= f := by split <;> rfl

theorem ite_congr_same {α : Type} {c : Prop} [Decidable c] {a a' b b' : α} (ha : c → a = a') (hb : ¬c → b = b') :
    (if c then a else b) = if c then a' else b' := by
  split
  · exact ha ‹_›
  · exact hb ‹_›

theorem error_bind {α β : Type} (e : Fault) (f : α → R β) : ((Except.error e : R α) >>= f) = Except.error e := rfl
theorem ok_bind {α β : Type} (a : α) (f : α → R β) : ((Except.ok a : R α) >>= f) = f a := rfl

theorem bind_congr_ok {α β : Type} {x : R α} {f g : α → R β} (h : ∀ a, x = .ok a → f a = g a) :
    x >>= f = x >>= g := by
  cases x with
  | error e => rfl
  | ok a => exact h a rfl

theorem unwrapO_ok_iff {α : Type} (o : Option α) (site : Nat) (v : α) : unwrapO o site = .ok v ↔ o = some v :=
  unwrapO_eq_ok_iff

theorem unwrapO_some {α : Type} (v : α) (site : Nat) : unwrapO (some v) site = .ok v := rfl

theorem getU_ok_iff {α : Type} (a : Array α) (i site : Nat) (v : α) : getU a i site = .ok v ↔ a[i]? = some v :=
  getU_eq_ok_iff

theorem getElem?_some_lt {α : Type} {a : Array α} {i : Nat} {v : α} (h : a[i]? = some v) : i < a.size :=
  lt_size_of_getElem? h

/-- congruence under a `get_unchecked` read: the value read is the same at every site -/
theorem getU_bind_congr {α β : Type} {a : Array α} {i site : Nat} {f g : α → R β}
    (h : ∀ v, (∀ site', getU a i site' = .ok v) → f v = g v) : getU a i site >>= f = getU a i site >>= g := by
  cases hx : getU a i site with
  | error e => rfl
  | ok v => exact h v (fun site' => by rw [getU_ok_iff] at hx ⊢; exact hx)

/-- `x` (a run of the interpreter) agrees with `y` (the hand model): the same fault, or normal completion in a
state that `rel`ates to the model's result -/
def Agrees {β : Type} (x : R (St P × Flow P)) (y : R β) (rel : St P → β → Prop) : Prop :=
  match y with
  | .error e => x = .error e
  | .ok b => ∃ st', x = .ok (st', .normal) ∧ rel st' b

theorem Agrees.error_iff {β : Type} (x : R (St P × Flow P)) (e : Fault) (rel : St P → β → Prop) :
    Agrees x (.error e) rel ↔ x = .error e := Iff.rfl
theorem Agrees.ok_iff {β : Type} (x : R (St P × Flow P)) (b : β) (rel : St P → β → Prop) :
    Agrees x (.ok b) rel ↔ ∃ st', x = .ok (st', .normal) ∧ rel st' b := Iff.rfl
theorem Agrees.pure_iff {β : Type} (x : R (St P × Flow P)) (b : β) (rel : St P → β → Prop) :
    Agrees x (pure b) rel ↔ ∃ st', x = .ok (st', .normal) ∧ rel st' b := Iff.rfl

theorem Agrees.mono {β : Type} {x : R (St P × Flow P)} {y : R β} {rel rel' : St P → β → Prop}
    (h : Agrees x y rel) (hr : ∀ st b, rel st b → rel' st b) : Agrees x y rel' := by
  cases y with
  | error e => exact h
  | ok b => obtain ⟨st', hx, hb⟩ := h; exact ⟨st', hx, hr _ _ hb⟩

/-- the continuation of a loop body (`break` / `return` end the loop) -/
theorem Agrees.bindW {β γ : Type} {x : R (St P × Flow P)} {y : R β} {rel1 : St P → β → Prop}
    {kx : St P → R (St P × Flow P)} {ky : β → R γ} {rel2 : St P → γ → Prop}
    (h : Agrees x y rel1) (hk : ∀ st' b, y = .ok b → rel1 st' b → Agrees (kx st') (ky b) rel2) :
    Agrees (x >>= fun r => match r.2 with
      | .normal => kx r.1
      | .brk => pure (r.1, .normal)
      | .ret v => pure (r.1, .ret v)) (y >>= ky) rel2 := by
  cases y with
  | error e => rw [Agrees.error_iff] at h; subst h; exact Agrees.error_iff _ _ _ |>.mpr rfl
  | ok b => obtain ⟨st', hx, hr⟩ := h; subst hx; exact hk st' b rfl hr

/-- the continuation of the first statement of a `seq` -/
theorem Agrees.bindS {β γ : Type} {x : R (St P × Flow P)} {y : R β} {rel1 : St P → β → Prop}
    {kx : St P → R (St P × Flow P)} {ky : β → R γ} {rel2 : St P → γ → Prop}
    (h : Agrees x y rel1) (hk : ∀ st' b, y = .ok b → rel1 st' b → Agrees (kx st') (ky b) rel2) :
    Agrees (x >>= fun r => match r.2 with
      | .normal => kx r.1
      | fl => pure (r.1, fl)) (y >>= ky) rel2 := by
  cases y with
  | error e => rw [Agrees.error_iff] at h; subst h; exact Agrees.error_iff _ _ _ |>.mpr rfl
  | ok b => obtain ⟨st', hx, hr⟩ := h; subst hx; exact hk st' b rfl hr

/-- what `callWith` does with the outcome of a function body -/
def fin (r : St P × Flow P) : R (Store P × Val P) :=
  match r.2 with
  | .ret v => pure (r.1.s, v)
  | .normal => pure (r.1.s, .unit)
  | .brk => .error stuck

@[simp] theorem fin_normal (st : St P) : fin (st, Flow.normal) = pure (st.s, Val.unit) := rfl
@[simp] theorem fin_ret (st : St P) (v : Val P) : fin (st, Flow.ret v) = pure (st.s, v) := rfl

theorem callWith_eq (ex : Stmt → St P → R (St P × Flow P)) (prog : Prog) (f : FnId) (s : Store P)
    (nargs : List Nat) (pargs : List P) (vargs : List (Val P)) :
    callWith ex prog f s nargs pargs vargs =
      match prog f with
      | none => .error stuck
      | some fn => ex fn.body { s := s, n := bindN fn.nparams nargs, p := bindP fn.pparams pargs,
                                v := bindV fn.vparams vargs } >>= fin := by
  unfold callWith
  cases prog f with
  | none => rfl
  | some fn =>
    refine bind_congr fun r => ?_
    obtain ⟨st, fl⟩ := r
    cases fl <;> rfl

/-- a loop (or any statement) that ends the function: only the store matters -/
theorem Agrees.fin_unit {x : R (St P × Flow P)} {y : R (Store P)}
    (h : Agrees x y (fun st' s' => st'.s = s')) : x >>= fin = y >>= fun s' => pure (s', Val.unit) := by
  cases y with
  | error e => rw [Agrees.error_iff] at h; subst h; rfl
  | ok b => obtain ⟨st', hx, hr⟩ := h; subst hx; subst hr; rfl

/-- a statement followed by the rest of the function (both sides in `bind_assoc` normal form) -/
theorem Agrees.bindFin {β : Type} {x : R (St P × Flow P)} {y : R β} {rel1 : St P → β → Prop}
    {kx : St P → R (St P × Flow P)} {K : β → R (Store P × Val P)}
    (h : Agrees x y rel1) (hk : ∀ st' b, y = .ok b → rel1 st' b → kx st' >>= fin = K b) :
    (x >>= fun r => (match r.2 with
      | .normal => kx r.1
      | fl => pure (r.1, fl)) >>= fin) = y >>= K := by
  cases y with
  | error e => rw [Agrees.error_iff] at h; subst h; rfl
  | ok b => obtain ⟨st', hx, hr⟩ := h; subst hx; exact hk st' b rfl hr

theorem execStep_seq [LT P] [DecidableLT P] (rec : Stmt → St P → R (St P × Flow P)) (callf : CallF P)
    (a b : Stmt) (st : St P) :
    execStep rec callf (.seq a b) st = (execStep rec callf a st >>= fun r => match r.2 with
      | .normal => execStep rec callf b r.1
      | fl => pure (r.1, fl)) := by
  rfl

/-- like `Agrees` for a loop body that may `break`: the model side says whether the loop goes on -/
def AgreesB {β : Type} (x : R (St P × Flow P)) (y : R (β × Bool)) (rel : St P → β → Prop) : Prop :=
  match y with
  | .error e => x = .error e
  | .ok b => ∃ st', x = .ok (st', if b.2 then Flow.normal else Flow.brk) ∧ rel st' b.1

/-- from an equation between projections to `AgreesB`: the projection of the final state is a function `F` of the
model's result -/
theorem agreesB_of_map_eq' {β β' : Type} (proj : St P → β') (F : β → β') (x : R (St P × Flow P)) (y : R (β × Bool))
    (h : (fun r => (proj r.1, r.2)) <$> x = (fun b => (F b.1, if b.2 then Flow.normal else Flow.brk)) <$> y) :
    AgreesB x y (fun st' b => proj st' = F b) := by
  unfold AgreesB
  cases x with
  | error e => cases y with
    | error e' => simp [Functor.map, Except.map] at h; simp [h]
    | ok b => simp [Functor.map, Except.map] at h
  | ok r => cases y with
    | error e' => simp [Functor.map, Except.map] at h
    | ok b =>
      simp only [Functor.map, Except.map, Except.ok.injEq, Prod.mk.injEq] at h
      obtain ⟨st', fl⟩ := r
      refine ⟨st', ?_, h.1⟩
      have := h.2
      simp only at this
      rw [this]

theorem agrees_of_map_eq' {β β' : Type} (proj : St P → β') (F : β → β') (x : R (St P × Flow P)) (y : R β)
    (h : (fun r => (proj r.1, r.2)) <$> x = (fun b => (F b, Flow.normal)) <$> y) :
    Agrees x y (fun st' b => proj st' = F b) := by
  unfold Agrees
  cases x with
  | error e => cases y with
    | error e' => simp [Functor.map, Except.map] at h; simp [h]
    | ok b => simp [Functor.map, Except.map] at h
  | ok r => cases y with
    | error e' => simp [Functor.map, Except.map] at h
    | ok b =>
      simp only [Functor.map, Except.map, Except.ok.injEq, Prod.mk.injEq] at h
      obtain ⟨st', fl⟩ := r
      exact ⟨st', by simp_all, h.1⟩

theorem agrees_of_map_eq {β : Type} (proj : St P → β) (x : R (St P × Flow P)) (y : R β)
    (h : (fun r => (proj r.1, r.2)) <$> x = (fun b => (b, Flow.normal)) <$> y) :
    Agrees x y (fun st' b => proj st' = b) :=
  agrees_of_map_eq' proj id x y h

theorem agreesB_of_map_eq {β : Type} (proj : St P → β) (x : R (St P × Flow P)) (y : R (β × Bool))
    (h : (fun r => (proj r.1, r.2)) <$> x = (fun b => (b.1, if b.2 then Flow.normal else Flow.brk)) <$> y) :
    AgreesB x y (fun st' b => proj st' = b) :=
  agreesB_of_map_eq' proj id x y h

theorem AgreesB.mono {β : Type} {x : R (St P × Flow P)} {y : R (β × Bool)} {rel rel' : St P → β → Prop}
    (h : AgreesB x y rel) (hr : ∀ st b, rel st b → rel' st b) : AgreesB x y rel' := by
  cases y with
  | error e => exact h
  | ok b => obtain ⟨st', hx, hb⟩ := h; exact ⟨st', hx, hr _ _ hb⟩

/-- one iteration of a `while` whose body either completes (the loop goes on) or `break`s -/
theorem AgreesB.bindW {β γ : Type} {x : R (St P × Flow P)} {y : R (β × Bool)} {rel1 : St P → β → Prop}
    {kx : St P → R (St P × Flow P)} {ky kb : β → R γ} {rel2 : St P → γ → Prop}
    (h : AgreesB x y rel1)
    (hk : ∀ st' b, y = .ok (b, true) → rel1 st' b → Agrees (kx st') (ky b) rel2)
    (hb : ∀ st' b, y = .ok (b, false) → rel1 st' b → Agrees (pure (st', Flow.normal)) (kb b) rel2) :
    Agrees (x >>= fun r => match r.2 with
      | .normal => kx r.1
      | .brk => pure (r.1, .normal)
      | .ret v => pure (r.1, .ret v)) (y >>= fun b => if b.2 then ky b.1 else kb b.1) rel2 := by
  cases y with
  | error e =>
    have h' : x = .error e := h
    subst h'; exact Agrees.error_iff _ _ _ |>.mpr rfl
  | ok b =>
    obtain ⟨b, c⟩ := b
    obtain ⟨st', hx, hr⟩ := h
    subst hx
    cases c with
    | true => exact hk st' b rfl hr
    | false => exact hb st' b rfl hr

theorem execStep_while [LT P] [DecidableLT P] (rec : Stmt → St P → R (St P × Flow P)) (callf : CallF P)
    (c : BExpr) (body : Stmt) (st : St P) :
    execStep rec callf (.while c body) st = (do
      let (s, b) ← evalB callf st c
      if b then do
        let (st, fl) ← execStep rec callf body (st.setS s)
        match fl with
        | .normal => rec (.while c body) st
        | .brk => pure (st, .normal)
        | .ret v => pure (st, .ret v)
      else pure (st.setS s, .normal)) := by
  rfl

theorem exec_succ [LT P] [DecidableLT P] (prog : Prog) (k : Nat) (c : Stmt) (st : St P) :
    execStep (exec prog k) (callWith (exec prog k) prog) c st = exec prog (k + 1) c st := rfl

/-- `src_eval` does not enter a loop: it folds it back into `exec`, which it does not unfold -/
theorem exec_while [LT P] [DecidableLT P] (prog : Prog) (k : Nat) (c : BExpr) (b : Stmt) (st : St P) :
    execStep (exec prog k) (callWith (exec prog k) prog) (.while c b) st = exec prog (k + 1) (.while c b) st := rfl
theorem exec_whileSomeCall [LT P] [DecidableLT P] (prog : Prog) (k : Nat) (ev : Var) (f : FnId) (b : Stmt) (st : St P) :
    execStep (exec prog k) (callWith (exec prog k) prog) (.whileSomeCall ev f b) st
      = exec prog (k + 1) (.whileSomeCall ev f b) st := rfl

/-! ## "this model expression never reports `.fuel`" -/

def NoFuel {α : Type} (x : R α) : Prop := x ≠ .error .fuel

theorem NoFuel.pure {α : Type} (a : α) : NoFuel (pure a : R α) := by intro h; cases h
theorem NoFuel.ok {α : Type} (a : α) : NoFuel (.ok a : R α) := by intro h; cases h
theorem NoFuel.bind {α β : Type} {x : R α} {f : α → R β} (hx : NoFuel x) (hf : ∀ a, x = .ok a → NoFuel (f a)) :
    NoFuel (x >>= f) := by
  cases x with
  | error e =>
    intro h
    have h' : (Except.error e : R β) = .error .fuel := h
    injection h' with h'
    exact hx (by rw [h'])
  | ok a => exact hf a rfl
theorem NoFuel.ite {α : Type} {c : Prop} [Decidable c] {a b : R α} (ha : c → NoFuel a) (hb : ¬c → NoFuel b) :
    NoFuel (if c then a else b) := by
  split
  · exact ha ‹_›
  · exact hb ‹_›
theorem NoFuel.getU {α : Type} (a : Array α) (i site : Nat) : NoFuel (getU a i site) := by
  unfold PQ.getU; split <;> (intro h; cases h)
theorem NoFuel.setU {α : Type} (a : Array α) (i : Nat) (v : α) (site : Nat) : NoFuel (setU a i v site) := by
  unfold PQ.setU; split <;> (intro h; cases h)
theorem NoFuel.swapC {α : Type} (a : Array α) (i j site : Nat) : NoFuel (swapC a i j site) := by
  unfold PQ.swapC; split <;> (intro h; cases h)
theorem NoFuel.swapRemoveC {α : Type} (a : Array α) (i site : Nat) : NoFuel (swapRemoveC a i site) := by
  unfold PQ.swapRemoveC; split <;> (intro h; cases h)
theorem NoFuel.unwrapO {α : Type} (o : Option α) (site : Nat) : NoFuel (unwrapO o site) := by
  unfold PQ.unwrapO; split <;> (intro h; cases h)
theorem NoFuel.decC (x site : Nat) : NoFuel (decC x site) := by
  unfold PQ.decC; split <;> (intro h; cases h)
theorem NoFuel.parentC (i site : Nat) : NoFuel (DQ.parentC i site) := by
  unfold DQ.parentC; split <;> (intro h; cases h)

theorem NoFuel.swap (s : Store P) (a b : Nat) : NoFuel (s.swap a b) := by
  unfold Store.swap
  exact NoFuel.bind (NoFuel.getU _ _ _) fun _ _ => NoFuel.bind (NoFuel.getU _ _ _) fun _ _ =>
    NoFuel.bind (NoFuel.swapC _ _ _ _) fun _ _ => NoFuel.bind (NoFuel.swapC _ _ _ _) fun _ _ => NoFuel.pure _
theorem NoFuel.prioAt (s : Store P) (i : Nat) : NoFuel (s.prioAt i) := by
  unfold Store.prioAt
  exact NoFuel.bind (NoFuel.getU _ _ _) fun _ _ => NoFuel.bind (NoFuel.unwrapO _ _) fun _ _ => NoFuel.pure _

set_option hygiene false in
/-- proves `NoFuel e` for a loop-free `do` block over the memory primitives; extra facts about callees can be
supplied as hypotheses in the context (closed by `assumption`) -/
macro "no_fuel" : tactic => `(tactic|
  with_reducible repeat' (first
    | assumption
    | exact PQ.SrcEquiv.NoFuel.pure _
    | exact PQ.SrcEquiv.NoFuel.ok _
    | exact PQ.SrcEquiv.NoFuel.getU _ _ _
    | exact PQ.SrcEquiv.NoFuel.setU _ _ _ _
    | exact PQ.SrcEquiv.NoFuel.swapC _ _ _ _
    | exact PQ.SrcEquiv.NoFuel.swapRemoveC _ _ _
    | exact PQ.SrcEquiv.NoFuel.unwrapO _ _
    | exact PQ.SrcEquiv.NoFuel.decC _ _
    | exact PQ.SrcEquiv.NoFuel.parentC _ _
    | exact PQ.SrcEquiv.NoFuel.swap _ _ _
    | exact PQ.SrcEquiv.NoFuel.prioAt _ _
    | (refine PQ.SrcEquiv.NoFuel.bind ?_ (fun _ _ => ?_))
    | (refine PQ.SrcEquiv.NoFuel.ite (fun _ => ?_) (fun _ => ?_))
    | (intro h; cases h; done)))

/-! ## partial-correctness facts about model expressions -/

def Post {α : Type} (x : R α) (Q : α → Prop) : Prop := ∀ a, x = .ok a → Q a
theorem Post.pure {α : Type} {a : α} {Q : α → Prop} (h : Q a) : Post (pure a : R α) Q := by
  intro b hb; cases hb; exact h
theorem Post.triv {α : Type} (x : R α) : Post x (fun _ => True) := fun _ _ => trivial
theorem Post.bind {α β : Type} {x : R α} {f : α → R β} {Q1 : α → Prop} {Q : β → Prop}
    (hx : Post x Q1) (hf : ∀ a, Q1 a → Post (f a) Q) : Post (x >>= f) Q := by
  cases x with
  | error e => intro b hb; cases hb
  | ok a => exact hf a (hx a rfl)
theorem Post.ite {α : Type} {c : Prop} [Decidable c] {a b : R α} {Q : α → Prop}
    (ha : c → Post a Q) (hb : ¬c → Post b Q) : Post (if c then a else b) Q := by
  split
  · exact ha ‹_›
  · exact hb ‹_›

theorem setU_post_size {α : Type} (a : Array α) (i : Nat) (v : α) (site : Nat) :
    Post (setU a i v site) (fun a' => a'.size = a.size) := by
  unfold setU
  split
  · intro b hb; cases hb; simp
  · intro b hb; cases hb

theorem swapC_post_size {α : Type} (a : Array α) (i j site : Nat) :
    Post (swapC a i j site) (fun a' => a'.size = a.size) := by
  unfold swapC
  split
  · intro b hb; cases hb; simp
  · intro b hb; cases hb

/-- The rule for `while`.  The model loop `L` (with its own fuel) unfolds into a condition `C`, a step `S` whose flag says
whether the loop goes on, and an exit `out`; the condition and the body of the `while` are tied to `C` and `S` under a
relation `Rel` between interpreter states and model states (the body may `break`: flag `false`).  Then the `while`
agrees with `L` as long as `L` does not run out of its fuel.  `d` is the fuel the body needs for its calls. -/
theorem while_agrees [LT P] [DecidableLT P] {β γ : Type} {prog : Prog} {cnd : BExpr} {body : Stmt}
    {Rel : St P → β → Prop} {C : β → R Bool} {S : β → R (β × Bool)} {out : β → γ} {L : Nat → β → R γ} (d : Nat)
    (hL0 : ∀ b, L 0 b = .error .fuel)
    (hL : ∀ f b, L (f + 1) b = C b >>= fun c =>
      if c then S b >>= fun r => if r.2 then L f r.1 else pure (out r.1) else pure (out b))
    (hcond : ∀ (callf : CallF P) st b, Rel st b → evalB callf st cnd = (fun c => (st.s, c)) <$> C b)
    (hbody : ∀ g st b, d ≤ g → Rel st b → C b = .ok true →
      AgreesB (execStep (exec prog g) (callWith (exec prog g) prog) body st) (S b) Rel) (f : Nat) :
    ∀ (k : Nat) (st : St P) (b : β), f + d ≤ k → Rel st b → NoFuel (L f b) →
      Agrees (exec prog (k + 1) (.while cnd body) st) (L f b) (fun st' r => ∃ b', Rel st' b' ∧ r = out b') := by
  induction f with
  | zero => intro k st b _ _ hne; exact absurd (hL0 b) hne
  | succ f ih =>
    intro k st b hk hrel hne
    obtain ⟨k, rfl⟩ : ∃ k', k = k' + 1 := ⟨k - 1, by omega⟩
    rw [hL] at hne ⊢
    rw [exec, execStep_while, hcond _ st b hrel]
    cases hcnd : C b with
    | error e => exact (Agrees.error_iff _ _ _).mpr rfl
    | ok c =>
      cases c with
      | false => exact ⟨_, rfl, b, hrel, rfl⟩
      | true =>
        rw [hcnd] at hne
        simp only [map_eq_pure_bind, ok_bind, pure_bind, ↓reduceIte] at hne ⊢
        refine AgreesB.bindW (kx := exec prog (k + 1) (.while cnd body)) (ky := fun b => L f b)
          (kb := fun b => pure (out b)) (hbody (k + 1) st b (by omega) hrel hcnd) ?_ ?_
        · intro st2 b2 hy hrel2
          refine ih k st2 b2 (by omega) hrel2 ?_
          have := hne
          unfold NoFuel at this ⊢
          simpa only [hy, ok_bind, ↓reduceIte] using this
        · intro st2 b2 hy hrel2
          exact ⟨st2, rfl, b2, hrel2, rfl⟩

/-- Lean generates the equation lemmas of a recursive function when they are first mentioned, and keeps them only if
that happens in a statement: mentioned first inside a proof they are generated again by every later
`simp only [Src.evalB, …]` (about ten times the cost of the call).  This statement mentions one equation of each function
of the interpreter that `src_eval` unfolds. -/
theorem interp_eqns [LT P] [DecidableLT P] :
    type_of% (@Src.execStep.eq_1 P _ _) ∧ type_of% (@Src.evalN.eq_1 P) ∧ type_of% (@Src.evalNs.eq_1 P) ∧
    type_of% (@Src.evalO.eq_1 P) ∧ type_of% (@Src.evalP.eq_1 P) ∧ type_of% (@Src.evalPs.eq_1 P) ∧
    type_of% (@Src.evalVs.eq_1 P) ∧ type_of% (@Src.evalB.eq_1 P _ _) ∧ type_of% (@Src.bindN.eq_1) ∧
    type_of% (@Src.bindP.eq_1 P) ∧ type_of% (@Src.bindV.eq_1 P) :=
  ⟨Src.execStep.eq_1, Src.evalN.eq_1, Src.evalNs.eq_1, Src.evalO.eq_1, Src.evalP.eq_1, Src.evalPs.eq_1, Src.evalVs.eq_1,
    Src.evalB.eq_1, Src.bindN.eq_1, Src.bindP.eq_1, Src.bindV.eq_1⟩

/-! the equations of `execStep` that the fused tie (`SrcEquivPanic*`) rewrites with by name: `skip`, `seq`, `heapSetU`,
`qpSetU`, `heapClear`, `qpClear`, `sizeSet` -/
theorem es1 [LT P] [DecidableLT P] : type_of% (@Src.execStep.eq_1 P _ _) := @Src.execStep.eq_1 P _ _
theorem es2 [LT P] [DecidableLT P] : type_of% (@Src.execStep.eq_2 P _ _) := @Src.execStep.eq_2 P _ _
theorem es15 [LT P] [DecidableLT P] : type_of% (@Src.execStep.eq_15 P _ _) := @Src.execStep.eq_15 P _ _
theorem es16 [LT P] [DecidableLT P] : type_of% (@Src.execStep.eq_16 P _ _) := @Src.execStep.eq_16 P _ _
theorem es35 [LT P] [DecidableLT P] : type_of% (@Src.execStep.eq_35 P _ _) := @Src.execStep.eq_35 P _ _
theorem es36 [LT P] [DecidableLT P] : type_of% (@Src.execStep.eq_36 P _ _) := @Src.execStep.eq_36 P _ _
theorem es38 [LT P] [DecidableLT P] : type_of% (@Src.execStep.eq_38 P _ _) := @Src.execStep.eq_38 P _ _

/-- symbolic evaluation of the interpreter.  All names in the quotation are global and written in full, so hygiene is
switched off for it (as for the other tactics of this file): resolving them again at every call costs as much as
the call. -/
syntax "src_eval" (" [" Lean.Parser.Tactic.simpLemma,* "]")? : tactic
set_option hygiene false in
macro_rules
  | `(tactic| src_eval) => `(tactic| src_eval [])
  | `(tactic| src_eval [$ls,*]) => `(tactic|
      simp only [PQ.Src.execStep, ↓PQ.SrcEquiv.exec_while, ↓PQ.SrcEquiv.exec_whileSomeCall, PQ.Src.evalO, PQ.Src.evalN, PQ.Src.evalNs, PQ.Src.evalP, PQ.Src.evalPs, PQ.Src.evalVs,
        PQ.Src.evalB, PQ.Src.bindN, PQ.Src.bindP, PQ.Src.bindV, PQ.Src.upd, PQ.Src.St.setS, PQ.Src.St.setN, PQ.Src.St.setP, PQ.Src.St.setV,
        bind_assoc, pure_bind, map_eq_pure_bind, Function.comp, PQ.SrcEquiv.ite_bind, PQ.SrcEquiv.error_bind,
        PQ.SrcEquiv.ok_bind, PQ.SrcEquiv.fin_normal, PQ.SrcEquiv.fin_ret, decide_eq_true_eq,
        PQ.SrcEquiv.prioAt_tick, PQ.SrcEquiv.size_tick, PQ.SrcEquiv.heap_tick, PQ.SrcEquiv.qp_tick, PQ.SrcEquiv.map_tick,
        ↓reduceIte, Nat.reduceEqDiff, $ls,*])

/-- a call of a translated function with the interpreter at fuel `n` is a run with fuel `n`: the theorems about `Src.run`
rewrite call sites -/
theorem callWith_exec [LT P] [DecidableLT P] (prog : Prog) (n : Nat) (f : FnId) (s : Store P) (na : List Nat) (pa : List P)
    (va : List (Val P)) : callWith (exec prog n) prog f s na pa va = Src.run prog n f s na pa va := rfl

/-- a run of a translated function is the run of its body in fresh registers holding the arguments -/
theorem run_eq [LT P] [DecidableLT P] {prog : Prog} {f : FnId} {np pp vp : List Var} {body : Stmt}
    (hf : prog f = some { nparams := np, pparams := pp, body := body, vparams := vp }) (n : Nat) (s : Store P)
    (na : List Nat) (pa : List P) (va : List (Val P)) :
    Src.run prog (n + 1) f s na pa va = execStep (exec prog n) (callWith (exec prog n) prog) body
      { s := s, n := bindN np na, p := bindP pp pa, v := bindV vp va } >>= fin := by
  rw [Src.run, callWith_eq, hf]; rfl

/-- the same when the fuel is only known to be positive -/
theorem run_eq_pos [LT P] [DecidableLT P] {prog : Prog} {f : FnId} {np pp vp : List Var} {body : Stmt}
    (hf : prog f = some { nparams := np, pparams := pp, body := body, vparams := vp }) {fuel : Nat} (h : fuel ≥ 1)
    (s : Store P) (na : List Nat) (pa : List P) (va : List (Val P)) :
    Src.run prog fuel f s na pa va = execStep (exec prog (fuel - 1)) (callWith (exec prog (fuel - 1)) prog) body
      { s := s, n := bindN np na, p := bindP pp pa, v := bindV vp va } >>= fin := by
  obtain ⟨n, rfl⟩ : ∃ n, fuel = n + 1 := ⟨fuel - 1, by omega⟩
  exact run_eq hf n s na pa va

set_option hygiene false in
/-- enter the body of the function a `Src.run` calls: its entry in the table is found by evaluation (callees stay
folded, for the call lemmas) -/
macro "src_enter" : tactic => `(tactic| rw [PQ.SrcEquiv.run_eq rfl])

set_option hygiene false in
/-- closes `do … = do …` goals whose two sides read the same things in the same order -/
macro "src_close" : tactic => `(tactic|
  repeat' (first
    | (with_reducible refine PQ.SrcEquiv.getU_bind_congr fun _ _ => ?_)
    | (with_reducible refine PQ.SrcEquiv.bind_congr_ok fun _ _ => ?_)
    | (with_reducible refine PQ.SrcEquiv.ite_congr_same (fun _ => ?_) (fun _ => ?_))
    | with_reducible rfl
    | split
    | (simp only [*, PQ.SrcEquiv.ok_bind, PQ.SrcEquiv.error_bind, pure_bind, bind_assoc,
        PQ.SrcEquiv.fin_ret, PQ.SrcEquiv.fin_normal])
    | (simp only [map_eq_pure_bind, Function.comp, pure_bind, bind_assoc]; refine PQ.SrcEquiv.bind_congr_ok fun _ _ => ?_)
    | (simp only [pure_bind, bind_assoc, PQ.SrcEquiv.fin_ret, PQ.SrcEquiv.fin_normal]; rfl)
    | (simp_all; done)
    | (simp only [PQ.SrcEquiv.getU_ok_iff] at *; simp_all [PQ.getU, PQ.SrcEquiv.ok_bind, PQ.SrcEquiv.error_bind]; done)))

end PQ.SrcEquiv
