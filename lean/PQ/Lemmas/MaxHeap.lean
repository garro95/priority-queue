import PQ.Lemmas.WF
import PQ.Lemmas.Arith

/-!
# The binary max-heap of `PriorityQueue`: the sift-down loop (the moving hole of the sift-up is in `SiftUp.lean`, sift-up and rebuild in `PQUp.lean`)
-/
set_option linter.unusedSimpArgs false
set_option linter.unusedSectionVars false
namespace PQ
open Arith
variable {P : Type} [LT P] [DecidableLT P] [LE P] [Std.IsLinearPreorder P] [Std.LawfulOrderLT P]

namespace Store

/-- "the priority at position `a` is not smaller than the one at position `b`" -/
def Ge (s : Store P) (a b : Nat) : Prop := ∀ x y, s.pr a = some x → s.pr b = some y → ¬ x < y

theorem swap_pr {s s' : Store P} {a b : Nat} (hm : s'.map = s.map) (hh : ∀ p, s'.heap[p]? = s.heap[swapPos a b p]?) (p : Nat) :
    s'.pr p = s.pr (swapPos a b p) := by
  unfold pr; rw [hh p, hm]

theorem swap_entryAt {s s' : Store P} {a b : Nat} (hm : s'.map = s.map) (hh : ∀ p, s'.heap[p]? = s.heap[swapPos a b p]?) (p : Nat) :
    s'.entryAt p = s.entryAt (swapPos a b p) := by
  unfold entryAt; rw [hh p, hm]

theorem ge_of_pr {s : Store P} {a b : Nat} {x y : P} (ha : s.pr a = some x) (hb : s.pr b = some y) (h : ¬ x < y) :
    s.Ge a b := by
  intro x' y' ha' hb'
  rw [ha] at ha'; rw [hb] at hb'
  cases ha'; cases hb'; exact h

end Store

namespace MaxQ
open Store

/-- `pickLargest`: never faults on a well-formed store, performs at most two comparisons, and returns a position
among `i` and its children whose priority dominates all three; it differs from `i` only if strictly greater. -/
theorem pickLargest_spec {s : Store P} {i : Nat} (h : s.WF) (hi : i < s.size) :
    ∃ k L, pickLargest s i = .ok (s.tick k, L) ∧ k ≤ 2 ∧ L < s.size ∧ (L = i ∨ L = left i ∨ L = right i) ∧
      s.Ge L i ∧ (left i < s.size → s.Ge L (left i)) ∧ (right i < s.size → s.Ge L (right i)) ∧
      (L ≠ i → ∃ x y, s.pr i = some x ∧ s.pr L = some y ∧ x < y) ∧
      (left i < s.size → 1 ≤ k) := by
  obtain ⟨x, hx, hxp⟩ := TWF.prioAt_ok h hi
  unfold pickLargest
  by_cases hl : left i < s.size
  · obtain ⟨y, hy, hyp⟩ := TWF.prioAt_ok h hl
    by_cases hr : right i < s.size
    · obtain ⟨z, hz, hzp⟩ := TWF.prioAt_ok h hr
      by_cases c1 : x < y
      · by_cases c2 : y < z
        · refine ⟨2, right i, ?_, by omega, hr, .inr (.inr rfl), ge_of_pr hzp hxp (by grind), fun _ => ge_of_pr hzp hyp (by grind),
            fun _ => ge_of_pr hzp hzp (by grind), fun _ => ⟨x, z, hxp, hzp, by grind⟩, by omega⟩
          simp [hx, hy, hz, hl, hr, c1, c2, bind, Except.bind, pure, Except.pure, Store.tick_tick, Store.tick_zero]
        · refine ⟨2, left i, ?_, by omega, hl, .inr (.inl rfl), ge_of_pr hyp hxp (by grind), fun _ => ge_of_pr hyp hyp (by grind),
            fun _ => ge_of_pr hyp hzp c2, fun _ => ⟨x, y, hxp, hyp, c1⟩, by omega⟩
          simp [hx, hy, hz, hl, hr, c1, c2, bind, Except.bind, pure, Except.pure, Store.tick_tick, Store.tick_zero]
      · by_cases c2 : x < z
        · refine ⟨2, right i, ?_, by omega, hr, .inr (.inr rfl), ge_of_pr hzp hxp (by grind), fun _ => ge_of_pr hzp hyp (by grind),
            fun _ => ge_of_pr hzp hzp (by grind), fun _ => ⟨x, z, hxp, hzp, c2⟩, by omega⟩
          simp [hx, hy, hz, hl, hr, c1, c2, bind, Except.bind, pure, Except.pure, Store.tick_tick, Store.tick_zero]
        · refine ⟨2, i, ?_, by omega, hi, .inl rfl, ge_of_pr hxp hxp (by grind), fun _ => ge_of_pr hxp hyp c1,
            fun _ => ge_of_pr hxp hzp c2, fun hne => absurd rfl hne, by omega⟩
          simp [hx, hy, hz, hl, hr, c1, c2, bind, Except.bind, pure, Except.pure, Store.tick_tick, Store.tick_zero]
    · by_cases c1 : x < y
      · refine ⟨1, left i, ?_, by omega, hl, .inr (.inl rfl), ge_of_pr hyp hxp (by grind), fun _ => ge_of_pr hyp hyp (by grind),
          fun hr' => absurd hr' hr, fun _ => ⟨x, y, hxp, hyp, c1⟩, by omega⟩
        simp [hx, hy, hl, hr, c1, bind, Except.bind, pure, Except.pure, Store.tick_tick, Store.tick_zero]
      · refine ⟨1, i, ?_, by omega, hi, .inl rfl, ge_of_pr hxp hxp (by grind), fun _ => ge_of_pr hxp hyp c1,
          fun hr' => absurd hr' hr, fun hne => absurd rfl hne, by omega⟩
        simp [hx, hy, hl, hr, c1, bind, Except.bind, pure, Except.pure, Store.tick_tick, Store.tick_zero]
  · have hr : ¬ right i < s.size := by simp only [left, right] at *; omega
    refine ⟨0, i, ?_, by omega, hi, .inl rfl, ge_of_pr hxp hxp (by grind), fun hl' => absurd hl' hl, fun hr' => absurd hr' hr,
      fun hne => absurd rfl hne, fun hl' => absurd hl' hl⟩
    simp [hx, hl, bind, Except.bind, pure, Except.pure, Store.tick_tick, Store.tick_zero]

end MaxQ

namespace Store
/-- every parent/child edge whose parent is at position `≥ lo` is in heap order -/
def EdgesFrom (s : Store P) (lo : Nat) : Prop :=
  ∀ p, 0 < p → p < s.size → lo ≤ parent p → s.Ge (parent p) p

/-- precondition of sift-down at `i`: every edge (from `lo` on) not leaving `i` is in order, and the parent of `i`
dominates the children of `i` -/
def SiftPre (s : Store P) (lo i : Nat) : Prop :=
  (∀ p, 0 < p → p < s.size → lo ≤ parent p → parent p ≠ i → s.Ge (parent p) p) ∧
  (0 < i → lo ≤ parent i → ∀ c, 0 < c → c < s.size → parent c = i → s.Ge (parent i) c)

theorem maxHeap_iff_edgesFrom (s : Store P) : s.MaxHeap ↔ s.EdgesFrom 0 := by
  unfold MaxHeap EdgesFrom Ge
  constructor
  · intro h p hp hps _ a b ha hb; exact h p hp hps a b ha hb
  · intro h p hp hps a b ha hb; exact h p hp hps (Nat.zero_le _) a b ha hb

/-- exchanging `i` with a child `L` that dominates `i` and its sibling moves the sift-down precondition from `i` to `L` -/
theorem SiftPre.swap {s s1 : Store P} {lo i L : Nat} (hpre : s.SiftPre lo i) (hsize : s1.size = s.size)
    (hpr : ∀ p, s1.pr p = s.pr (swapPos i L p)) (hL : L < s.size) (hiL : i < L) (hpL : parent L = i) (geI : s.Ge L i)
    (geL : left i < s.size → s.Ge L (left i)) (geR : right i < s.size → s.Ge L (right i)) : s1.SiftPre lo L := by
  constructor
  · intro p hp hps hlop hppL
    rw [hsize] at hps
    unfold Ge
    rw [hpr, hpr]
    by_cases hpi : p = i
    · subst hpi
      rw [swapPos_left, swapPos_of_ne (Nat.ne_of_lt (parent_lt hp)) hppL]
      exact hpre.2 hp hlop L (by omega) hL hpL
    · by_cases hpL' : p = L
      · subst hpL'
        rw [hpL, swapPos_left, swapPos_right]; exact geI
      · rw [swapPos_of_ne hpi hpL']
        by_cases hppi : parent p = i
        · rw [hppi, swapPos_left]
          rcases (parent_eq_iff hp).1 hppi with rfl | rfl
          · exact geL hps
          · exact geR hps
        · rw [swapPos_of_ne hppi hppL]
          exact hpre.1 p hp hps hlop hppi
  · intro _ hloL c hc hcs hcL
    rw [hsize] at hcs
    unfold Ge
    rw [hpr, hpr, hpL, swapPos_left,
      swapPos_of_ne (by simp only [parent] at hcL; omega) (by simp only [parent] at hcL; omega)]
    have := hpre.1 c hc hcs (by rw [hcL]; omega) (by rw [hcL]; omega)
    rwa [hcL] at this
end Store

namespace MaxQ
open Store

theorem heapifyLoop_spec (fuel : Nat) : ∀ (s : Store P) (lo i : Nat), s.WF → i < s.size → s.size - i ≤ fuel →
    s.SiftPre lo i →
    ∃ s', heapifyLoop fuel s i = .ok s' ∧ s'.WF ∧ s'.map = s.map ∧ s'.size = s.size ∧ s'.EdgesFrom lo ∧
      (∀ p, p < i → s'.heap[p]? = s.heap[p]?) := by
  induction fuel with
  | zero => intro s lo i _ hi hf; omega
  | succ fuel ih =>
    intro s lo i h hi hf hpre
    obtain ⟨k, L, hpick, _, hL, hLc, geI, geL, geR, hstrict, _⟩ := pickLargest_spec h hi
    by_cases hLi : L = i
    · subst hLi
      refine ⟨s.tick k, ?_, tick_TWF.mpr h, rfl, rfl, ?_, fun _ _ => rfl⟩
      · simp only [heapifyLoop, hpick, bind, Except.bind, if_pos, pure, Except.pure]
      · intro p hp hps hlop
        by_cases hpp : parent p = L
        · rw [hpp]
          rcases (parent_eq_iff hp).1 hpp with rfl | rfl
          · exact geL hps
          · exact geR hps
        · exact hpre.1 p hp hps hlop hpp
    · have hLc := hLc.resolve_left hLi
      have hLi' : i < L := hLc.elim (· ▸ left_gt i) (· ▸ right_gt i)
      have hpL : parent L = i := hLc.elim (· ▸ parent_left i) (· ▸ parent_right i)
      obtain ⟨s1, hswap, h1wf, h1map, h1size, _, h1heap⟩ := swap_spec h hi hL
      have h1wf' : s1.WF := by unfold Store.WF; rw [h1size]; exact h1wf
      have pre1 : s1.SiftPre lo L := hpre.swap h1size (swap_pr h1map h1heap) hL hLi' hpL geI geL geR
      obtain ⟨s', hrun, hwf', hmap', hsize', hedges, hframe⟩ :=
        ih (s1.tick k) lo L (tick_TWF.mpr h1wf') (h1size ▸ hL) (by rw [tick_size, h1size]; omega) pre1
      refine ⟨s', ?_, hwf', hmap'.trans h1map, hsize'.trans h1size, hedges, ?_⟩
      · have hswap' : (s.tick k).swap i L = .ok (s1.tick k) := by
          rw [swap_tick, hswap]
        simp only [heapifyLoop, hpick, bind, Except.bind, if_neg hLi, hswap', hrun]
      · intro p hp
        rw [hframe p (by omega)]
        show s1.heap[p]? = _
        rw [h1heap p, swapPos_of_ne (by omega) (by omega)]

end MaxQ
end PQ
