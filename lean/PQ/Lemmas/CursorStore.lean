import PQ.Props.C13
/-!
# The slice cursor run over a store: what `iter` / `into_iter` / `drain` yield, as ENTRIES (helper lemmas for C13 / C16)

`Cursor` (Model/Iter.lean) yields slot numbers.  `iter()`, `into_iter()` and `drain()` are that cursor over the map's entry
vector: `n := s.map.size`, slot `i ↦ s.map[i]`.  The lemmas below make the link explicit: the yielded ENTRIES are pairwise
distinct stored entries, and with at least `len` advancing calls they are a permutation of the stored entries — "every
stored element exactly once" for entries, not just for indices.
-/
namespace PQ
variable {P : Type}

def Cursor.entries (m : IMap P) (calls : List ICall) : List (Item × P) :=
  (slots (Cursor.run (Cursor.new m.size) calls)).filterMap (m[·]?)

theorem list_range_filterMap_getElem? {α : Type} (l : List α) : (List.range l.length).filterMap (l[·]?) = l := by
  induction l with
  | nil => rfl
  | cons a t ih =>
    rw [List.length_cons, List.range_succ_eq_map, List.filterMap_cons]
    simp only [List.getElem?_cons_zero, List.filterMap_map]
    simpa [Function.comp_def] using ih

theorem range_filterMap_getElem? (m : IMap P) : (List.range m.size).filterMap (m[·]?) = m.toList := by
  cases m with
  | mk l => simpa using list_range_filterMap_getElem? l

theorem Cursor.entries_perm (m : IMap P) (calls : List ICall) (h : m.size ≤ adv calls) :
    (Cursor.entries m calls).Perm m.toList := by
  have hp := (C13_cursor_exhaust m.size calls).2.2.1 h
  have := hp.filterMap (m[·]?)
  rwa [range_filterMap_getElem?] at this

theorem Cursor.entries_sub (m : IMap P) (calls : List ICall) :
    (slots (Cursor.run (Cursor.new m.size) calls)).Nodup ∧
    (∀ i ∈ slots (Cursor.run (Cursor.new m.size) calls), i < m.size) ∧
    (Cursor.entries m calls).length = min m.size (adv calls) := by
  have h1 := C13_cursor_nodup m.size calls
  have h2 := (C13_cursor_exhaust m.size calls).1
  refine ⟨h1.1, h1.2, ?_⟩
  unfold Cursor.entries
  have : ∀ l : List Nat, (∀ i ∈ l, i < m.size) → (l.filterMap (m[·]?)).length = l.length := by
    intro l hl
    induction l with
    | nil => rfl
    | cons a t ih =>
      have ha : a < m.size := hl a (by simp)
      simp [ha, ih (fun i hi => hl i (by simp [hi]))]
  rw [this _ h1.2, h2]

theorem Cursor.entries_keys_nodup (m : IMap P) (hm : m.NoDupKeys) (calls : List ICall) :
    ((Cursor.entries m calls).map (·.1.key)).Nodup := by
  have h1 := C13_cursor_nodup m.size calls
  unfold Cursor.entries
  generalize slots (Cursor.run (Cursor.new m.size) calls) = l at h1
  obtain ⟨hnd, hlt⟩ := h1
  induction l with
  | nil => simp
  | cons a t ih =>
    have ha : a < m.size := hlt a (by simp)
    have hnd' := List.nodup_cons.1 hnd
    simp only [List.filterMap_cons, ha, Array.getElem?_eq_getElem, List.map_cons, List.nodup_cons]
    refine ⟨?_, ih hnd'.2 (fun i hi => hlt i (by simp [hi]))⟩
    intro hmem
    obtain ⟨e, he, hk⟩ := List.mem_map.1 hmem
    obtain ⟨j, hj, hje⟩ := List.mem_filterMap.1 he
    have hja : a = j := hm a j m[a] e (by simp [ha]) hje hk.symm
    exact hnd'.1 (hja ▸ hj)

end PQ
