import PQ.Model.Ops
import PQ.Lemmas.PQOps
import PQ.Lemmas.DQOps
import PQ.Lemmas.IterLemmas
import PQ.Lemmas.History
/-!
# Contents of the queues: the abstract specification of every public operation, and its refinement by `step`

The abstract state of a queue is `AbsQ P := Nat → Option (Item × P)` (`Store.abs`).  `specStep` says, for every public
operation of `Ops.lean`, what it returns and what the abstract state is afterwards; `cont_step_total` proves that on a
well-formed queue every legal operation returns `.ok`, keeps the queue well-formed and refines `specStep`.  Only
`Store.WF` is assumed: the contents of a queue do not depend on the heap order (so all of this also holds after a
leaked `iter_mut` guard).

The `iter_mut` part rests on the cursor lemmas of `IterLemmas.lean`, the refinement on the `*_safe` theorems of `PQSafe.lean` /
`DQSafe.lean`, `Tables.lean`, `Bulk.lean`.  Lemma names carry the prefix `cont_`.  Contents:

* `cont_writesAt`, `cont_writesAt_inv`, `cont_iterMutRun_exact`, `c12m_iterOuts`, `cont_step_iterMut` — `iter_mut` programs
  on the slot array: each slot ends up with its old entry rewritten by the writes made through it; every other fact
  about `iter_mut` is read off that.
* `AbsQ`, `specStep`, `cont_step_total`, `cont_step_refines`, `specRun`, `cont_run_total` — specification and refinement.
* `cont_target`, `cont_spec_frame` — frame of the single-element operations.
* `cont_preservesItem`, `cont_spec_item_persists`, `storedItem`, `cont_step_item_persists`, `cont_run_item_persists` —
  the stored item value survives everything that neither rewrites nor removes it.
* `cont_okR`, `cont_ex5`, `cont_exD` — decidable wrappers and concrete queues for the examples of C03/C11/C12.
-/
set_option linter.unusedSectionVars false
namespace PQ
open Store

section IterMut
variable {P : Type}

/-- the entry a write through a yielded `(&mut I, &mut P)` produces (the same function as `IMWrite.apply` of `History.lean`,
whose lemmas about `IMap.applyWrite` are used here) -/
def IMWrite.cont_apply (w : IMWrite P) (e : Item × P) : Item × P :=
  ((match w.payload with | some pl => { e.1 with payload := pl } | none => e.1),
   (match w.prio with | some p => p | none => e.2))

theorem cont_apply_item {w : IMWrite P} (h : w.payload = none) (e : Item × P) : (w.cont_apply e).1 = e.1 := by
  unfold IMWrite.cont_apply; rw [h]

theorem cont_apply_prio {w : IMWrite P} (h : w.prio = none) (e : Item × P) : (w.cont_apply e).2 = e.2 := by
  unfold IMWrite.cont_apply; rw [h]

/-- the map after the write that follows a call whose output was `o` -/
def cont_writeOut (m : IMap P) (o : IOut) (w : IMWrite P) : IMap P :=
  match o with
  | .slot (some i) => IMap.applyWrite m i w
  | _ => m

theorem cont_size_writeOut (m : IMap P) (o : IOut) (w : IMWrite P) : (cont_writeOut m o w).size = m.size := by
  unfold cont_writeOut
  split
  · exact hist_size_applyWrite ..
  · rfl

theorem cont_getElem?_writeOut (m : IMap P) (o : IOut) (w : IMWrite P) (j : Nat) :
    (cont_writeOut m o w)[j]? = (m[j]?).map (fun e => if o = IOut.slot (some j) then w.cont_apply e else e) := by
  unfold cont_writeOut
  split
  · rename_i i
    rw [hist_getElem?_applyWrite]
    by_cases hij : j = i
    · subst hij; simp only [if_true]; rfl
    · have hne : IOut.slot (some i) ≠ IOut.slot (some j) := fun h => hij (Option.some.inj (IOut.slot.inj h)).symm
      simp only [if_neg hij, if_neg hne, Option.map_id']
  · rename_i hne
    have hne' : o ≠ IOut.slot (some j) := fun h => hne j h
    simp only [if_neg hne', Option.map_id']

/-- all the writes of the program that went through slot `j` (those whose call yielded `j`), applied in order -/
def cont_writesAt (j : Nat) : List IOut → List (ICall × IMWrite P) → Item × P → Item × P
  | o :: outs, cw :: prog, e => cont_writesAt j outs prog (if o = IOut.slot (some j) then cw.2.cont_apply e else e)
  | [], _, e => e
  | _ :: _, [], e => e

/-- what every single write made through slot `j` preserves, their composition preserves -/
theorem cont_writesAt_inv (I : Item × P → Prop) (j : Nat) (outs : List IOut) :
    ∀ (prog : List (ICall × IMWrite P)) (e : Item × P),
    (∀ ocw ∈ outs.zip prog, ocw.1 = IOut.slot (some j) → ∀ e, I e → I (ocw.2.2.cont_apply e)) → I e →
    I (cont_writesAt j outs prog e) := by
  induction outs with
  | nil => intro prog e _ he; exact he
  | cons o outs ih =>
    intro prog e hw he
    cases prog with
    | nil => exact he
    | cons cw prog =>
      refine ih prog _ (fun ocw hin => hw ocw (List.mem_cons_of_mem _ hin)) ?_
      by_cases ho : o = IOut.slot (some j)
      · rw [if_pos ho]; exact hw (o, cw) List.mem_cons_self ho e he
      · rw [if_neg ho]; exact he

theorem cont_writesAt_key (j : Nat) (outs : List IOut) (prog : List (ICall × IMWrite P)) (e : Item × P) :
    (cont_writesAt j outs prog e).1.key = e.1.key :=
  cont_writesAt_inv (fun e' => e'.1.key = e.1.key) j outs prog e
    (fun _ _ _ e' h => (hist_apply_key _ e').trans h) rfl

theorem cont_writesAt_of_not_mem {j : Nat} {outs : List IOut} (h : IOut.slot (some j) ∉ outs)
    (prog : List (ICall × IMWrite P)) (e : Item × P) : cont_writesAt j outs prog e = e :=
  cont_writesAt_inv (· = e) j outs prog e (fun _ hin ho => absurd (ho ▸ (List.of_mem_zip hin).1) h) rfl

/-- a slot that was yielded exactly once, by call number `t`, holds the entry written by the `t`-th write -/
theorem cont_writesAt_once (j : Nat) (outs : List IOut) : ∀ (prog : List (ICall × IMWrite P)) (e : Item × P) (t : Nat)
    (cw : ICall × IMWrite P), outs[t]? = some (.slot (some j)) → prog[t]? = some cw →
    (∀ t', outs[t']? = some (.slot (some j)) → t' = t) → cont_writesAt j outs prog e = cw.2.cont_apply e := by
  induction outs with
  | nil => intro prog e t cw ho; cases ho
  | cons o outs ih =>
    intro prog e t cw ho hp huniq
    cases prog with
    | nil => cases hp
    | cons cw0 prog =>
      show cont_writesAt j outs prog (if o = IOut.slot (some j) then cw0.2.cont_apply e else e) = _
      cases t with
      | zero =>
        cases ho; cases hp
        rw [if_pos rfl]
        -- no later call yields `j`
        refine cont_writesAt_of_not_mem (fun hin => ?_) prog _
        obtain ⟨t', ht'⟩ := List.mem_iff_getElem?.1 hin
        exact absurd (huniq (t' + 1) ht') (Nat.succ_ne_zero t')
      | succ t =>
        rw [if_neg (fun h => absurd (huniq 0 (congrArg some h)) (Nat.succ_ne_zero t).symm)]
        exact ih prog e t cw ho hp (fun t' h' => Nat.succ.inj (huniq (t' + 1) h'))

/-- **`iter_mut` programs on the map**: with the cursors in a legal state the run never faults; one output per call; the
map keeps its length, and each slot holds its old entry rewritten by the writes that went through the references
yielded for it, in order -/
theorem cont_iterMutRun_exact (kind : Kind) (n : Nat) (prog : List (ICall × IMWrite P)) :
    ∀ (pit : PIterMut) (dit : DIterMut) (m : IMap P), dit.pos ≤ dit.back → dit.back ≤ n →
    ∃ outs m', iterMutRun kind n prog pit dit m = .ok (outs, m') ∧ outs.length = prog.length ∧ m'.size = m.size ∧
      ∀ j, m'[j]? = (m[j]?).map (cont_writesAt j outs prog) := by
  induction prog with
  | nil =>
    intro pit dit m _ _
    exact ⟨[], m, rfl, rfl, rfl, fun j => by cases m[j]? <;> rfl⟩
  | cons cw rest ih =>
    obtain ⟨c, w⟩ := cw
    intro pit dit m h1 h2
    -- one call of the machine of this kind: the cursors stay legal, and the run continues on the written map
    have hcall : ∃ pit' dit' o, dit'.pos ≤ dit'.back ∧ dit'.back ≤ n ∧ ∀ outs m',
        iterMutRun kind n rest pit' dit' (cont_writeOut m o w) = .ok (outs, m') →
        iterMutRun kind n ((c, w) :: rest) pit dit m = .ok (o :: outs, m') := by
      cases kind with
      | pq => exact ⟨(pit.step n c).1, dit, (pit.step n c).2, h1, h2, fun _ _ hr => bind_of_ok hr _⟩
      | dpq =>
        have hs := DIterMut.step_eq_cursor n dit h1 h2 c
        have hw := DIterMut.cursor_step_wf dit.toCursor n h1 h2 c
        exact ⟨pit, _, _, hw.1, hw.2, fun _ _ hr => by rw [iterMutRun, hs]; exact bind_of_ok hr _⟩
    obtain ⟨pit', dit', o, h1', h2', hcons⟩ := hcall
    obtain ⟨outs, m', hrun, hlen, hsz, hslots⟩ := ih pit' dit' (cont_writeOut m o w) h1' h2'
    refine ⟨o :: outs, m', hcons _ _ hrun, congrArg (· + 1) hlen, hsz.trans (cont_size_writeOut m o w), fun j => ?_⟩
    rw [hslots j, cont_getElem?_writeOut]
    cases m[j]? <;> rfl

/-- what a map whose slots were rewritten by `iter_mut` writes has in common with the old one: every slot keeps its key;
a slot that was never yielded is untouched; a program without payload writes keeps every item, one without priority
writes keeps every priority -/
theorem cont_writesAt_facts {m m' : IMap P} {outs : List IOut} {prog : List (ICall × IMWrite P)}
    (hex : ∀ j, m'[j]? = (m[j]?).map (cont_writesAt j outs prog)) (j : Nat) :
    (m'[j]?).map (·.1.key) = (m[j]?).map (·.1.key) ∧
      (IOut.slot (some j) ∉ outs → m'[j]? = m[j]?) ∧
      ((∀ cw ∈ prog, cw.2.payload = none) → (m'[j]?).map (·.1) = (m[j]?).map (·.1)) ∧
      ((∀ cw ∈ prog, cw.2.prio = none) → (m'[j]?).map (·.2) = (m[j]?).map (·.2)) := by
  rw [hex j]
  cases m[j]? with
  | none => exact ⟨rfl, fun _ => rfl, fun _ => rfl, fun _ => rfl⟩
  | some e =>
    refine ⟨congrArg some (cont_writesAt_key j outs prog e), fun hn => congrArg some (cont_writesAt_of_not_mem hn prog e),
      fun hp => congrArg some ?_, fun hp => congrArg some ?_⟩
    · exact cont_writesAt_inv (fun e' => e'.1 = e.1) j outs prog e
        (fun ocw hin _ e' h => (cont_apply_item (hp ocw.2 (List.of_mem_zip hin).2) e').trans h) rfl
    · exact cont_writesAt_inv (fun e' => e'.2 = e.2) j outs prog e
        (fun ocw hin _ e' h => (cont_apply_prio (hp ocw.2 (List.of_mem_zip hin).2) e').trans h) rfl

theorem cont_iterMutRun (kind : Kind) (n : Nat) (prog : List (ICall × IMWrite P)) :
    ∀ (pit : PIterMut) (dit : DIterMut) (m : IMap P), dit.pos ≤ dit.back → dit.back ≤ n →
    ∃ outs m', iterMutRun kind n prog pit dit m = .ok (outs, m') ∧ outs.length = prog.length ∧ m'.size = m.size ∧
      ∀ j, (m'[j]?).map (·.1.key) = (m[j]?).map (·.1.key) ∧
        (IOut.slot (some j) ∉ outs → m'[j]? = m[j]?) ∧
        ((∀ cw ∈ prog, cw.2.payload = none) → (m'[j]?).map (·.1) = (m[j]?).map (·.1)) ∧
        ((∀ cw ∈ prog, cw.2.prio = none) → (m'[j]?).map (·.2) = (m[j]?).map (·.2)) := by
  intro pit dit m h1 h2
  obtain ⟨outs, m', hrun, hlen, hsz, hex⟩ := cont_iterMutRun_exact kind n prog pit dit m h1 h2
  exact ⟨outs, m', hrun, hlen, hsz, cont_writesAt_facts hex⟩

/-- what the calls of an `iter_mut` program return on the queue `q` (one output per call; `[]` only if the iterator
machine faults, which it never does from its initial state: `cont_iterMutRun`) -/
def c12m_iterOuts (q : Q P) (prog : List (ICall × IMWrite P)) : List IOut :=
  match iterMutRun q.kind q.s.map.size prog PIterMut.new (DIterMut.new q.s.map.size) q.s.map with
  | .ok r => r.1
  | .error _ => []

/-- lookups in two maps whose slots carry the same keys -/
theorem cont_lookup_map_congr {m m' : IMap P} {β : Type} (φ : Item × P → β)
    (hk : ∀ j : Nat, (m'[j]?).map (fun e : Item × P => e.1.key) = (m[j]?).map (fun e : Item × P => e.1.key))
    (hφ : ∀ j : Nat, (m'[j]?).map φ = (m[j]?).map φ) (k : Nat) :
    (IMap.lookup m' k).map φ = (IMap.lookup m k).map φ := by
  rw [IMap.lookup_eq_find?, IMap.lookup_eq_find?, IMap.find?_congr_keys hk k]
  cases IMap.find? m k with
  | none => rfl
  | some i => exact hφ i

end IterMut
end PQ

namespace PQ
open Store
variable {P : Type} [LT P] [DecidableLT P] [LE P] [Std.IsLinearPreorder P] [Std.LawfulOrderLT P]

theorem cont_mem_slots {outs : List IOut} {j : Nat} : j ∈ slots outs ↔ IOut.slot (some j) ∈ outs := by
  induction outs with
  | nil => simp
  | cons o outs ih =>
    cases o with
    | slot oi =>
      cases oi with
      | none => simp [ih]
      | some i => simp [ih]
    | len k => simp [ih]
    | hint lo hi => simp [ih]
    | unsupported => simp [ih]

theorem cont_heapBuildK_safe {kind : Kind} {s : Store P} (h : s.WF) :
    ∃ s', heapBuildK kind s = .ok s' ∧ s'.WF ∧ s'.map = s.map ∧ s'.size = s.size := by
  cases kind with
  | pq => exact MaxQ.heapBuild_safe h
  | dpq =>
    obtain ⟨s', e1, e2, e3, e4, _⟩ := DQ.heapBuild_safe h
    exact ⟨s', e1, e2, e3, e4⟩

/-- **`iter_mut`** (guard dropped or leaked) with any program of calls and writes through the yielded references:
no fault, `WF` kept, the outputs are the iterator machine's, one per call, and every slot holds its old entry rewritten
by the writes that went through the references yielded for it, in order -/
theorem cont_step_iterMut {kind : Kind} {s : Store P} (h : s.WF) (leak : Bool) (prog : List (ICall × IMWrite P)) :
    ∃ s', step ⟨kind, s⟩ (.iterMut leak prog) = .ok (⟨kind, s'⟩, .outs (c12m_iterOuts ⟨kind, s⟩ prog)) ∧ s'.WF ∧
      (c12m_iterOuts ⟨kind, s⟩ prog).length = prog.length ∧ s'.size = s.size ∧
      ∀ j, s'.map[j]? = (s.map[j]?).map (cont_writesAt j (c12m_iterOuts ⟨kind, s⟩ prog) prog) := by
  obtain ⟨outs, m', hrun, hlen, hsz, hex⟩ :=
    cont_iterMutRun_exact kind s.map.size prog PIterMut.new (DIterMut.new s.map.size) s.map (Nat.zero_le _) (Nat.le_refl _)
  have ho : c12m_iterOuts ⟨kind, s⟩ prog = outs := by unfold c12m_iterOuts; rw [hrun]
  rw [ho]
  have hwf1 : ({ s with map := m' } : Store P).WF :=
    wf_of_map_update h hsz (IMap.NoDupKeys.congr_keys h.nodup (fun j => (cont_writesAt_facts hex j).1))
  have hstep := bind_of_ok (β := Q P × Out P) hrun
  cases leak with
  | true => exact ⟨{ s with map := m' }, hstep _, hwf1, hlen, rfl, hex⟩
  | false =>
    obtain ⟨s', e1, e2, e3, e4⟩ := cont_heapBuildK_safe (kind := kind) hwf1
    exact ⟨s', (hstep _).trans (bind_of_ok e1 _), e2, hlen, e4, fun j => by rw [e3]; exact hex j⟩

/-- … and its abstract face: the entry of key `k`, stored in slot `j` -/
theorem cont_step_iterMut_abs {kind : Kind} {s s' : Store P} {leak : Bool} {prog : List (ICall × IMWrite P)}
    {outs : List IOut} (h : s.WF) (hs : step ⟨kind, s⟩ (.iterMut leak prog) = .ok (⟨kind, s'⟩, .outs outs))
    {k j : Nat} (hj : IMap.find? s.map k = some j) :
    s'.abs k = (s.abs k).map (cont_writesAt j outs prog) := by
  obtain ⟨s1, e1, _, _, _, hex⟩ := cont_step_iterMut (kind := kind) h leak prog
  rw [e1] at hs
  cases hs
  show IMap.lookup s'.map k = (IMap.lookup s.map k).map _
  rw [IMap.lookup_eq_find?, IMap.lookup_eq_find?, IMap.find?_congr_keys (fun i => (cont_writesAt_facts hex i).1) k, hj]
  exact hex j

/-- abstract state of a queue of either kind: item key ↦ the stored (item, priority) -/
abbrev AbsQ (P : Type) := Nat → Option (Item × P)

/-- the abstract state holds exactly `n` items -/
def cont_absCard (a : AbsQ P) (n : Nat) : Prop :=
  ∃ l : List Nat, l.Nodup ∧ l.length = n ∧ ∀ k, k ∈ l ↔ (a k).isSome = true

theorem cont_absCard_unique {a : AbsQ P} {n n' : Nat} (h : cont_absCard a n) (h' : cont_absCard a n') : n = n' := by
  obtain ⟨l, hl, rfl, hm⟩ := h
  obtain ⟨l', hl', rfl, hm'⟩ := h'
  exact ((List.perm_ext_iff_of_nodup hl hl').2 (fun k => (hm k).trans (hm' k).symm)).length_eq

theorem cont_absCard_of_WF {s : Store P} (h : s.WF) : cont_absCard s.abs s.size := by
  refine ⟨s.map.toList.map (·.1.key), IMap.noDupKeys_iff_nodup.1 h.nodup, by simp [h.map_size], fun k => ?_⟩
  show _ ↔ (IMap.lookup s.map k).isSome = true
  rw [IMap.lookup_isSome_eq_contains, IMap.contains_eq_true_iff, List.mem_map]
  constructor
  · rintro ⟨e, he, hk⟩
    obtain ⟨i, hi⟩ := List.mem_iff_getElem?.1 he
    exact ⟨i, e, by rw [← Array.getElem?_toList]; exact hi, hk⟩
  · rintro ⟨i, e, he, hk⟩
    exact ⟨e, List.mem_iff_getElem?.2 ⟨i, by rw [Array.getElem?_toList]; exact he⟩, hk⟩

/-- the other kind -/
def Kind.cont_flip : Kind → Kind
  | .pq => .dpq
  | .dpq => .pq

/-- the kind of the queue after an operation (only `From<other kind>` changes it) -/
def cont_kindAfter (kind : Kind) : Op P → Kind
  | .convert => kind.cont_flip
  | _ => kind

/-- "the queue is empty and reports `None`" / "some stored pair is reported and exactly its key is removed" -/
def specPop (a : AbsQ P) (o : Out P) (a' : AbsQ P) : Prop :=
  ((∀ k, a k = none) ∧ o = .entry none ∧ a' = a) ∨
  ∃ e, a e.1.key = some e ∧ o = .entry (some e) ∧ a' = absRemove a e.1.key

/-- the predicate sees some stored pair `e` and may rewrite it; *yes*: the rewritten pair is returned and `e`'s key
removed; *no*: `None` is returned and the rewritten pair stays -/
def specPopIf (f : Item → P → Bool × Item × P) (a : AbsQ P) (o : Out P) (a' : AbsQ P) : Prop :=
  ((∀ k, a k = none) ∧ o = .entry none ∧ a' = a) ∨
  ∃ e, a e.1.key = some e ∧
    (((f e.1 e.2).1 = true ∧ o = .entry (some ((f e.1 e.2).2.1, (f e.1 e.2).2.2)) ∧ a' = absRemove a e.1.key) ∨
     ((f e.1 e.2).1 = false ∧ o = .entry none ∧ a' = absSet a e.1.key ((f e.1 e.2).2.1, (f e.1 e.2).2.2)))

/-- some stored pair is reported and its item rewritten by the caller's write -/
def specPeekMut (w : Item → Item) (a : AbsQ P) (o : Out P) (a' : AbsQ P) : Prop :=
  ((∀ k, a k = none) ∧ o = .entry none ∧ a' = a) ∨
  ∃ e, a e.1.key = some e ∧ o = .entry (some e) ∧ a' = absSet a e.1.key (w e.1, e.2)

/-- the `iter_mut` clause: one output per call; the key set is unchanged and every entry keeps its key; at most as many
entries change as slots were yielded; without payload writes every item stays, without priority writes every
priority stays -/
def specIterMut (prog : List (ICall × IMWrite P)) (a : AbsQ P) (o : Out P) (a' : AbsQ P) : Prop :=
  ∃ outs, o = .outs outs ∧ outs.length = prog.length ∧
    (∀ k, (a' k).map (·.1.key) = (a k).map (·.1.key)) ∧
    (∃ changed : List Nat, changed.length ≤ (slots outs).length ∧ ∀ k, k ∉ changed → a' k = a k) ∧
    ((∀ cw ∈ prog, cw.2.payload = none) → ∀ k, (a' k).map (·.1) = (a k).map (·.1)) ∧
    ((∀ cw ∈ prog, cw.2.prio = none) → ∀ k, (a' k).map (·.2) = (a k).map (·.2))

/-- **The abstract specification of every public operation**: `specStep kind a op o a'` — on a queue of kind `kind`
whose contents are `a`, operation `op` may return `o` and leave the contents `a'`.  It is a relation only because
WHICH element the pop family addresses is left open here (that is C01/C02); everything else is functional. -/
def specStep (kind : Kind) (a : AbsQ P) (op : Op P) (o : Out P) (a' : AbsQ P) : Prop :=
  match op with
  | .push it p => o = .prio ((a it.key).map (·.2)) ∧ a' = absPush a it p
  | .pushIncrease it p =>
    (a it.key = none → o = .prio none ∧ a' = absPush a it p) ∧
    (∀ e, a it.key = some e → e.2 < p → o = .prio (some e.2) ∧ a' = absPush a it p) ∧
    (∀ e, a it.key = some e → ¬ e.2 < p → o = .prio (some p) ∧ a' = a)
  | .pushDecrease it p =>
    (a it.key = none → o = .prio none ∧ a' = absPush a it p) ∧
    (∀ e, a it.key = some e → p < e.2 → o = .prio (some e.2) ∧ a' = absPush a it p) ∧
    (∀ e, a it.key = some e → ¬ p < e.2 → o = .prio (some p) ∧ a' = a)
  | .changePriority k p =>
    o = .prio ((a k).map (·.2)) ∧ a' = (match a k with | none => a | some e => absSet a k (e.1, p))
  | .changePriorityBy k g =>
    o = .bool (a k).isSome ∧ a' = (match a k with | none => a | some e => absSet a k (e.1, g e.2))
  | .remove k => o = .entry (a k) ∧ a' = (match a k with | none => a | some _ => absRemove a k)
  | .getMut k w => o = .entry (a k) ∧ a' = (match a k with | none => a | some e => absSet a k (w e.1, e.2))
  | .popFront => specPop a o a'
  | .popBack => (match kind with | .pq => o = .unit ∧ a' = a | .dpq => specPop a o a')
  | .popFrontIf f => specPopIf f a o a'
  | .popBackIf f => (match kind with | .pq => o = .unit ∧ a' = a | .dpq => specPopIf f a o a')
  | .peekFrontMut w => specPeekMut w a o a'
  | .peekBackMut w => (match kind with | .pq => o = .unit ∧ a' = a | .dpq => specPeekMut w a o a')
  | .retainMut f => o = .unit ∧ a' = (fun k => (a k).bind (IMap.retainStep f))
  | .iterMut _ prog => specIterMut prog a o a'
  | .extend _ xs => o = .unit ∧ a' = xs.foldl Store.absStep a
  | .append oth =>
    o = .other 0 0 0 0 ∧ ∀ n, cont_absCard a n → ∀ k, a' k =
      if oth.size > n then (oth.abs k).or (a k) else (a k).or (oth.abs k)
  | .fromVec xs => o = .unit ∧ ∀ k, a' k = xs.toList.find? (fun e => e.1.key == k)
  | .fromIter _ xs => o = .unit ∧ ∀ k, a' k = xs.toList.reverse.find? (fun e => e.1.key == k)
  | .deserialize _ xs => o = .unit ∧ a' = xs.foldl Store.absStep (fun _ => none)
  | .convert => o = .unit ∧ a' = a
  | .clear => o = .unit ∧ a' = (fun _ => none)
  | .drain =>
    ∃ es, o = .entries es ∧ a' = (fun _ => none) ∧ (∀ e, e ∈ es ↔ a e.1.key = some e) ∧ (es.map (·.1.key)).Nodup
  | .capacityOp => o = .unit ∧ a' = a

/-! ## Refinement: every legal operation on a well-formed queue is total and meets `specStep`

`PQSafe.lean` states the binary heap's operations case by case (absent / present, empty / non-empty), `DQSafe.lean` the
min-max heap's with one existential result; the lemmas below bring either shape into the one of the `specStep` clause. -/

/-- what `specIterMut` says of the contents, from the slots -/
theorem cont_iterMut_abs {s s' : Store P} {prog : List (ICall × IMWrite P)} {outs : List IOut}
    (hex : ∀ j, s'.map[j]? = (s.map[j]?).map (cont_writesAt j outs prog)) :
    (∀ k, (s'.abs k).map (·.1.key) = (s.abs k).map (·.1.key)) ∧
    (∃ changed : List Nat, changed.length ≤ (slots outs).length ∧ ∀ k, k ∉ changed → s'.abs k = s.abs k) ∧
    ((∀ cw ∈ prog, cw.2.payload = none) → ∀ k, (s'.abs k).map (·.1) = (s.abs k).map (·.1)) ∧
    ((∀ cw ∈ prog, cw.2.prio = none) → ∀ k, (s'.abs k).map (·.2) = (s.abs k).map (·.2)) := by
  have hfacts := cont_writesAt_facts hex
  have hkeys : ∀ j : Nat, (s'.map[j]?).map (fun e : Item × P => e.1.key) = (s.map[j]?).map (fun e : Item × P => e.1.key) :=
    fun j => (hfacts j).1
  refine ⟨cont_lookup_map_congr _ hkeys hkeys, ?_, fun hp => cont_lookup_map_congr _ hkeys (fun j => (hfacts j).2.2.1 hp),
    fun hp => cont_lookup_map_congr _ hkeys (fun j => (hfacts j).2.2.2 hp)⟩
  refine ⟨(slots outs).filterMap (fun i => (s.map[i]?).map (·.1.key)), List.length_filterMap_le _ _, fun k hk => ?_⟩
  show IMap.lookup s'.map k = IMap.lookup s.map k
  rw [IMap.lookup_eq_find?, IMap.lookup_eq_find?, IMap.find?_congr_keys hkeys k]
  cases hf : IMap.find? s.map k with
  | none => rfl
  | some i =>
    obtain ⟨e, he, hek⟩ := IMap.find?_getElem? hf
    exact (hfacts i).2.1 (fun hin => hk (List.mem_filterMap.2 ⟨i, cont_mem_slots.2 hin, by rw [he]; simp [hek]⟩))

theorem cont_mem_toList_iff {s : Store P} (h : s.WF) (e : Item × P) : e ∈ s.map.toList ↔ s.abs e.1.key = some e := by
  rw [← mem_iff_lookup h]
  unfold Store.Mem
  rw [List.mem_iff_getElem?]
  constructor
  · rintro ⟨i, hi⟩; exact ⟨i, by rw [← Array.getElem?_toList]; exact hi⟩
  · rintro ⟨i, hi⟩; exact ⟨i, by rw [Array.getElem?_toList]; exact hi⟩

theorem cont_absRemove_absent {f : Nat → Option (Item × P)} {k : Nat} (h : f k = none) : absRemove f k = f := by
  funext k'
  unfold absRemove
  by_cases hk : k' = k
  · subst hk; rw [if_pos rfl, h]
  · rw [if_neg hk]

theorem cont_peek_stored {s : Store P} (h : s.WF) {e : Item × P} (hp : MaxQ.peek s = some e) : s.abs e.1.key = some e := by
  rcases Nat.eq_zero_or_pos s.size with hz | hpos
  · rw [(MaxQ.peek_safe h).1 hz] at hp; cases hp
  · obtain ⟨e', he', _, _, ha⟩ := (MaxQ.peek_safe h).2 hpos
    rw [he'] at hp; cases hp; exact ha

/-- `push_increase` / `push_decrease` (`c` tests the direction, `I` is the invariant kept): the three cases as
`PQSafe.lean` / `PQOps.lean` / `DQOps.lean` state them, with one existential result as `DQSafe.lean` states them -/
theorem cont_pushDir_join {I : Store P → Prop} {c : P → Prop} {x : R (Store P × Option P)} {s : Store P} {it : Item} {p : P}
    (hI : I s.tick)
    (h0 : s.abs it.key = none → ∃ s', x = .ok (s', none) ∧ I s' ∧ s'.abs = absPush s.abs it p ∧ s'.size = s.size + 1)
    (h1 : ∀ e, s.abs it.key = some e → c e.2 →
      ∃ s', x = .ok (s', some e.2) ∧ I s' ∧ s'.abs = absPush s.abs it p ∧ s'.size = s.size)
    (h2 : ∀ e, s.abs it.key = some e → ¬ c e.2 → x = .ok (s.tick, some p)) :
    ∃ s' r, x = .ok (s', r) ∧ I s' ∧
      (s.abs it.key = none → r = none ∧ s'.abs = absPush s.abs it p ∧ s'.size = s.size + 1) ∧
      (∀ e, s.abs it.key = some e →
        (c e.2 → r = some e.2 ∧ s'.abs = absPush s.abs it p ∧ s'.size = s.size) ∧ (¬ c e.2 → s' = s.tick ∧ r = some p)) := by
  cases ha : s.abs it.key with
  | none =>
    obtain ⟨s', e1, e2, e3⟩ := h0 ha
    exact ⟨s', none, e1, e2, fun _ => ⟨rfl, e3⟩, fun e he => (by cases he)⟩
  | some e0 =>
    by_cases hc : c e0.2
    · obtain ⟨s', e1, e2, e3⟩ := h1 e0 ha hc
      refine ⟨s', _, e1, e2, fun hn => (by cases hn), fun e he => ?_⟩
      cases he; exact ⟨fun _ => ⟨rfl, e3⟩, fun hn => absurd hc hn⟩
    · refine ⟨s.tick, _, h2 e0 ha hc, hI, fun hn => (by cases hn), fun e he => ?_⟩
      cases he; exact ⟨fun hc' => absurd hc' hc, fun _ => ⟨rfl, rfl⟩⟩

/-- … and from there the clause of `specStep` -/
theorem cont_pushDir_spec {c : P → Prop} {s s' : Store P} {r : Option P} {it : Item} {p : P}
    (h0 : s.abs it.key = none → r = none ∧ s'.abs = absPush s.abs it p ∧ s'.size = s.size + 1)
    (h1 : ∀ e, s.abs it.key = some e →
      (c e.2 → r = some e.2 ∧ s'.abs = absPush s.abs it p ∧ s'.size = s.size) ∧ (¬ c e.2 → s' = s.tick ∧ r = some p)) :
    (s.abs it.key = none → Out.prio r = .prio none ∧ s'.abs = absPush s.abs it p) ∧
    (∀ e, s.abs it.key = some e → c e.2 → Out.prio r = .prio (some e.2) ∧ s'.abs = absPush s.abs it p) ∧
    (∀ e, s.abs it.key = some e → ¬ c e.2 → Out.prio r = .prio (some p) ∧ s'.abs = s.abs) := by
  refine ⟨fun ha => ?_, fun e ha hc => ?_, fun e ha hc => ?_⟩
  · obtain ⟨rfl, b, _⟩ := h0 ha; exact ⟨rfl, b⟩
  · obtain ⟨rfl, b, _⟩ := (h1 e ha).1 hc; exact ⟨rfl, b⟩
  · obtain ⟨rfl, rfl⟩ := (h1 e ha).2 hc; exact ⟨rfl, rfl⟩

/-- the clause "nothing if `k` is absent, else `u` of its entry", from the two cases -/
theorem cont_spec_keyed {a a' : AbsQ P} {k : Nat} {u : Item × P → AbsQ P} (h0 : a k = none → a' = a)
    (h1 : ∀ e, a k = some e → a' = u e) : a' = (match a k with | none => a | some e => u e) := by
  cases ha : a k with
  | none => exact h0 ha
  | some e => exact h1 e ha

/-- the clause of `pop` / `peek_mut` (`U e`: the contents after the entry `e` was reported): empty queue, or a stored
entry -/
theorem cont_specEntry_of {s s' : Store P} (h : s.WF) {r : Option (Item × P)} {U : Item × P → AbsQ P}
    (h0 : s.size = 0 → s' = s ∧ r = none)
    (h1 : 0 < s.size → ∃ e, r = some e ∧ s.abs e.1.key = some e ∧ s'.abs = U e) :
    ((∀ k, s.abs k = none) ∧ Out.entry r = .entry none ∧ s'.abs = s.abs) ∨
      ∃ e, s.abs e.1.key = some e ∧ Out.entry r = .entry (some e) ∧ s'.abs = U e := by
  rcases Nat.eq_zero_or_pos s.size with hz | hpos
  · obtain ⟨rfl, rfl⟩ := h0 hz
    exact .inl ⟨DQ.abs_none_of_size_zero h hz, rfl, rfl⟩
  · obtain ⟨e, rfl, a1, a2⟩ := h1 hpos
    exact .inr ⟨e, a1, rfl, a2⟩

theorem cont_specPopIf_of {s s' : Store P} (h : s.WF) (f : Item → P → Bool × Item × P) {r : Option (Item × P)}
    (h0 : s.size = 0 → s' = s ∧ r = none)
    (h1 : 0 < s.size → ∃ e, s.abs e.1.key = some e ∧
        ((f e.1 e.2).1 = true → r = some ((f e.1 e.2).2.1, (f e.1 e.2).2.2) ∧ s'.abs = absRemove s.abs e.1.key) ∧
        ((f e.1 e.2).1 = false → r = none ∧ s'.abs = absSet s.abs e.1.key ((f e.1 e.2).2.1, (f e.1 e.2).2.2))) :
    specPopIf f s.abs (.entry r) s'.abs := by
  rcases Nat.eq_zero_or_pos s.size with hz | hpos
  · obtain ⟨rfl, rfl⟩ := h0 hz
    exact .inl ⟨DQ.abs_none_of_size_zero h hz, rfl, rfl⟩
  · obtain ⟨e, a1, a2, a3⟩ := h1 hpos
    refine .inr ⟨e, a1, ?_⟩
    cases hr : (f e.1 e.2).1 with
    | true => obtain ⟨rfl, b⟩ := a2 hr; exact .inl ⟨rfl, rfl, b⟩
    | false => obtain ⟨rfl, b⟩ := a3 hr; exact .inr ⟨rfl, rfl, b⟩

/-- `get_mut` with a key-preserving write: the stored pair is handed out and its item rewritten -/
theorem cont_getMutWrite {s : Store P} (h : s.WF) (k : Nat) {w : Item → Item} (hw : ∀ it, (w it).key = it.key) :
    (s.getMutWrite k w).1.WF ∧ (s.getMutWrite k w).2 = s.abs k ∧
      (s.getMutWrite k w).1.abs = (match s.abs k with | none => s.abs | some e => absSet s.abs k (w e.1, e.2)) := by
  cases ha : s.abs k with
  | none => rw [getMutWrite_spec_none ha w]; exact ⟨h, rfl, rfl⟩
  | some e =>
    obtain ⟨s', pos, e1, _, _, e2, _, _, _, _, _, e3⟩ := getMutWrite_spec_some h ha w (hw e.1)
    rw [e1]; exact ⟨e2, rfl, funext e3⟩

/-- **Every legal public operation on a well-formed queue of either kind returns `.ok`, keeps the queue
well-formed, and its result and the new contents are the ones `specStep` prescribes** -/
theorem cont_step_total {kind : Kind} {s : Store P} (h : s.WF) (op : Op P) (hl : op.Legal) :
    ∃ s' o, step ⟨kind, s⟩ op = .ok (⟨cont_kindAfter kind op, s'⟩, o) ∧ s'.WF ∧ specStep kind s.abs op o s'.abs := by
  have hempty : s.size = 0 → (∀ k, s.abs k = none) ∧ (Out.entry none : Out P) = .entry none ∧ s.abs = s.abs :=
    fun hz => ⟨DQ.abs_none_of_size_zero h hz, rfl, rfl⟩
  -- `step ⟨kind, s⟩ op` unfolds to `(the operation of the kind) >>= …`: `bind_of_ok` turns the operation's result into the step's
  cases op with
  | push it p =>
    cases kind with
    | pq =>
      obtain ⟨s', e1, e2, e3, _⟩ := MaxQ.push_safe h it p
      exact ⟨s', _, bind_of_ok e1 _, e2, rfl, e3⟩
    | dpq =>
      obtain ⟨s', e1, e2, e3, _⟩ := DQ.push_safe h it p
      exact ⟨s', _, bind_of_ok e1 _, e2, rfl, e3⟩
  | pushIncrease it p =>
    cases kind with
    | pq =>
      obtain ⟨h0, h1, h2⟩ := MaxQ.pushIncrease_safe h it p
      obtain ⟨s', r, e1, e2, e3, e4⟩ := cont_pushDir_join (c := (· < p)) (tick_TWF.mpr h) h0 h1 h2
      exact ⟨s', _, bind_of_ok e1 _, e2, cont_pushDir_spec (c := (· < p)) e3 e4⟩
    | dpq =>
      obtain ⟨s', r, e1, e2, e3, e4⟩ := DQ.pushIncrease_safe h it p
      exact ⟨s', _, bind_of_ok e1 _, e2, cont_pushDir_spec (c := (· < p)) e3 e4⟩
  | pushDecrease it p =>
    cases kind with
    | pq =>
      obtain ⟨h0, h1, h2⟩ := MaxQ.pushDecrease_safe h it p
      obtain ⟨s', r, e1, e2, e3, e4⟩ := cont_pushDir_join (c := (p < ·)) (tick_TWF.mpr h) h0 h1 h2
      exact ⟨s', _, bind_of_ok e1 _, e2, cont_pushDir_spec (c := (p < ·)) e3 e4⟩
    | dpq =>
      obtain ⟨s', r, e1, e2, e3, e4⟩ := DQ.pushDecrease_safe h it p
      exact ⟨s', _, bind_of_ok e1 _, e2, cont_pushDir_spec (c := (p < ·)) e3 e4⟩
  | changePriority k p =>
    cases kind with
    | pq =>
      obtain ⟨h0, h1⟩ := MaxQ.changePriority_safe h k p
      cases ha : s.abs k with
      | none => exact ⟨s, _, bind_of_ok (h0 ha) _, h, by rw [ha]; rfl, by rw [ha]⟩
      | some e =>
        obtain ⟨s', e1, e2, e3, _⟩ := h1 e ha
        exact ⟨s', _, bind_of_ok e1 _, e2, by rw [ha]; rfl, by rw [ha]; exact e3⟩
    | dpq =>
      obtain ⟨s', e1, e2, _, e3, e4⟩ := DQ.changePriority_safe h k p
      exact ⟨s', _, bind_of_ok e1 _, e2, rfl, cont_spec_keyed (fun ha => congrArg Store.abs (e3 ha)) e4⟩
  | changePriorityBy k g =>
    cases kind with
    | pq =>
      obtain ⟨h0, h1⟩ := MaxQ.changePriorityBy_safe h k g
      cases ha : s.abs k with
      | none => exact ⟨s, _, bind_of_ok (h0 ha) _, h, by rw [ha]; rfl, by rw [ha]⟩
      | some e =>
        obtain ⟨s', e1, e2, e3, _⟩ := h1 e ha
        exact ⟨s', _, bind_of_ok e1 _, e2, by rw [ha]; rfl, by rw [ha]; exact e3⟩
    | dpq =>
      obtain ⟨s', e1, e2, _, e3, e4⟩ := DQ.changePriorityBy_safe h k g
      exact ⟨s', _, bind_of_ok e1 _, e2, rfl, cont_spec_keyed (fun ha => congrArg Store.abs (e3 ha)) e4⟩
  | remove k =>
    cases kind with
    | pq =>
      obtain ⟨h0, h1⟩ := MaxQ.remove_safe h k
      cases ha : s.abs k with
      | none => exact ⟨s, _, bind_of_ok (h0 ha) _, h, by rw [ha], by rw [ha]⟩
      | some e =>
        obtain ⟨s', e1, e2, e3, _⟩ := h1 e ha
        exact ⟨s', _, bind_of_ok e1 _, e2, by rw [ha], by rw [ha]; exact e3⟩
    | dpq =>
      obtain ⟨s', e1, e2, e3, _, _⟩ := DQ.remove_safe h k
      exact ⟨s', _, bind_of_ok e1 _, e2, rfl,
        cont_spec_keyed (fun ha => e3.trans (cont_absRemove_absent ha)) (fun _ _ => e3)⟩
  | getMut k w =>
    obtain ⟨e1, e2, e3⟩ := cont_getMutWrite h k hl
    exact ⟨(s.getMutWrite k w).1, .entry (s.getMutWrite k w).2, rfl, e1, congrArg Out.entry e2, e3⟩
  | popFront =>
    cases kind with
    | pq =>
      obtain ⟨h0, h1⟩ := MaxQ.pop_safe h
      rcases Nat.eq_zero_or_pos s.size with hz | hpos
      · exact ⟨s, _, bind_of_ok (h0 hz) _, h, Or.inl (hempty hz)⟩
      · obtain ⟨s', e, e1, e2, e3, e4, _⟩ := h1 hpos
        exact ⟨s', _, bind_of_ok e1 _, e3, Or.inr ⟨e, cont_peek_stored h e2, rfl, e4⟩⟩
    | dpq =>
      obtain ⟨s', r, e1, e2, _, e3, e4⟩ := DQ.popMin_safe h
      exact ⟨s', _, bind_of_ok e1 _, e2,
        cont_specEntry_of h e3 (fun hp => let ⟨e, a1, a2, a3, _⟩ := e4 hp; ⟨e, a1, a2, a3⟩)⟩
  | popBack =>
    cases kind with
    | pq => exact ⟨s, _, rfl, h, rfl, rfl⟩
    | dpq =>
      obtain ⟨s', r, e1, e2, e3, e4⟩ := DQ.popMax_safe h
      exact ⟨s', _, bind_of_ok e1 _, e2,
        cont_specEntry_of h e3 (fun hp => let ⟨_, e, a1, _, a2, a3, _⟩ := e4 hp; ⟨e, a1, a2, a3⟩)⟩
  | popFrontIf f =>
    cases kind with
    | pq =>
      obtain ⟨h0, h1⟩ := MaxQ.popIf_safe h f hl
      rcases Nat.eq_zero_or_pos s.size with hz | hpos
      · exact ⟨s, _, bind_of_ok (h0 hz) _, h, Or.inl (hempty hz)⟩
      · obtain ⟨e, e2, ht, hfl⟩ := h1 hpos
        cases hr : (f e.1 e.2).1 with
        | true =>
          obtain ⟨s', e1, e3, e4, _⟩ := ht hr
          exact ⟨s', _, bind_of_ok e1 _, e3, Or.inr ⟨e, cont_peek_stored h e2, Or.inl ⟨hr, rfl, e4⟩⟩⟩
        | false =>
          obtain ⟨s', e1, e3, e4, _⟩ := hfl hr
          exact ⟨s', _, bind_of_ok e1 _, e3, Or.inr ⟨e, cont_peek_stored h e2, Or.inr ⟨hr, rfl, e4⟩⟩⟩
    | dpq =>
      obtain ⟨s', r, e1, e2, e3, e4⟩ := DQ.popMinIf_safe h f hl
      exact ⟨s', _, bind_of_ok e1 _, e2, cont_specPopIf_of h f e3 (fun hp =>
        let ⟨e, _, a2, a3, a4⟩ := e4 hp
        ⟨e, a2, fun hr => ⟨(a3 hr).1, (a3 hr).2.1⟩, fun hr => ⟨(a4 hr).1, (a4 hr).2.1⟩⟩)⟩
  | popBackIf f =>
    cases kind with
    | pq => exact ⟨s, _, rfl, h, rfl, rfl⟩
    | dpq =>
      obtain ⟨s', r, e1, e2, e3, e4⟩ := DQ.popMaxIf_safe h f hl
      exact ⟨s', _, bind_of_ok e1 _, e2, cont_specPopIf_of h f e3 (fun hp =>
        let ⟨_, e, _, a2, a3, a4⟩ := e4 hp
        ⟨e, a2, fun hr => ⟨(a3 hr).1, (a3 hr).2.1⟩, fun hr => ⟨(a4 hr).1, (a4 hr).2.1⟩⟩)⟩
  | peekFrontMut w =>
    cases kind with
    | pq =>
      obtain ⟨h0, h1⟩ := MaxQ.peekMutWrite_safe h w hl
      rcases Nat.eq_zero_or_pos s.size with hz | hpos
      · exact ⟨s, _, bind_of_ok (h0 hz) _, h, Or.inl (hempty hz)⟩
      · obtain ⟨s', e, e1, e2, e3, _, _, _, _, _, e4⟩ := h1 hpos
        exact ⟨s', _, bind_of_ok e1 _, e3, Or.inr ⟨e, cont_peek_stored h e2, rfl, e4⟩⟩
    | dpq =>
      obtain ⟨s', r, e1, e2, _, _, e3, e4⟩ := DQ.peekMinMutWrite_safe h w hl
      exact ⟨s', _, bind_of_ok e1 _, e2, cont_specEntry_of h e3 e4⟩
  | peekBackMut w =>
    cases kind with
    | pq => exact ⟨s, _, rfl, h, rfl, rfl⟩
    | dpq =>
      obtain ⟨s', r, e1, e2, _, e3, e4⟩ := DQ.peekMaxMutWrite_safe h w hl
      exact ⟨s', _, bind_of_ok e1 _, e2,
        cont_specEntry_of h e3 (fun hp => let ⟨_, e, a1, _, a2, a3⟩ := e4 hp; ⟨e, a1, a2, a3⟩)⟩
  | retainMut f =>
    cases kind with
    | pq =>
      obtain ⟨s', e1, e2, e3, _⟩ := MaxQ.retainMut_safe h f hl
      exact ⟨s', _, bind_of_ok e1 _, e2, rfl, funext e3⟩
    | dpq =>
      obtain ⟨s', e1, e2, _, e3, _⟩ := DQ.retainMut_safe h f hl
      exact ⟨s', _, bind_of_ok e1 _, e2, rfl, e3⟩
  | iterMut leak prog =>
    obtain ⟨s', e1, e2, e3, _, hex⟩ := cont_step_iterMut (kind := kind) h leak prog
    exact ⟨s', _, e1, e2, _, rfl, e3, cont_iterMut_abs hex⟩
  | extend lo xs =>
    have hlo : lo < capLimit := Nat.lt_of_le_of_lt hl.1 hl.2
    cases kind with
    | pq =>
      obtain ⟨s', e1, e2, e3⟩ := MaxQ.extend_safe h lo xs hlo
      exact ⟨s', _, bind_of_ok e1 _, e2, rfl, e3⟩
    | dpq =>
      obtain ⟨s', e1, e2, e3⟩ := DQ.extend_safe h lo xs hlo
      exact ⟨s', _, bind_of_ok e1 _, e2, rfl, e3⟩
  | append oth =>
    -- the specification measures the receiver by the number of keys of its contents, the crate by `len`
    have hcard : ∀ {s' : Store P}, (∀ k, s'.abs k =
        if oth.size > s.size then (oth.abs k).or (s.abs k) else (s.abs k).or (oth.abs k)) →
        ∀ n, cont_absCard s.abs n → ∀ k, s'.abs k =
          if oth.size > n then (oth.abs k).or (s.abs k) else (s.abs k).or (oth.abs k) :=
      fun e3 n hn k => by rw [cont_absCard_unique hn (cont_absCard_of_WF h)]; exact e3 k
    cases kind with
    | pq =>
      obtain ⟨s', o', e1, e2, _, e5, e6, e7, e8, e3⟩ := MaxQ.append_safe h (hl : oth.WF)
      exact ⟨s', _, bind_of_ok e1 _, e2, by rw [e5, e6, e7, e8]; rfl, hcard e3⟩
    | dpq =>
      obtain ⟨s', o', e1, e2, _, e4, _, e6, _, e3⟩ := DQ.append_safe h (hl : oth.WF)
      exact ⟨s', _, bind_of_ok e1 _, e2, by rw [e4.map_size, e4.heap_size, e4.qp_size, e6], hcard e3⟩
  | fromVec xs =>
    cases kind with
    | pq =>
      obtain ⟨s', e1, e2, e3⟩ := MaxQ.fromVec_safe xs
      exact ⟨s', _, bind_of_ok e1 _, e2, rfl, e3⟩
    | dpq =>
      obtain ⟨s', e1, e2, _, e3, _⟩ := DQ.fromVec_safe xs
      exact ⟨s', _, bind_of_ok e1 _, e2, rfl, e3⟩
  | fromIter lo xs =>
    have hlo : lo < capLimit := Nat.lt_of_le_of_lt hl.1 hl.2
    cases kind with
    | pq =>
      obtain ⟨s', e1, e2, e3⟩ := MaxQ.fromIter_safe lo xs hlo
      exact ⟨s', _, bind_of_ok e1 _, e2, rfl, e3⟩
    | dpq =>
      obtain ⟨s', e1, e2, _, e3, _⟩ := DQ.fromIter_safe lo xs hlo
      exact ⟨s', _, bind_of_ok e1 _, e2, rfl, e3⟩
  | deserialize hint xs =>
    cases kind with
    | pq =>
      obtain ⟨s', e1, e2, e3, _⟩ := MaxQ.deserialize_safe hint xs
      exact ⟨s', _, bind_of_ok e1 _, e2, rfl, e3⟩
    | dpq =>
      obtain ⟨s', e1, e2, _, e3, _⟩ := DQ.deserialize_safe hint xs
      exact ⟨s', _, bind_of_ok e1 _, e2, rfl, e3⟩
  | convert =>
    cases kind with
    | pq =>
      obtain ⟨s', e1, e2, _, e3, _⟩ := DQ.ofStore_safe h
      exact ⟨s', _, bind_of_ok e1 _, e2, rfl, e3⟩
    | dpq =>
      obtain ⟨s', e1, e2, e3, _⟩ := MaxQ.ofStore_safe h
      exact ⟨s', _, bind_of_ok e1 _, e2, rfl, congrArg IMap.lookup e3⟩
  | clear => exact ⟨s.clear, _, rfl, wf_clear s, rfl, rfl⟩
  | drain =>
    exact ⟨s.drain.2, _, rfl, wf_drain s, s.map.toList, rfl, rfl, cont_mem_toList_iff h,
      IMap.noDupKeys_iff_nodup.1 h.nodup⟩
  | capacityOp => exact ⟨s, _, rfl, h, rfl, rfl⟩

/-- `cont_step_total` for a queue given as a record -/
theorem cont_step_total' {q : Q P} (h : q.s.WF) (op : Op P) (hl : op.Legal) :
    ∃ q' o, step q op = .ok (q', o) ∧ q'.s.WF ∧ q'.kind = cont_kindAfter q.kind op ∧
      specStep q.kind q.s.abs op o q'.s.abs := by
  obtain ⟨kind, s⟩ := q
  obtain ⟨s', o, e1, e2, e3⟩ := cont_step_total (kind := kind) h op hl
  exact ⟨_, o, e1, e2, rfl, e3⟩

/-- the form used by the property files: whatever `step` returned meets the specification -/
theorem cont_step_refines {q q' : Q P} {op : Op P} {o : Out P} (h : q.s.WF) (hl : op.Legal)
    (hs : step q op = .ok (q', o)) :
    q'.s.WF ∧ q'.kind = cont_kindAfter q.kind op ∧ specStep q.kind q.s.abs op o q'.s.abs := by
  obtain ⟨q1, o1, e1, e2, e3, e4⟩ := cont_step_total' h op hl
  rw [e1] at hs
  cases hs
  exact ⟨e2, e3, e4⟩

/-- an operation of the far end (`pop_max`, `pop_max_if`, `peek_max_mut`) that returned an entry ran on a
`DoublePriorityQueue`: a `PriorityQueue` has no such method and the model answers `.unit` -/
theorem cont_back_entry_dpq {q q' : Q P} {op : Op P} {r : Option (Item × P)}
    (hop : op = .popBack ∨ (∃ f, op = .popBackIf f) ∨ ∃ w, op = .peekBackMut w)
    (hs : step q op = .ok (q', .entry r)) : q.kind = .dpq := by
  obtain ⟨kind, s⟩ := q
  cases kind with
  | dpq => rfl
  | pq => rcases hop with rfl | ⟨f, rfl⟩ | ⟨w, rfl⟩ <;> cases hs

/-- the contents after `append(oth)`, in terms of `len` -/
theorem cont_step_append_abs {q q' : Q P} {oth : Store P} {o : Out P} (hq : q.s.WF) (hl : oth.WF)
    (hs : step q (.append oth) = .ok (q', o)) (k : Nat) :
    q'.s.abs k = if oth.size > q.s.size then (oth.abs k).or (q.s.abs k) else (q.s.abs k).or (oth.abs k) :=
  (cont_step_refines (op := .append oth) hq hl hs).2.2.2 q.s.size (cont_absCard_of_WF hq) k

/-- the specification of a history: the chain of `specStep`s (the kind follows `From<other kind>` conversions) -/
inductive specRun : Kind → AbsQ P → List (Op P) → List (Out P) → AbsQ P → Prop where
  | nil (kind : Kind) (a : AbsQ P) : specRun kind a [] [] a
  | cons {kind : Kind} {a a1 a' : AbsQ P} {op : Op P} {o : Out P} {ops : List (Op P)} {os : List (Out P)} :
      specStep kind a op o a1 → specRun (cont_kindAfter kind op) a1 ops os a' → specRun kind a (op :: ops) (o :: os) a'

theorem cont_run_nil (q : Q P) : run q [] = .ok (q, []) := rfl

theorem cont_run_cons {q q1 q2 : Q P} {op : Op P} {o : Out P} {ops : List (Op P)} {os : List (Out P)}
    (h1 : step q op = .ok (q1, o)) (h2 : run q1 ops = .ok (q2, os)) : run q (op :: ops) = .ok (q2, o :: os) :=
  (bind_of_ok h1 _).trans (bind_of_ok h2 _)

theorem cont_run_cons_inv {q q2 : Q P} {op : Op P} {ops : List (Op P)} {outs : List (Out P)}
    (h : run q (op :: ops) = .ok (q2, outs)) :
    ∃ q1 o os, step q op = .ok (q1, o) ∧ run q1 ops = .ok (q2, os) ∧ outs = o :: os := by
  obtain ⟨⟨q1, o⟩, h1, h'⟩ := bind_eq_ok.1 h
  obtain ⟨⟨q2', os⟩, h2, h''⟩ := bind_eq_ok.1 h'
  cases h''
  exact ⟨q1, o, os, h1, h2, rfl⟩

/-- **every history of legal operations on a well-formed queue runs to the end, stays well-formed and refines the
abstract specification at every step** -/
theorem cont_run_total (ops : List (Op P)) : ∀ {q : Q P}, q.s.WF → (∀ op ∈ ops, op.Legal) →
    ∃ q' outs, run q ops = .ok (q', outs) ∧ q'.s.WF ∧ specRun q.kind q.s.abs ops outs q'.s.abs := by
  induction ops with
  | nil => intro q h _; exact ⟨q, [], rfl, h, specRun.nil _ _⟩
  | cons op ops ih =>
    intro q h hl
    obtain ⟨q1, o, e1, e2, e3, e4⟩ := cont_step_total' h op (hl op List.mem_cons_self)
    obtain ⟨q2, os, f1, f2, f3⟩ := ih (q := q1) e2 (fun op' hop => hl op' (List.mem_cons_of_mem _ hop))
    rw [e3] at f3
    exact ⟨q2, o :: os, cont_run_cons e1 f1, f2, specRun.cons e4 f3⟩

theorem cont_run_refines {q q' : Q P} {ops : List (Op P)} {outs : List (Out P)} (hq : q.s.WF)
    (hl : ∀ op ∈ ops, op.Legal) (hr : run q ops = .ok (q', outs)) :
    q'.s.WF ∧ specRun q.kind q.s.abs ops outs q'.s.abs := by
  obtain ⟨q1, o1, e1, e2, e3⟩ := cont_run_total ops hq hl
  rw [e1] at hr
  cases hr
  exact ⟨e2, e3⟩

/-- induction along a successful run of legal operations from a well-formed queue: the step comes with well-formedness
on both sides of it -/
theorem cont_run_induction {C : Q P → List (Op P) → Q P → List (Out P) → Prop} (nil : ∀ q, C q [] q [])
    (cons : ∀ {q q1 q2 : Q P} {op : Op P} {o : Out P} {ops : List (Op P)} {os : List (Out P)}, q.s.WF → op.Legal →
      step q op = .ok (q1, o) → q1.s.WF → run q1 ops = .ok (q2, os) → C q1 ops q2 os → C q (op :: ops) q2 (o :: os))
    (ops : List (Op P)) : ∀ {q q' : Q P} {outs : List (Out P)}, q.s.WF → (∀ op ∈ ops, op.Legal) →
    run q ops = .ok (q', outs) → C q ops q' outs := by
  induction ops with
  | nil => intro q q' outs _ _ hr; cases hr; exact nil q
  | cons op ops ih =>
    intro q q' outs hq hl hr
    obtain ⟨q1, o, os, h1, h2, rfl⟩ := cont_run_cons_inv hr
    have hl1 := hl op List.mem_cons_self
    have hq1 := (cont_step_refines hq hl1 h1).1
    exact cons hq hl1 h1 hq1 h2 (ih hq1 (fun op' hop => hl op' (List.mem_cons_of_mem _ hop)) h2)

/-! ## Frame: what the single-element operations do not touch -/

/-- the key a single-element operation names -/
def cont_target : Op P → Option Nat
  | .push it _ | .pushIncrease it _ | .pushDecrease it _ => some it.key
  | .changePriority k _ | .changePriorityBy k _ | .remove k | .getMut k _ => some k
  | _ => none

theorem cont_absPush_ne {f : AbsQ P} {it : Item} {p : P} {k : Nat} (hk : k ≠ it.key) : absPush f it p k = f k :=
  if_neg hk

theorem cont_absSet_ne {f : AbsQ P} {k0 : Nat} {e : Item × P} {k : Nat} (hk : k ≠ k0) : absSet f k0 e k = f k :=
  if_neg hk

theorem cont_absRemove_ne {f : AbsQ P} {k0 k : Nat} (hk : k ≠ k0) : absRemove f k0 k = f k :=
  if_neg hk

theorem cont_absSet_self {f : AbsQ P} {k0 : Nat} {e : Item × P} : absSet f k0 e k0 = some e :=
  if_pos rfl

theorem cont_absRemove_self {f : AbsQ P} {k0 : Nat} : absRemove f k0 k0 = none :=
  if_pos rfl

theorem cont_absPush_self {f : AbsQ P} {it : Item} {p : P} :
    absPush f it p it.key = some (((f it.key).map (·.1)).getD it, p) :=
  if_pos rfl

/-- what the three cases of a `push_increase` / `push_decrease` clause of `specStep` (`c` tests the direction) leave of
the contents: the pushed map, or the old one -/
theorem cont_pushDir_cases {c : P → Prop} {a a' : AbsQ P} {it : Item} {p : P} {X0 : Prop} {X1 X2 : Item × P → Prop}
    (h0 : a it.key = none → X0 ∧ a' = absPush a it p)
    (h1 : ∀ e, a it.key = some e → c e.2 → X1 e ∧ a' = absPush a it p)
    (h2 : ∀ e, a it.key = some e → ¬ c e.2 → X2 e ∧ a' = a) : a' = absPush a it p ∨ a' = a := by
  cases ha : a it.key with
  | none => exact .inl (h0 ha).2
  | some e =>
    by_cases hc : c e.2
    · exact .inl (h1 e ha hc).2
    · exact .inr (h2 e ha hc).2

/-- … as a function of the old contents -/
theorem cont_pushDir_exact {c : P → Prop} [DecidablePred c] {a a' : AbsQ P} {it : Item} {p : P} {X0 : Prop}
    {X1 X2 : Item × P → Prop} (h0 : a it.key = none → X0 ∧ a' = absPush a it p)
    (h1 : ∀ e, a it.key = some e → c e.2 → X1 e ∧ a' = absPush a it p)
    (h2 : ∀ e, a it.key = some e → ¬ c e.2 → X2 e ∧ a' = a) :
    a' = (match a it.key with | none => absPush a it p | some e => if c e.2 then absPush a it p else a) := by
  cases ha : a it.key with
  | none => exact (h0 ha).2
  | some e =>
    show a' = if c e.2 then absPush a it p else a
    by_cases hc : c e.2
    · rw [if_pos hc]; exact (h1 e ha hc).2
    · rw [if_neg hc]; exact (h2 e ha hc).2

/-- … and the entry of the named key afterwards -/
theorem cont_pushDir_assigned {c : P → Prop} [DecidablePred c] {a a' : AbsQ P} {it : Item} {p : P} {X0 : Prop}
    {X1 X2 : Item × P → Prop} (h0 : a it.key = none → X0 ∧ a' = absPush a it p)
    (h1 : ∀ e, a it.key = some e → c e.2 → X1 e ∧ a' = absPush a it p)
    (h2 : ∀ e, a it.key = some e → ¬ c e.2 → X2 e ∧ a' = a) :
    a' it.key = (match a it.key with | none => some (it, p) | some e => if c e.2 then some (e.1, p) else some e) := by
  cases ha : a it.key with
  | none => rw [(h0 ha).2, cont_absPush_self, ha]; rfl
  | some e =>
    show a' it.key = if c e.2 then some (e.1, p) else some e
    by_cases hc : c e.2
    · rw [if_pos hc, (h1 e ha hc).2, cont_absPush_self, ha]; rfl
    · rw [if_neg hc, (h2 e ha hc).2]; exact ha

/-- what one `push_increase` / `push_decrease` (`c` tests the direction) does to the key it names and to the others (this
is property C11), read off its three cases -/
theorem cont_pushDir_effect {c : P → Prop} {s s' : Store P} {r : Option P} {it : Item} {p : P}
    (h0 : s.abs it.key = none → r = none ∧ s'.abs = absPush s.abs it p ∧ s'.size = s.size + 1)
    (h1 : ∀ e, s.abs it.key = some e →
      (c e.2 → r = some e.2 ∧ s'.abs = absPush s.abs it p ∧ s'.size = s.size) ∧ (¬ c e.2 → s' = s.tick ∧ r = some p)) :
    (∀ k, k ≠ it.key → s'.abs k = s.abs k) ∧
    (s.abs it.key = none → r = none ∧ s'.abs it.key = some (it, p) ∧ s'.size = s.size + 1) ∧
    (∀ it0 p0, s.abs it.key = some (it0, p0) → c p0 →
      r = some p0 ∧ s'.abs it.key = some (it0, p) ∧ s'.size = s.size) ∧
    (∀ it0 p0, s.abs it.key = some (it0, p0) → ¬ c p0 →
      r = some p ∧ s' = s.tick ∧ Store.Same s' s ∧ s'.abs = s.abs) := by
  refine ⟨fun k hk => ?_, fun ha => ?_, fun it0 p0 ha hc => ?_, fun it0 p0 ha hc => ?_⟩
  · cases ha : s.abs it.key with
    | none => rw [(h0 ha).2.1]; exact cont_absPush_ne hk
    | some e =>
      by_cases hc : c e.2
      · rw [((h1 e ha).1 hc).2.1]; exact cont_absPush_ne hk
      · rw [((h1 e ha).2 hc).1]; rfl
  · obtain ⟨hr, ha', hsz⟩ := h0 ha
    exact ⟨hr, by rw [ha', cont_absPush_self, ha]; rfl, hsz⟩
  · obtain ⟨hr, ha', hsz⟩ := (h1 _ ha).1 hc
    exact ⟨hr, by rw [ha', cont_absPush_self, ha]; rfl, hsz⟩
  · obtain ⟨rfl, hr⟩ := (h1 _ ha).2 hc
    exact ⟨hr, rfl, ⟨rfl, rfl, rfl, rfl⟩, rfl⟩

/-- the present-item half of a `push_increase` / `push_decrease` clause of `specStep` (`c` tests the direction), in terms
of the priority held afterwards -/
theorem cont_pushDir_present {c : P → Prop} [DecidablePred c] {a a' : AbsQ P} {o : Out P} {it it0 : Item} {p p0 : P}
    (ha : a it.key = some (it0, p0))
    (h1 : ∀ e, a it.key = some e → c e.2 → o = .prio (some e.2) ∧ a' = absPush a it p)
    (h2 : ∀ e, a it.key = some e → ¬ c e.2 → o = .prio (some p) ∧ a' = a) :
    (∀ k, k ≠ it.key → a' k = a k) ∧ a' it.key = some (it0, if c p0 then p else p0) ∧
      o = .prio (some (if c p0 then p0 else p)) := by
  by_cases hc : c p0
  · obtain ⟨rfl, rfl⟩ := h1 _ ha hc
    rw [if_pos hc, if_pos hc]
    exact ⟨fun k hk => cont_absPush_ne hk, by rw [cont_absPush_self, ha]; rfl, rfl⟩
  · obtain ⟨rfl, rfl⟩ := h2 _ ha hc
    rw [if_neg hc, if_neg hc]
    exact ⟨fun _ _ => rfl, ha, rfl⟩

/-- rewriting the entry of `k0`, if there is one, leaves every other key alone -/
theorem cont_keyed_ne {a : AbsQ P} {k0 k : Nat} (u : Item × P → Item × P) (hk : k ≠ k0) :
    (match a k0 with | none => a | some e => absSet a k0 (u e)) k = a k := by
  cases a k0 with
  | none => rfl
  | some e => exact cont_absSet_ne hk

/-- in the specification, an operation naming the key `t` leaves every other key alone -/
theorem cont_spec_frame {kind : Kind} {a a' : AbsQ P} {op : Op P} {o : Out P} (hs : specStep kind a op o a')
    {t : Nat} (ht : cont_target op = some t) {k : Nat} (hk : k ≠ t) : a' k = a k := by
  cases op <;> cases ht
  case push it p => rw [hs.2]; exact cont_absPush_ne hk
  case pushIncrease it p =>
    rcases cont_pushDir_cases (c := (· < p)) hs.1 hs.2.1 hs.2.2 with h | h <;> rw [h]
    exact cont_absPush_ne hk
  case pushDecrease it p =>
    rcases cont_pushDir_cases (c := (p < ·)) hs.1 hs.2.1 hs.2.2 with h | h <;> rw [h]
    exact cont_absPush_ne hk
  case remove =>
    rw [hs.2]
    cases a t with
    | none => rfl
    | some e => exact cont_absRemove_ne hk
  case changePriority | changePriorityBy | getMut => rw [hs.2]; exact cont_keyed_ne _ hk

/-! ## The stored item value (payload included) survives everything that does not rewrite or remove it -/

/-- `op` does not rewrite the item stored under key `k`: its closures leave items with key `k` as they are, an
`iter_mut` program writes no payload, an `append`ed queue does not hold `k`, and `op` is not one of the
constructors that replace the whole queue (`From<Vec>`, `FromIterator`, `Deserialize`).  Every other operation
qualifies unconditionally. -/
def cont_preservesItem (k : Nat) : Op P → Prop
  | .getMut k' w => k' = k → ∀ it, it.key = k → w it = it
  | .peekFrontMut w | .peekBackMut w => ∀ it, it.key = k → w it = it
  | .popFrontIf f | .popBackIf f | .retainMut f => ∀ it p, it.key = k → (f it p).2.1 = it
  | .iterMut _ prog => ∀ cw ∈ prog, cw.2.payload = none
  | .append o => o.abs k = none
  | .fromVec _ | .fromIter _ _ | .deserialize _ _ => False
  | _ => True

theorem cont_absPush_item {f : AbsQ P} {it : Item} {p : P} {k : Nat} {it0 : Item} {p0 : P} (ha : f k = some (it0, p0)) :
    ∃ p', absPush f it p k = some (it0, p') := by
  by_cases hk : k = it.key
  · subst hk; rw [cont_absPush_self, ha]; exact ⟨p, rfl⟩
  · rw [cont_absPush_ne hk]; exact ⟨p0, ha⟩

theorem cont_absSet_item {f : AbsQ P} {k0 : Nat} {e : Item × P} {k : Nat} {it0 : Item} {p0 : P}
    (ha : f k = some (it0, p0)) (he : k = k0 → e.1 = it0) : ∃ p', absSet f k0 e k = some (it0, p') := by
  by_cases hk : k = k0
  · subst hk; rw [cont_absSet_self]; exact ⟨e.2, by rw [← he rfl]⟩
  · rw [cont_absSet_ne hk]; exact ⟨p0, ha⟩

theorem cont_absRemove_item {f : AbsQ P} {k0 k : Nat} {it0 : Item} {p0 : P} (ha : f k = some (it0, p0)) :
    absRemove f k0 k = none ∨ ∃ p', absRemove f k0 k = some (it0, p') := by
  by_cases hk : k = k0
  · subst hk; exact .inl cont_absRemove_self
  · rw [cont_absRemove_ne hk]; exact .inr ⟨p0, ha⟩

/-- rewriting the entry of `k0`, if there is one, by a `u` that returns the item of `k` as it found it -/
theorem cont_keyed_item {a : AbsQ P} {k0 k : Nat} {u : Item × P → Item × P} {it0 : Item} {p0 : P}
    (ha : a k = some (it0, p0)) (hu : k = k0 → (u (it0, p0)).1 = it0) :
    ∃ p', (match a k0 with | none => a | some e => absSet a k0 (u e)) k = some (it0, p') := by
  cases hb : a k0 with
  | none => exact ⟨p0, ha⟩
  | some e =>
    refine cont_absSet_item ha (fun hk => ?_)
    subst hk; rw [ha] at hb; cases hb
    exact hu rfl

theorem cont_foldl_absStep_item (l : List (Item × P)) {k : Nat} {it0 : Item} : ∀ {f : AbsQ P} {p0 : P},
    f k = some (it0, p0) → ∃ p', l.foldl Store.absStep f k = some (it0, p') := by
  induction l with
  | nil => intro f p0 ha; exact ⟨p0, ha⟩
  | cons e l ih =>
    intro f p0 ha
    rw [List.foldl_cons]
    obtain ⟨p1, h1⟩ := cont_absPush_item (it := e.1) (p := e.2) ha
    rw [absPush_eq_absStep] at h1
    exact ih h1

theorem cont_find?_none_of_forall {l : List (Item × P)} {k : Nat} (h : ∀ e ∈ l, e.1.key ≠ k) :
    l.find? (fun e => e.1.key == k) = none := by
  rw [List.find?_eq_none]
  intro e he
  simpa using h e he

theorem cont_specPop_item {a a' : AbsQ P} {o : Out P} (hs : specPop a o a') {k : Nat} {it0 : Item} {p0 : P}
    (ha : a k = some (it0, p0)) : a' k = none ∨ ∃ p', a' k = some (it0, p') := by
  rcases hs with ⟨_, _, rfl⟩ | ⟨e, _, _, rfl⟩
  · exact .inr ⟨p0, ha⟩
  · exact cont_absRemove_item ha

theorem cont_specPopIf_item {f : Item → P → Bool × Item × P} {a a' : AbsQ P} {o : Out P} (hs : specPopIf f a o a')
    {k : Nat} {it0 : Item} {p0 : P} (ha : a k = some (it0, p0)) (hk0 : it0.key = k)
    (hp : ∀ it p, it.key = k → (f it p).2.1 = it) : a' k = none ∨ ∃ p', a' k = some (it0, p') := by
  rcases hs with ⟨_, _, rfl⟩ | ⟨e, he, ⟨_, _, rfl⟩ | ⟨_, _, rfl⟩⟩
  · exact .inr ⟨p0, ha⟩
  · exact cont_absRemove_item ha
  · refine .inr (cont_absSet_item ha (fun hk => ?_))
    subst hk
    rw [ha] at he
    cases he
    exact hp it0 p0 hk0

theorem cont_specPeekMut_item {w : Item → Item} {a a' : AbsQ P} {o : Out P} (hs : specPeekMut w a o a')
    {k : Nat} {it0 : Item} {p0 : P} (ha : a k = some (it0, p0)) (hk0 : it0.key = k)
    (hp : ∀ it, it.key = k → w it = it) : a' k = none ∨ ∃ p', a' k = some (it0, p') := by
  rcases hs with ⟨_, _, rfl⟩ | ⟨e, he, _, rfl⟩
  · exact .inr ⟨p0, ha⟩
  · refine .inr (cont_absSet_item ha (fun hk => ?_))
    subst hk
    rw [ha] at he
    cases he
    exact hp it0 hk0

/-- **in the specification, an operation that does not rewrite the item of key `k` either removes `k` or keeps its
stored item (payload included)** -/
theorem cont_spec_item_persists {kind : Kind} {a a' : AbsQ P} {op : Op P} {o : Out P} (hs : specStep kind a op o a')
    (hc : ∃ n, cont_absCard a n) {k : Nat} (hp : cont_preservesItem k op) {it0 : Item} {p0 : P}
    (ha : a k = some (it0, p0)) (hk0 : it0.key = k) : a' k = none ∨ ∃ p', a' k = some (it0, p') := by
  have same : a' = a → a' k = none ∨ ∃ p', a' k = some (it0, p') := fun h => .inr ⟨p0, by rw [h]; exact ha⟩
  cases op with
  | push it p => rw [hs.2]; exact .inr (cont_absPush_item ha)
  | pushIncrease it p =>
    rcases cont_pushDir_cases (c := (· < p)) hs.1 hs.2.1 hs.2.2 with h | h
    · rw [h]; exact .inr (cont_absPush_item ha)
    · exact same h
  | pushDecrease it p =>
    rcases cont_pushDir_cases (c := (p < ·)) hs.1 hs.2.1 hs.2.2 with h | h
    · rw [h]; exact .inr (cont_absPush_item ha)
    · exact same h
  | changePriority k0 p | changePriorityBy k0 g => rw [hs.2]; exact .inr (cont_keyed_item ha (fun _ => rfl))
  | remove k0 =>
    rw [hs.2]
    cases a k0 with
    | none => exact .inr ⟨p0, ha⟩
    | some e => exact cont_absRemove_item ha
  | getMut k0 w => rw [hs.2]; exact .inr (cont_keyed_item ha (fun hk => hp hk.symm it0 hk0))
  | popFront => exact cont_specPop_item hs ha
  | popBack =>
    cases kind with
    | pq => exact same hs.2
    | dpq => exact cont_specPop_item hs ha
  | popFrontIf f => exact cont_specPopIf_item hs ha hk0 hp
  | popBackIf f =>
    cases kind with
    | pq => exact same hs.2
    | dpq => exact cont_specPopIf_item hs ha hk0 hp
  | peekFrontMut w => exact cont_specPeekMut_item hs ha hk0 hp
  | peekBackMut w =>
    cases kind with
    | pq => exact same hs.2
    | dpq => exact cont_specPeekMut_item hs ha hk0 hp
  | retainMut f =>
    rw [hs.2]
    show (a k).bind (IMap.retainStep f) = none ∨ ∃ p', (a k).bind (IMap.retainStep f) = some (it0, p')
    rw [ha]
    show IMap.retainStep f (it0, p0) = none ∨ ∃ p', IMap.retainStep f (it0, p0) = some (it0, p')
    unfold IMap.retainStep
    by_cases hr : (f it0 p0).1 = true
    · right; refine ⟨(f it0 p0).2.2, ?_⟩
      simp only [hr, if_true]
      rw [hp it0 p0 hk0]
    · left; simp only [hr]; rfl
  | iterMut leak prog =>
    obtain ⟨outs, _, _, _, _, h3, _⟩ := hs
    have := h3 hp k
    rw [ha] at this
    cases hb : a' k with
    | none => exact .inl rfl
    | some e =>
      rw [hb] at this
      cases this
      exact .inr ⟨e.2, rfl⟩
  | extend lo xs =>
    rw [hs.2, ← Array.foldl_toList]
    exact .inr (cont_foldl_absStep_item xs.toList ha)
  | append oth =>
    obtain ⟨n, hn⟩ := hc
    rw [hs.2 n hn k, (hp : oth.abs k = none)]
    refine .inr ⟨p0, ?_⟩
    split
    · rw [Option.none_or]; exact ha
    · rw [Option.or_none]; exact ha
  | fromVec xs | fromIter lo xs | deserialize hint xs => exact absurd hp id
  | convert | capacityOp => exact same hs.2
  | clear => rw [hs.2]; exact .inl rfl
  | drain =>
    obtain ⟨es, _, h2, _⟩ := hs
    rw [h2]; exact .inl rfl

/-- the item value (key and payload) the queue stores for key `k` -/
def storedItem (q : Q P) (k : Nat) : Option Item := (q.s.abs k).map (·.1)

theorem cont_storedItem_eq_some {q : Q P} {k : Nat} {it0 : Item} :
    storedItem q k = some it0 ↔ ∃ p0, q.s.abs k = some (it0, p0) := by
  unfold storedItem
  cases q.s.abs k with
  | none => exact ⟨fun h => (by cases h), fun ⟨_, h⟩ => (by cases h)⟩
  | some e => exact ⟨fun h => ⟨e.2, by cases h; rfl⟩, fun ⟨_, h⟩ => (by cases h; rfl)⟩

/-- `op` is one of the priority updates addressed to key `k` -/
def cont_isUpdateOf (k : Nat) : Op P → Prop
  | .push it _ | .pushIncrease it _ | .pushDecrease it _ => it.key = k
  | .changePriority k' _ | .changePriorityBy k' _ => k' = k
  | _ => False

/-- `k` is stored after every prefix of the history `ops` run from `q` -/
def cont_presentThroughout (k : Nat) (q : Q P) (ops : List (Op P)) : Prop :=
  ∀ n q1 outs, run q (ops.take n) = .ok (q1, outs) → (q1.s.abs k).isSome = true

/-- one step: an operation that does not rewrite the item of `k` and does not remove `k` keeps the stored item -/
theorem cont_step_item_persists {q q' : Q P} {op : Op P} {o : Out P} {k : Nat} (hq : q.s.WF) (hl : op.Legal)
    (hp : cont_preservesItem k op) (hs : step q op = .ok (q', o)) (hk : (q'.s.abs k).isSome = true) {it0 : Item}
    (h0 : storedItem q k = some it0) : storedItem q' k = some it0 := by
  obtain ⟨p0, ha⟩ := cont_storedItem_eq_some.1 h0
  have hspec := (cont_step_refines hq hl hs).2.2
  rcases cont_spec_item_persists hspec ⟨_, cont_absCard_of_WF hq⟩ hp ha (IMap.lookup_key ha) with hn | ⟨p', h'⟩
  · rw [hn] at hk; cases hk
  · exact cont_storedItem_eq_some.2 ⟨p', h'⟩

/-! ## Concrete queues for the non-vacuity examples of the property files -/

/-- "the result is `.ok x` and `q x` holds" (decidable when `q` is: `Except` has no `DecidableEq`) -/
def cont_okR {α : Type} (r : R α) (q : α → Prop) : Prop :=
  match r with
  | .ok x => q x
  | .error _ => False

instance {α : Type} (r : R α) (q : α → Prop) [DecidablePred q] : Decidable (cont_okR r q) := by
  unfold cont_okR; split <;> infer_instance

theorem cont_okR_iff {α : Type} {r : R α} {q : α → Prop} : cont_okR r q ↔ ∃ x, r = .ok x ∧ q x := by
  unfold cont_okR
  cases r with
  | error e => simp
  | ok x => simp

/-- the priority an `Out` carries -/
def cont_outPrio {P : Type} : Out P → Option (Option P)
  | .prio r => some r
  | _ => none

/-- the entry an `Out` carries -/
def cont_outEntry {P : Type} : Out P → Option (Option (Item × P))
  | .entry r => some r
  | _ => none

def cont_outBool {P : Type} : Out P → Option Bool
  | .bool b => some b
  | _ => none

/-- a five-element max-heap (priorities by position: 9 / 5 7 / 1 3), payloads `10·key` -/
def cont_ex5 : Store Nat :=
  { map := #[(⟨1, 10⟩, 5), (⟨2, 20⟩, 9), (⟨3, 30⟩, 7), (⟨4, 40⟩, 1), (⟨5, 50⟩, 3)],
    heap := #[1, 0, 2, 3, 4], qp := #[1, 0, 2, 3, 4], size := 5 }

/-- a five-element min-max heap (min level 1 / max level 9 7 / min level 5 3) -/
def cont_exD : Store Nat :=
  { map := #[(⟨1, 10⟩, 5), (⟨2, 20⟩, 9), (⟨3, 30⟩, 7), (⟨4, 40⟩, 1), (⟨5, 50⟩, 3)],
    heap := #[3, 1, 2, 0, 4], qp := #[3, 1, 2, 0, 4], size := 5 }

end PQ
