import PQ.Lemmas.SrcEquivPanicBulk
set_option linter.unusedSimpArgs false
set_option linter.unusedSectionVars false
/-! # Unwinding tie: `Extend for PriorityQueue` / `Extend for DoublePriorityQueue` against `Crash.{MaxQ,DQ}.extendF` -/
namespace PQ.SrcEquivF
open PQ PQ.Src PQ.SrcGen PQ.SrcF PQ.Crash PQ.SrcEquiv
variable {P : Type} [LT P] [DecidableLT P]

/-! ## shape of the tables after the fused twins (for the fuel of the push loop of `extend`) -/

theorem pickLargestF_post_shape (fuse : Nat) (s : Store P) (i : Nat) :
    PostC (Crash.MaxQ.pickLargestF fuse s i) (fun r => Shape s r.1) := by
  unfold Crash.MaxQ.pickLargestF
  refine PostC.bind (PostC.triv _) fun _ _ => PostC.ite (fun _ => ?_) (fun _ => PostC.pure (Shape.refl s))
  refine PostC.bind (PostC.triv _) fun _ _ => PostC.cmpF_bind ?_
  refine PostC.ite (fun _ => ?_) (fun _ => PostC.pure ⟨rfl, rfl⟩)
  exact PostC.bind (PostC.triv _) fun _ _ => PostC.cmpF_bind (PostC.pure ⟨rfl, rfl⟩)

theorem heapifyLoopF_post_shape (fuse : Nat) (f : Nat) : ∀ (s : Store P) (i : Nat),
    PostC (Crash.MaxQ.heapifyLoopF fuse f s i) (Shape s) := by
  induction f with
  | zero => intro s i r hr; cases hr
  | succ f ih =>
    intro s i
    rw [Crash.MaxQ.heapifyLoopF]
    refine PostC.bind (pickLargestF_post_shape fuse s i) fun r hr => ?_
    obtain ⟨s1, lg⟩ := r
    refine PostC.ite (fun _ => PostC.pure hr) fun _ => PostC.bind (PostC.liftR (swap_post_shape _ _ _)) fun s2 h2 => ?_
    intro r hr2
    exact (hr.trans h2).trans (ih _ _ r hr2)

theorem heapifyF_post_shape (fuse : Nat) (s : Store P) (i : Nat) : PostC (Crash.MaxQ.heapifyF fuse s i) (Shape s) := by
  unfold Crash.MaxQ.heapifyF
  exact PostC.ite (fun _ => PostC.pure (Shape.refl s)) fun _ => heapifyLoopF_post_shape _ _ _ _

theorem bubbleUpLoopF_post_shape (fuse mp : Nat) (f : Nat) : ∀ (s : Store P) (pos : Nat) (prio : P),
    PostC (Crash.MaxQ.bubbleUpLoopF fuse mp f s pos prio) (fun r => Shape s r.1) := by
  induction f with
  | zero => intro s pos prio r hr; cases hr
  | succ f ih =>
    intro s pos prio
    rw [Crash.MaxQ.bubbleUpLoopF]
    refine PostC.ite (fun _ => ?_) (fun _ => PostC.pure (Shape.refl s))
    refine PostC.bind (PostC.triv _) fun pp _ => PostC.cmpHoleF_bind ?_
    refine PostC.ite (fun _ => ?_) (fun _ => PostC.pure ⟨rfl, rfl⟩)
    refine PostC.bind (PostC.triv _) fun _ _ => PostC.bind (PostC.liftR (setU_post_size _ _ _ _)) fun heap hh =>
      PostC.bind (PostC.triv _) fun _ _ => ?_
    intro r hr
    have := ih _ _ _ r hr
    exact ⟨this.1, this.2.trans hh⟩

theorem bubbleUpF_post_shape (fuse : Nat) (s : Store P) (pos mp : Nat) :
    PostC (Crash.MaxQ.bubbleUpF fuse s pos mp) (fun r => Shape s r.1) := by
  unfold Crash.MaxQ.bubbleUpF
  refine PostC.bind (PostC.triv _) fun e _ => PostC.bind (bubbleUpLoopF_post_shape _ _ _ s pos e.2) fun r hr => ?_
  exact PostC.bind (PostC.liftR (setU_post_size _ _ _ _)) fun heap hh => PostC.bind (PostC.triv _) fun _ _ =>
    PostC.pure ⟨hr.1, hh.trans hr.2⟩

theorem upHeapifyF_post_shape (fuse : Nat) (s : Store P) (i : Nat) : PostC (Crash.MaxQ.upHeapifyF fuse s i) (Shape s) := by
  unfold Crash.MaxQ.upHeapifyF
  refine PostC.bind (PostC.triv _) fun _ _ => PostC.bind (bubbleUpF_post_shape _ _ _ _) fun r hr => ?_
  intro s' hs'
  exact hr.trans (heapifyF_post_shape _ _ _ s' hs')

theorem pushF_post_grow (fuse : Nat) (s : Store P) (it : Item) (p : P) :
    PostC (Crash.MaxQ.pushF fuse s it p) (fun r => r.1.size ≤ s.size + 1 ∧ r.1.heap.size ≤ s.heap.size + 1) := by
  unfold Crash.MaxQ.pushF
  cases hf : IMap.find? s.map it.key with
  | none =>
    rw [IMap.insertFull_of_find?_none hf]
    refine PostC.bind (bubbleUpF_post_shape _ _ _ _) fun r hr => PostC.pure ?_
    obtain ⟨h1, h2⟩ := hr
    simp only [Array.size_push] at h1 h2 ⊢
    omega
  | some i =>
    obtain ⟨e, he, _⟩ := IMap.find?_getElem? hf
    rw [IMap.insertFull_of_find?_some hf he]
    refine PostC.bind (PostC.triv _) fun pos _ => PostC.bind (upHeapifyF_post_shape _ _ _) fun s' hs' => PostC.pure ?_
    obtain ⟨h1, h2⟩ := hs'
    simp only at h1 h2 ⊢
    omega

theorem reserveC_zero : (reserveC 0 : R Unit) = pure () := by unfold reserveC capLimit; rfl

/-- the push loop of `extend` under the fused interpreter, for any body that behaves like the fused `push` -/
theorem forListF_pushAllF (k c : Nat) (bodyF : Item × P → St P → CF P (St P × Flow P))
    (pushT : Store P → Item → P → CR P (Store P × Option P)) (pushAllT : List (Item × P) → Store P → CR P (Store P))
    (hgrow : ∀ s it p, PostC (pushT s it p) (fun r => r.1.size ≤ s.size + 1 ∧ r.1.heap.size ≤ s.heap.size + 1))
    (hnil : ∀ s, pushAllT [] s = pure s)
    (hcons : ∀ e es s, pushAllT (e :: es) s = pushT s e.1 e.2 >>= fun r => pushAllT es r.1)
    (hbody : ∀ e st, k ≥ st.s.size + st.s.heap.size + c →
      toCR fill0 (fun st' => st'.s) (bodyF e st) = (fun r => (r.1, Flow.normal)) <$> pushT st.s e.1 e.2) :
    ∀ (l : List (Item × P)) (st : St P), k ≥ st.s.size + st.s.heap.size + 2 * l.length + c →
      toCR fill0 (fun st' => st'.s) (forListF bodyF l st) = (fun s' => (s', Flow.normal)) <$> pushAllT l st.s := by
  intro l
  induction l with
  | nil => intro st _; rw [forListF, hnil]; rfl
  | cons e l ih =>
    intro st hk
    simp only [List.length_cons] at hk
    rw [forListF, hcons, map_bind]
    have hb := hbody e st (by omega)
    have hy : ∀ (G : Store P → CR P (Store P × Flow P)),
        (pushT st.s e.1 e.2 >>= fun a => G a.1) = ((fun r => r.1) <$> pushT st.s e.1 e.2) >>= G := by
      intro G; cases pushT st.s e.1 e.2 <;> rfl
    rw [hy (fun s1 => (fun s' => (s', Flow.normal)) <$> pushAllT l s1)]
    have hb' : toCR fill0 (fun st' => st'.s) (bodyF e st)
        = (fun b => (b, Flow.normal)) <$> ((fun r => r.1) <$> pushT st.s e.1 e.2) := by
      rw [hb]; cases pushT st.s e.1 e.2 <;> rfl
    refine toCR_bind_of fill0 (fun st' => st'.s) _ _ _ hb' _ _ ?_
    intro st' hx
    refine ih st' ?_
    rw [hx] at hb
    cases hp : pushT st.s e.1 e.2 with
    | error f => rw [hp] at hb; cases hb
    | ok r =>
      rw [hp] at hb
      have hg := hgrow st.s e.1 e.2 r hp
      simp only [toCR, Functor.map, Except.map, Except.ok.injEq, Prod.mk.injEq, and_true] at hb
      rw [hb]
      omega

/-- `Extend for PriorityQueue` under a panicking comparison = `Crash.MaxQ.extendF` (rebuild strategy: the store-level extend
of all pairs is complete; push strategy: the pushes done so far are complete) -/
theorem pqExtendF (fuse : Nat) (s : Store P) (lo : Nat) (xs : Array (Item × P)) (fuel : Nat)
    (h : fuel ≥ s.size + s.heap.size + 2 * xs.size + (s.extend xs).size + 7) :
    runF prog unwind fuse false fuel .pqExtend s [] [] [Val.iter lo xs]
      = (fun s' => (s', Val.unit)) <$> Crash.MaxQ.extendF fuse s lo xs := by
  obtain ⟨n, rfl⟩ := exists_eq_add 2 h (by decide)
  rw [runF_frame0 prog unwind fuse false (n + 1) .pqExtend _ s _ _ _ rfl rfl]
  unfold Crash.MaxQ.extendF
  rw [execF, pqExtend_body]
  have loop : ∀ (st0 : St P) (bodyF : Item × P → St P → CF P (St P × Flow P)), st0.s = s →
      (∀ e st, n + 1 ≥ st.s.size + st.s.heap.size + 5 →
        toCR fill0 (fun st' => st'.s) (bodyF e st)
          = (fun r => (r.1, Flow.normal)) <$> Crash.MaxQ.pushF fuse st.s e.1 e.2) →
      frame0 (forListF bodyF xs.toList st0) = (fun s' => (s', Val.unit)) <$> Crash.MaxQ.pushAllF fuse xs.toList s := by
    intro st0 bodyF h0 hbody
    refine frame0_of_toCR _ _ ?_
    have := forListF_pushAllF (n + 1) 5 bodyF (Crash.MaxQ.pushF fuse) (Crash.MaxQ.pushAllF fuse)
      (pushF_post_grow fuse) (fun _ => rfl) (fun _ _ _ => rfl) hbody xs.toList st0
      (by rw [h0]; simp only [Array.length_toList]; omega)
    rw [this, h0]
  srcF_eval [esF_forEntries]
  simp only [ne_eq, Nat.succ_ne_zero, not_false_eq_true, not_true_eq_false, decide_true, decide_false, ↓reduceIte,
    Bool.false_eq_true, Nat.one_ne_zero]
  have hbody : ∀ (e : Item × P) (st : St P), n + 1 ≥ st.s.size + st.s.heap.size + 5 →
      toCR fill0 (fun st' => st'.s)
        (fromCall ({ s := st.s, n := st.n, p := upd st.p 5 (some e.snd), v := upd st.v 4 (some (Val.item e.fst)) } : St P)
            none
            (callWithF (execF prog unwind fuse false (n + 1)) (exec prog (n + 1)) prog unwind FnId.pqPush st.s [] [e.snd]
              [Val.item e.fst]) >>= fun c =>
          pure (({ s := c.fst, n := st.n, p := upd st.p 5 (some e.snd), v := upd (upd st.v 4 (some (Val.item e.fst))) 6 (some c.snd) } : St P), (Flow.normal : Flow P)))
        = (fun r => (r.1, Flow.normal)) <$> Crash.MaxQ.pushF fuse st.s e.1 e.2 := by
    intro e st hb
    srcF_cr
    rw [call_pqPushF _ _ _ _ _ hb]
    srcF_cr
  by_cases hlo : lo = 0
  · subst hlo
    simp only [↓reduceIte, reserveC_zero, pure_bind, Bool.false_eq_true, decide_false, decide_true, not_true_eq_false, liftR_pure]
    exact loop _ _ rfl hbody
  · simp only [hlo, ↓reduceIte, not_false_eq_true, decide_true]
    rw [frame0_liftF_bind]
    refine liftR_bind_congr_ok fun _ _ => ?_
    by_cases hb : Arith.betterToRebuild s.size lo = true
    · simp only [hb, ↓reduceIte]
      srcF_cr [call_storeExtend]
      rw [call_pqHeapBuildF _ _ _ (by omega)]
      srcF_cr
    · simp only [hb, ↓reduceIte, Bool.false_eq_true]
      exact loop _ _ rfl hbody

theorem minByKeyF_post_shape (fuse : Nat) (s : Store P) (l : List (Nat × P)) :
    PostC (Crash.DQ.minByKeyF fuse s l) (fun r => Shape s r.1) :=
  byKeyF_post (minFoldF_isFoldF fuse) Shape Shape.refl (fun _ _ h => ⟨h.1, h.2⟩) s l
theorem maxByKeyF_post_shape (fuse : Nat) (s : Store P) (l : List (Nat × P)) :
    PostC (Crash.DQ.maxByKeyF fuse s l) (fun r => Shape s r.1) :=
  byKeyF_post (maxFoldF_isFoldF fuse) Shape Shape.refl (fun _ _ h => ⟨h.1, h.2⟩) s l

theorem dDownF_post_shape {byKey : Store P → List (Nat × P) → CR P (Store P × Option (Nat × P))} (fuse : Nat) (sw : Bool)
    (u p : Nat) (hk : ∀ s l, PostC (byKey s l) (fun r => Shape s r.1)) (s : Store P) (i : Nat) :
    PostC (dDownF fuse byKey sw u p s i) (fun r => Shape s r.1.1) := by
  unfold dDownF
  refine PostC.bind (PostC.triv _) fun cs _ => PostC.bind (hk s cs) fun r hr => ?_
  refine PostC.bind (PostC.triv _) fun c _ => PostC.bind (PostC.triv _) fun pc _ =>
    PostC.bind (PostC.triv _) fun pm _ => PostC.cmpF_bind ?_
  refine PostC.ite (fun _ => ?_) (fun _ => PostC.pure ⟨hr.1, hr.2⟩)
  refine PostC.bind (PostC.liftR (swap_post_shape _ _ _)) fun s1 h1 => PostC.ite (fun _ => ?_)
    (fun _ => PostC.pure ⟨h1.1.trans hr.1, h1.2.trans hr.2⟩)
  refine PostC.bind (PostC.triv _) fun p _ => PostC.bind (PostC.triv _) fun _ _ => PostC.bind (PostC.triv _) fun _ _ =>
    PostC.cmpF_bind ?_
  dsimp only
  have hs1 : Shape s s1 := ⟨h1.1.trans hr.1, h1.2.trans hr.2⟩
  refine PostC.ite (fun _ => PostC.bind (PostC.liftR (swap_post_shape _ _ _)) fun s2 h2 => PostC.pure ?_)
    (fun _ => PostC.bind (PostC.pure (Q := fun (s2 : Store P) => Shape s s2) ⟨hs1.1, hs1.2⟩) fun s2 h2 => PostC.pure h2)
  exact ⟨h2.1.trans hs1.1, h2.2.trans hs1.2⟩

theorem heapifyMinLoopF_post_shape (fuse : Nat) (f : Nat) (s : Store P) (i : Nat) :
    PostC (Crash.DQ.heapifyMinLoopF fuse f s i) (Shape s) :=
  downLoop_post (heapifyMinLoopF_isDownLoop fuse) Shape Shape.refl (fun _ _ _ h1 h2 => h1.trans h2)
    (dDownF_post_shape fuse _ _ _ (minByKeyF_post_shape fuse)) f s i
theorem heapifyMaxLoopF_post_shape (fuse : Nat) (f : Nat) (s : Store P) (i : Nat) :
    PostC (Crash.DQ.heapifyMaxLoopF fuse f s i) (Shape s) :=
  downLoop_post (heapifyMaxLoopF_isDownLoop fuse) Shape Shape.refl (fun _ _ _ h1 h2 => h1.trans h2)
    (dDownF_post_shape fuse _ _ _ (maxByKeyF_post_shape fuse)) f s i

theorem dq_heapifyF_post_shape (fuse : Nat) (s : Store P) (i : Nat) : PostC (Crash.DQ.heapifyF fuse s i) (Shape s) := by
  unfold Crash.DQ.heapifyF
  exact PostC.ite (fun _ => PostC.pure (Shape.refl s)) fun _ =>
    PostC.ite (fun _ => heapifyMinLoopF_post_shape _ _ _ _) (fun _ => heapifyMaxLoopF_post_shape _ _ _ _)

theorem bubbleUpMinLoopF_post_shape (fuse mp : Nat) (f : Nat) : ∀ (s : Store P) (pos : Nat) (prio : P),
    PostC (Crash.DQ.bubbleUpMinLoopF fuse mp f s pos prio) (fun r => Shape s r.1) := by
  induction f with
  | zero => intro s pos prio r hr; cases hr
  | succ f ih =>
    intro s pos prio
    rw [Crash.DQ.bubbleUpMinLoopF]
    refine PostC.ite (fun _ => ?_) (fun _ => PostC.pure (Shape.refl s))
    refine PostC.bind (PostC.triv _) fun pp _ => PostC.cmpHoleF_bind ?_
    refine PostC.ite (fun _ => ?_) (fun _ => PostC.pure ⟨rfl, rfl⟩)
    refine PostC.bind (PostC.triv _) fun _ _ => PostC.bind (PostC.liftR (setU_post_size _ _ _ _)) fun heap hh =>
      PostC.bind (PostC.triv _) fun _ _ => ?_
    intro r hr
    have := ih _ _ _ r hr
    exact ⟨this.1, this.2.trans hh⟩

theorem bubbleUpMaxLoopF_post_shape (fuse mp : Nat) (f : Nat) : ∀ (s : Store P) (pos : Nat) (prio : P),
    PostC (Crash.DQ.bubbleUpMaxLoopF fuse mp f s pos prio) (fun r => Shape s r.1) := by
  induction f with
  | zero => intro s pos prio r hr; cases hr
  | succ f ih =>
    intro s pos prio
    rw [Crash.DQ.bubbleUpMaxLoopF]
    refine PostC.ite (fun _ => ?_) (fun _ => PostC.pure (Shape.refl s))
    refine PostC.bind (PostC.triv _) fun pp _ => PostC.cmpHoleF_bind ?_
    refine PostC.ite (fun _ => ?_) (fun _ => PostC.pure ⟨rfl, rfl⟩)
    refine PostC.bind (PostC.triv _) fun _ _ => PostC.bind (PostC.liftR (setU_post_size _ _ _ _)) fun heap hh =>
      PostC.bind (PostC.triv _) fun _ _ => ?_
    intro r hr
    have := ih _ _ _ r hr
    exact ⟨this.1, this.2.trans hh⟩

theorem dq_bubbleUpF_post_shape (fuse : Nat) (s : Store P) (pos mp : Nat) :
    PostC (Crash.DQ.bubbleUpF fuse s pos mp) (fun r => Shape s r.1) := by
  unfold Crash.DQ.bubbleUpF
  refine PostC.bind (PostC.triv _) fun e _ => ?_
  dsimp only
  have tail : ∀ (x : Store P × Nat), Shape s x.1 → PostC (do
      let heap ← liftR (setU x.1.heap x.2 mp 316)
      let qp ← liftR (setU x.1.qp mp x.2 317)
      pure (({ x.1 with heap := heap, qp := qp } : Store P), x.2) : CR P (Store P × Nat)) (fun r => Shape s r.1) :=
    fun x hx => PostC.bind (PostC.liftR (setU_post_size _ _ _ _)) fun heap hh => PostC.bind (PostC.triv _) fun _ _ =>
      PostC.pure ⟨hx.1, hh.trans hx.2⟩
  have hmin : ∀ (s' : Store P) p, Shape s s' → PostC (Crash.DQ.bubbleUpMinF fuse s' p mp) (fun r => Shape s r.1) := by
    intro s' p hs'
    unfold Crash.DQ.bubbleUpMinF
    refine PostC.bind (PostC.triv _) fun e _ => ?_
    intro r hr
    exact hs'.trans (bubbleUpMinLoopF_post_shape _ _ _ _ _ _ r hr)
  have hmax : ∀ (s' : Store P) p, Shape s s' → PostC (Crash.DQ.bubbleUpMaxF fuse s' p mp) (fun r => Shape s r.1) := by
    intro s' p hs'
    unfold Crash.DQ.bubbleUpMaxF
    refine PostC.bind (PostC.triv _) fun e _ => ?_
    intro r hr
    exact hs'.trans (bubbleUpMaxLoopF_post_shape _ _ _ _ _ _ r hr)
  refine PostC.ite (fun _ => ?_)
    (fun _ => PostC.bind (PostC.pure (Q := fun (r : Store P × Nat) => Shape s r.1) (Shape.refl s)) tail)
  refine PostC.bind (PostC.triv _) fun pp _ => PostC.bind (PostC.triv _) fun pi _ => PostC.cmpHoleF_bind ?_
  dsimp only
  split
  · exact PostC.bind (PostC.liftR (setU_post_size _ _ _ _)) fun _ hh => PostC.bind (PostC.triv _) fun _ _ =>
      PostC.bind (hmax _ _ ⟨rfl, hh⟩) tail
  · exact PostC.bind (hmin _ _ ⟨rfl, rfl⟩) tail
  · exact PostC.bind (hmax _ _ ⟨rfl, rfl⟩) tail
  · exact PostC.bind (PostC.liftR (setU_post_size _ _ _ _)) fun _ hh => PostC.bind (PostC.triv _) fun _ _ =>
      PostC.bind (hmin _ _ ⟨rfl, hh⟩) tail

theorem dq_upHeapifyF_post_shape (fuse : Nat) (s : Store P) (i : Nat) : PostC (Crash.DQ.upHeapifyF fuse s i) (Shape s) := by
  unfold Crash.DQ.upHeapifyF
  split
  · exact PostC.pure (Shape.refl s)
  · refine PostC.bind (dq_bubbleUpF_post_shape _ _ _ _) fun r hr => ?_
    obtain ⟨s1, pos⟩ := r
    dsimp only
    refine PostC.ite (fun _ => PostC.bind (dq_heapifyF_post_shape _ _ _) fun s2 h2 => ?_)
      (fun _ => PostC.bind (PostC.pure (Q := fun (s2 : Store P) => Shape s1 s2) (Shape.refl s1)) fun s2 h2 => ?_)
    · intro s3 hs3
      exact (hr.trans h2).trans (dq_heapifyF_post_shape _ _ _ s3 hs3)
    · intro s3 hs3
      exact (hr.trans h2).trans (dq_heapifyF_post_shape _ _ _ s3 hs3)

theorem dq_pushF_post_grow (fuse : Nat) (s : Store P) (it : Item) (p : P) :
    PostC (Crash.DQ.pushF fuse s it p) (fun r => r.1.size ≤ s.size + 1 ∧ r.1.heap.size ≤ s.heap.size + 1) := by
  unfold Crash.DQ.pushF
  cases hf : IMap.find? s.map it.key with
  | none =>
    rw [IMap.insertFull_of_find?_none hf]
    refine PostC.bind (dq_bubbleUpF_post_shape _ _ _ _) fun r hr => PostC.pure ?_
    obtain ⟨h1, h2⟩ := hr
    simp only [Array.size_push] at h1 h2 ⊢
    omega
  | some i =>
    obtain ⟨e, he, _⟩ := IMap.find?_getElem? hf
    rw [IMap.insertFull_of_find?_some hf he]
    refine PostC.bind (PostC.triv _) fun pos _ => PostC.bind (dq_upHeapifyF_post_shape _ _ _) fun s' hs' => PostC.pure ?_
    obtain ⟨h1, h2⟩ := hs'
    simp only at h1 h2 ⊢
    omega

/-- `Extend for DoublePriorityQueue` under a panicking comparison = `Crash.DQ.extendF` (rebuild strategy: the store-level extend
of all pairs is complete; push strategy: the pushes done so far are complete) -/
theorem dqExtendF (fuse : Nat) (s : Store P) (lo : Nat) (xs : Array (Item × P)) (fuel : Nat)
    (h : fuel ≥ s.size + s.heap.size + 2 * xs.size + (s.extend xs).size + 8) :
    runF prog unwind fuse false fuel .dqExtend s [] [] [Val.iter lo xs]
      = (fun s' => (s', Val.unit)) <$> Crash.DQ.extendF fuse s lo xs := by
  obtain ⟨n, rfl⟩ := exists_eq_add 2 h (by decide)
  rw [runF_frame0 prog unwind fuse false (n + 1) .dqExtend _ s _ _ _ rfl rfl]
  unfold Crash.DQ.extendF
  rw [execF, dqExtend_body]
  have loop : ∀ (st0 : St P) (bodyF : Item × P → St P → CF P (St P × Flow P)), st0.s = s →
      (∀ e st, n + 1 ≥ st.s.size + st.s.heap.size + 6 →
        toCR fill0 (fun st' => st'.s) (bodyF e st)
          = (fun r => (r.1, Flow.normal)) <$> Crash.DQ.pushF fuse st.s e.1 e.2) →
      frame0 (forListF bodyF xs.toList st0) = (fun s' => (s', Val.unit)) <$> Crash.DQ.pushAllF fuse xs.toList s := by
    intro st0 bodyF h0 hbody
    refine frame0_of_toCR _ _ ?_
    have := forListF_pushAllF (n + 1) 6 bodyF (Crash.DQ.pushF fuse) (Crash.DQ.pushAllF fuse)
      (dq_pushF_post_grow fuse) (fun _ => rfl) (fun _ _ _ => rfl) hbody xs.toList st0
      (by rw [h0]; simp only [Array.length_toList]; omega)
    rw [this, h0]
  srcF_eval [esF_forEntries]
  simp only [ne_eq, Nat.succ_ne_zero, not_false_eq_true, not_true_eq_false, decide_true, decide_false, ↓reduceIte,
    Bool.false_eq_true, Nat.one_ne_zero]
  have hbody : ∀ (e : Item × P) (st : St P), n + 1 ≥ st.s.size + st.s.heap.size + 6 →
      toCR fill0 (fun st' => st'.s)
        (fromCall ({ s := st.s, n := st.n, p := upd st.p 5 (some e.snd), v := upd st.v 4 (some (Val.item e.fst)) } : St P)
            none
            (callWithF (execF prog unwind fuse false (n + 1)) (exec prog (n + 1)) prog unwind FnId.dqPush st.s [] [e.snd]
              [Val.item e.fst]) >>= fun c =>
          pure (({ s := c.fst, n := st.n, p := upd st.p 5 (some e.snd), v := upd (upd st.v 4 (some (Val.item e.fst))) 6 (some c.snd) } : St P), (Flow.normal : Flow P)))
        = (fun r => (r.1, Flow.normal)) <$> Crash.DQ.pushF fuse st.s e.1 e.2 := by
    intro e st hb
    srcF_cr
    rw [call_dqPushF _ _ _ _ _ hb]
    srcF_cr
  by_cases hlo : lo = 0
  · subst hlo
    simp only [↓reduceIte, reserveC_zero, pure_bind, Bool.false_eq_true, decide_false, decide_true, not_true_eq_false, liftR_pure]
    exact loop _ _ rfl hbody
  · simp only [hlo, ↓reduceIte, not_false_eq_true, decide_true]
    rw [frame0_liftF_bind]
    refine liftR_bind_congr_ok fun _ _ => ?_
    by_cases hb : Arith.betterToRebuild s.size lo = true
    · simp only [hb, ↓reduceIte]
      srcF_cr [call_storeExtend]
      rw [call_dqHeapBuildF _ _ _ (by omega)]
      srcF_cr
    · simp only [hb, ↓reduceIte, Bool.false_eq_true]
      exact loop _ _ rfl hbody
end PQ.SrcEquivF
