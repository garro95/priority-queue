import PQ.Lemmas.Defs
import PQ.Lemmas.Monad
/-!
# Characterising lemmas for the array primitives of the model
-/
namespace PQ
variable {α : Type}

theorem getU_ok {a : Array α} {i site : Nat} {x : α} (h : a[i]? = some x) : getU a i site = .ok x := by
  simp [getU, h]

theorem getU_eq_ok_iff {a : Array α} {i site : Nat} {x : α} : getU a i site = .ok x ↔ a[i]? = some x := by
  unfold getU; split <;> simp_all

theorem getU_error {a : Array α} {i site : Nat} {f : Fault} (h : getU a i site = .error f) : f = .oob site ∧ a.size ≤ i := by
  unfold getU at h; split at h <;> simp_all

theorem setU_ok {a : Array α} {i site : Nat} (v : α) (h : i < a.size) : setU a i v site = .ok (a.setIfInBounds i v) := by
  simp [setU, h]

theorem setU_eq_ok_iff {a b : Array α} {i site : Nat} {v : α} : setU a i v site = .ok b ↔ i < a.size ∧ b = a.setIfInBounds i v := by
  unfold setU; split
  · constructor
    · intro h; injection h with h; exact ⟨by assumption, h.symm⟩
    · rintro ⟨_, rfl⟩; rfl
  · constructor
    · intro h; cases h
    · rintro ⟨h, _⟩; omega

theorem swapC_ok {a : Array α} {i j site : Nat} {x y : α} (hi : a[i]? = some x) (hj : a[j]? = some y) :
    swapC a i j site = .ok ((a.setIfInBounds i y).setIfInBounds j x) := by
  simp [swapC, hi, hj]

theorem swapC_eq_ok_iff {a b : Array α} {i j site : Nat} :
    swapC a i j site = .ok b ↔ ∃ x y, a[i]? = some x ∧ a[j]? = some y ∧ b = (a.setIfInBounds i y).setIfInBounds j x := by
  unfold swapC; split
  · rename_i x y hx hy
    constructor
    · intro h; injection h with h; exact ⟨x, y, hx, hy, h.symm⟩
    · rintro ⟨x', y', hx', hy', rfl⟩
      rw [hx] at hx'; rw [hy] at hy'; cases hx'; cases hy'; rfl
  · rename_i hn
    constructor
    · intro h; cases h
    · rintro ⟨x, y, hx, hy, _⟩; exact absurd hy (hn x y hx)

theorem swapRemoveC_eq_ok_iff {a b : Array α} {i site : Nat} {x : α} :
    swapRemoveC a i site = .ok (x, b) ↔ ∃ l, a[i]? = some x ∧ a.back? = some l ∧ b = (a.setIfInBounds i l).pop := by
  unfold swapRemoveC; split
  · rename_i x' l hx hl
    constructor
    · intro h; injection h with h; injection h with h1 h2
      subst h1; exact ⟨l, hx, hl, h2.symm⟩
    · rintro ⟨l', hx', hl', rfl⟩
      rw [hx] at hx'; rw [hl] at hl'; cases hx'; cases hl'; rfl
  · rename_i hn
    constructor
    · intro h; cases h
    · rintro ⟨l, hx, hl, _⟩; exact absurd hl (hn x l hx)

theorem unwrapO_eq_ok_iff {o : Option α} {site : Nat} {x : α} : unwrapO o site = .ok x ↔ o = some x := by
  unfold unwrapO; split <;> simp_all

theorem decC_eq_ok_iff {x y site : Nat} : decC x site = .ok y ↔ 0 < x ∧ y = x - 1 := by
  unfold decC; split <;> simp_all [eq_comm] <;> omega

/-- `some`-valued lookups are in range -/
theorem lt_size_of_getElem? {a : Array α} {i : Nat} {x : α} (h : a[i]? = some x) : i < a.size := by
  have := Array.getElem?_eq_some_iff.mp h; exact this.1

theorem getElem?_pop' (a : Array α) (i : Nat) : a.pop[i]? = if i < a.size - 1 then a[i]? else none := by
  simp [Array.getElem?_pop]

theorem back?_eq (a : Array α) : a.back? = a[a.size - 1]? := by
  simp [Array.back?]

/-! ## the capacity request -/

theorem reserveC_of_lt {n : Nat} (h : n < capLimit) : reserveC n = .ok () := by
  unfold reserveC; rw [if_neg (by omega)]; rfl

theorem reserveC_of_ge {n : Nat} (h : capLimit ≤ n) : reserveC n = .error .capacity := by
  unfold reserveC; rw [if_pos h]

/-- `reserveC` has two outcomes: the request is granted (no effect) or it is the capacity-overflow panic -/
theorem reserveC_cases (n : Nat) : (n < capLimit ∧ reserveC n = .ok ()) ∨ (capLimit ≤ n ∧ reserveC n = .error .capacity) := by
  by_cases h : n < capLimit
  · exact .inl ⟨h, reserveC_of_lt h⟩
  · exact .inr ⟨by omega, reserveC_of_ge (by omega)⟩

theorem reserveC_zero : reserveC 0 = .ok () := reserveC_of_lt (by decide)

/-- the capped pre-allocation of the deserializer is always granted -/
theorem reserveC_min_4096 (h : Nat) : reserveC (min h 4096) = .ok () :=
  reserveC_of_lt (Nat.lt_of_le_of_lt (Nat.min_le_right h 4096) (by decide))

theorem reserveC_bind_of_lt {α : Type} {n : Nat} (x : R α) (h : n < capLimit) :
    (reserveC n >>= fun _ => x) = x := by rw [reserveC_of_lt h]; rfl

theorem reserveC_bind_of_ge {α : Type} {n : Nat} (x : R α) (h : capLimit ≤ n) :
    (reserveC n >>= fun _ => x) = .error .capacity := by rw [reserveC_of_ge h]; rfl

theorem reserveC_bind_eq_ok {α : Type} {n : Nat} {x : R α} {a : α} :
    (reserveC n >>= fun _ => x) = .ok a ↔ n < capLimit ∧ x = .ok a := by
  rcases reserveC_cases n with ⟨h, _⟩ | ⟨h, _⟩
  · rw [reserveC_bind_of_lt x h]; exact ⟨fun hx => ⟨h, hx⟩, fun hx => hx.2⟩
  · rw [reserveC_bind_of_ge x h]
    constructor
    · intro hx; cases hx
    · intro hx; omega

end PQ
