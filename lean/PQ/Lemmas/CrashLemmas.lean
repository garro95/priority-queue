import PQ.Lemmas.History
import PQ.Model.Crash
/-!
# The fused twins of `PQ/Model/Crash.lean`: every crash state is well-formed (property C10)

The central notion is `CrOut x y Q` — *the outcome of the fused computation `x` relative to its plain original `y`*:
either the fuse did not fire and `x` **is** `y` (lifted with `liftR`), or the fuse fired and `x` stopped with
`Stop.crashed s'` where `Q s'`.  For every twin `fF` of `Crash.lean` that does more than call `heapBuildF` there is a lemma

  `cr_… : (invariant of the input) → CrOut (fF fuse …) (f …) (fun s' => s'.WF ∧ …)`

Together with the `*_safe` lemma of the plain function (`f … = .ok r ∧ post r`) this yields the three clauses
(`cr_three`): `fF … = .ok r' → r' = r` (hence every postcondition of the plain function), `fF … = .crashed s' → Q s'`, and
`fF …` is neither a model fault nor `crashedNew`.  The second half of the file is erasure: with `fuse = 0` every twin is the
lifted plain function, for every store (`cr_er_…`, `cr_stepF_zero`).

`TWF n` / `WF` (tables of length `n` / `size`): `Lemmas/Defs.lean`; `HoleTWF` (tables with a hole): `Lemmas/SiftUp.lean`;
`QWF`, `Op.Legal`: `Lemmas/History.lean`, `Model/Ops.lean`.
-/
set_option linter.unusedSectionVars false
namespace PQ.Crash
open PQ PQ.Arith PQ.Store

/-! ## The relational outcome `CrOut` and its rules (no hypotheses on the order) -/
section Rules
variable {P : Type} [LT P] [DecidableLT P]

/-- the fused computation `x` either is the plain computation `y`, or crashed into a store satisfying `Q` -/
def CrOut {α : Type} (x : CR P α) (y : R α) (Q : Store P → Prop) : Prop :=
  x = liftR y ∨ ∃ s', x = .error (.crashed s') ∧ Q s'

theorem cr_error_bind {ε α β : Type} (e : ε) (f : α → Except ε β) : ((Except.error e : Except ε α) >>= f) = .error e := rfl
theorem cr_pure_eq {ε α : Type} (a : α) : (pure a : Except ε α) = .ok a := rfl

theorem cr_lift {α : Type} (y : R α) (Q : Store P → Prop) : CrOut (liftR y : CR P α) y Q := Or.inl rfl

theorem cr_pure {α : Type} (a : α) (Q : Store P → Prop) : CrOut (pure a : CR P α) (pure a) Q := Or.inl rfl

theorem cr_ok {α : Type} (a : α) (Q : Store P → Prop) : CrOut (.ok a : CR P α) (.ok a) Q := Or.inl rfl

theorem cr_crashed {α : Type} {s' : Store P} {y : R α} {Q : Store P → Prop} (h : Q s') :
    CrOut (.error (.crashed s') : CR P α) y Q := Or.inr ⟨s', rfl, h⟩

theorem CrOut.mono {α : Type} {x : CR P α} {y : R α} {Q Q' : Store P → Prop} (h : CrOut x y Q)
    (hQ : ∀ s', Q s' → Q' s') : CrOut x y Q' :=
  h.imp_right fun ⟨s', h, hq⟩ => ⟨s', h, hQ s' hq⟩

/-- sequencing: the continuation only has to be related on the values the plain computation can return -/
theorem CrOut.bind {α β : Type} {x : CR P α} {y : R α} {f : α → CR P β} {g : α → R β} {Q : Store P → Prop}
    (h : CrOut x y Q) (hfg : ∀ a, y = .ok a → CrOut (f a) (g a) Q) : CrOut (x >>= f) (y >>= g) Q := by
  rcases h with h | ⟨s', h, hq⟩
  · rw [h]
    cases y with
    | error e => exact Or.inl rfl
    | ok a => exact hfg a rfl
  · rw [h]; exact Or.inr ⟨s', rfl, hq⟩

/-- sequencing when the value of the plain step is known -/
theorem CrOut.bind_val {α β : Type} {x : CR P α} {y : R α} {a : α} {f : α → CR P β} {g : α → R β}
    {Q : Store P → Prop} (h : CrOut x y Q) (hy : y = .ok a) (hf : CrOut (f a) (g a) Q) : CrOut (x >>= f) (y >>= g) Q :=
  h.bind fun _ e => (Except.ok.inj (hy.symm.trans e)) ▸ hf

/-- a fused step followed by a repackaging of its result -/
theorem CrOut.ret {α β : Type} {x : CR P α} {y : R α} {Q Q' : Store P → Prop} (h : CrOut x y Q)
    (hQ : ∀ s', Q s' → Q' s') (c : α → β) : CrOut (x >>= fun a => pure (c a)) (y >>= fun a => pure (c a)) Q' :=
  (h.mono hQ).bind fun _ _ => cr_pure _ _

/-- a lifted plain step -/
theorem cr_bind_lift {α β : Type} {y : R α} {f : α → CR P β} {g : α → R β} {Q : Store P → Prop}
    (hfg : ∀ a, y = .ok a → CrOut (f a) (g a) Q) : CrOut (liftR y >>= f) (y >>= g) Q :=
  (cr_lift y Q).bind hfg

/-- a lifted plain step whose value is known -/
theorem cr_bind_val {α β : Type} {y : R α} {a : α} {f : α → CR P β} {g : α → R β} {Q : Store P → Prop}
    (hy : y = .ok a) (hf : CrOut (f a) (g a) Q) : CrOut (liftR y >>= f) (y >>= g) Q :=
  (cr_lift y Q).bind_val hy hf

/-- a fused step whose plain counterpart has the same continuation but is known to succeed with `a` -/
theorem CrOut.bind_ok {α β : Type} {x : CR P α} {y : R α} {a : α} {f : α → CR P β} {z : R β} {Q : Store P → Prop}
    (h : CrOut x y Q) (hy : y = .ok a) (hf : CrOut (f a) z Q) : CrOut (x >>= f) z Q := by
  rcases h with h | ⟨s', h, hq⟩
  · rw [h, hy]; exact hf
  · rw [h]; exact Or.inr ⟨s', rfl, hq⟩

theorem cr_ite {α : Type} {c : Prop} [Decidable c] {a b : CR P α} {a' b' : R α} {Q : Store P → Prop}
    (ht : c → CrOut a a' Q) (hf : ¬ c → CrOut b b' Q) : CrOut (if c then a else b) (if c then a' else b') Q := by
  split
  · exact ht ‹_›
  · exact hf ‹_›

/-- a comparison site without a guard: the crash state is the current store -/
theorem cr_cmp {β : Type} {fuse : Nat} {s : Store P} {a b : P} {f : Store P × Bool → CR P β} {z : R β}
    {Q : Store P → Prop} (hQ : Q s) (h : CrOut (f (s.tick, decide (a < b))) z Q) :
    CrOut (cmpF fuse s a b >>= f) z Q := by
  unfold cmpF
  split
  · exact Or.inr ⟨s, rfl, hQ⟩
  · exact h

/-- a comparison site under a live `Hole` guard: the crash state is the store with the hole filled -/
theorem cr_cmpHole {β : Type} {fuse : Nat} {s s1 : Store P} {a b : P} {pos mp sh sq : Nat}
    {f : Store P × Bool → CR P β} {z : R β} {Q : Store P → Prop}
    (hfill : fillHole s pos mp sh sq = .ok s1) (hQ : Q s1) (h : CrOut (f (s.tick, decide (a < b))) z Q) :
    CrOut (cmpHoleF fuse s a b pos mp sh sq >>= f) z Q := by
  unfold cmpHoleF
  split
  · rw [hfill]; exact Or.inr ⟨s1, rfl, hQ⟩
  · exact h

/-- the three clauses of the header from a `CrOut` fact and the success of the plain function -/
theorem cr_three {α : Type} {x : CR P α} {y : R α} {Q : Store P → Prop} {r : α} (h : CrOut x y Q) (hy : y = .ok r) :
    (∀ r', x = .ok r' → r' = r) ∧ (∀ s', x = .error (.crashed s') → Q s') ∧ (∀ f, x ≠ .error (.fault f)) ∧
      x ≠ .error .crashedNew := by
  rcases h with h | ⟨s', h, hq⟩
  · rw [h, hy]
    refine ⟨fun r' e => ?_, fun s' e => ?_, fun f e => ?_, fun e => ?_⟩ <;> cases e
    rfl
  · rw [h]
    refine ⟨fun r' e => ?_, fun s'' e => ?_, fun f e => ?_, fun e => ?_⟩ <;> cases e
    exact hq

/-- … in the form "ok with the plain result, or crashed into `Q`" -/
theorem CrOut.cases {α : Type} {x : CR P α} {y : R α} {Q : Store P → Prop} {r : α} (h : CrOut x y Q) (hy : y = .ok r) :
    x = .ok r ∨ ∃ s', x = .error (.crashed s') ∧ Q s' :=
  h.imp_left fun h => by rw [h, hy]; rfl

/-- the crash clause alone needs nothing of the plain computation -/
theorem CrOut.crashed {α : Type} {x : CR P α} {y : R α} {Q : Store P → Prop} {s' : Store P} (h : CrOut x y Q)
    (hc : x = .error (.crashed s')) : Q s' := by
  rcases h with h | ⟨s'', h, hq⟩
  · rw [h] at hc; cases y <;> cases hc
  · rw [h] at hc; cases hc; exact hq

/-- the guard's two writes succeed on `HoleTWF` tables and restore well-formed tables -/
theorem cr_fillHole {s : Store P} {n hole idx : Nat} (h : s.HoleTWF n hole idx) (sh sq : Nat) :
    ∃ s1, fillHole s hole idx sh sq = .ok s1 ∧ s1.TWF n ∧ s1.map = s.map ∧ s1.size = s.size ∧ s1.ticks = s.ticks := by
  have h1 : hole < s.heap.size := by rw [h.heap_size]; exact h.hole_lt
  have h2 : idx < s.qp.size := by rw [h.qp_size]; exact h.idx_lt
  refine ⟨{ s with heap := s.heap.setIfInBounds hole idx, qp := s.qp.setIfInBounds idx hole }, ?_, h.fill, rfl, rfl, rfl⟩
  simp [fillHole, setU_ok _ h1, setU_ok _ h2, bind, Except.bind, pure, Except.pure]

/-! ### `bubble_up` neither reads nor writes `size` (this is why `pushF`, which bumps `size` before the sift-up as the
crate does, agrees with the plain `push`, which bumps it afterwards) -/

/-- overwrite `size` in the store of a sift-up result -/
def withSize (m : Nat) (r : Store P × Nat) : Store P × Nat := ({ r.1 with size := m }, r.2)

theorem cr_map_bind {ε α β γ : Type} (g : β → γ) (x : Except ε α) (f : α → Except ε β) :
    Except.map g (x >>= f) = x >>= fun a => Except.map g (f a) := by cases x <;> rfl
theorem cr_bind_map {ε α β γ : Type} (g : α → β) (x : Except ε α) (f : β → Except ε γ) :
    (Except.map g x >>= f) = x >>= fun a => f (g a) := by cases x <;> rfl
theorem cr_map_ite {ε β γ : Type} (g : β → γ) (c : Prop) [Decidable c] (a b : Except ε β) :
    Except.map g (if c then a else b) = if c then Except.map g a else Except.map g b := by split <;> rfl
theorem cr_map_pure {ε β γ : Type} (g : β → γ) (b : β) : Except.map g (pure b : Except ε β) = pure (g b) := rfl

/- The loops are stated on the fields of the store, with the induction hypothesis used from right to left: this lets
`simp` push `Except.map` through the unfolded body and close the step. -/
theorem cr_pq_bubbleUpLoop_size (m : Nat) (v : P) (fuel : Nat) : ∀ (mp : IMap P) (hp qp : Array Nat) (n tk hole : Nat),
    PQ.MaxQ.bubbleUpLoop fuel ⟨mp, hp, qp, m, tk⟩ hole v =
      (PQ.MaxQ.bubbleUpLoop fuel ⟨mp, hp, qp, n, tk⟩ hole v).map (withSize m) := by
  induction fuel with
  | zero => intros; rfl
  | succ fuel ih =>
    intros
    simp only [PQ.MaxQ.bubbleUpLoop, cr_map_bind, cr_map_ite, cr_map_pure, Store.prioAt, Store.tick, withSize, ← ih]

theorem cr_pq_bubbleUp_size (m : Nat) (s : Store P) (i idx : Nat) :
    PQ.MaxQ.bubbleUp { s with size := m } i idx = (PQ.MaxQ.bubbleUp s i idx).map (withSize m) := by
  simp only [PQ.MaxQ.bubbleUp, cr_pq_bubbleUpLoop_size m _ _ s.map s.heap s.qp s.size, cr_map_bind, cr_bind_map,
    cr_map_pure, withSize]

theorem cr_dq_bubbleUpMinLoop_size (m : Nat) (v : P) (fuel : Nat) :
    ∀ (mp : IMap P) (hp qp : Array Nat) (n tk hole : Nat),
    PQ.DQ.bubbleUpMinLoop fuel ⟨mp, hp, qp, m, tk⟩ hole v =
      (PQ.DQ.bubbleUpMinLoop fuel ⟨mp, hp, qp, n, tk⟩ hole v).map (withSize m) := by
  induction fuel with
  | zero => intros; rfl
  | succ fuel ih =>
    intros
    simp only [PQ.DQ.bubbleUpMinLoop, cr_map_bind, cr_map_ite, cr_map_pure, Store.prioAt, Store.tick, withSize, ← ih]

theorem cr_dq_bubbleUpMaxLoop_size (m : Nat) (v : P) (fuel : Nat) :
    ∀ (mp : IMap P) (hp qp : Array Nat) (n tk hole : Nat),
    PQ.DQ.bubbleUpMaxLoop fuel ⟨mp, hp, qp, m, tk⟩ hole v =
      (PQ.DQ.bubbleUpMaxLoop fuel ⟨mp, hp, qp, n, tk⟩ hole v).map (withSize m) := by
  induction fuel with
  | zero => intros; rfl
  | succ fuel ih =>
    intros
    simp only [PQ.DQ.bubbleUpMaxLoop, cr_map_bind, cr_map_ite, cr_map_pure, Store.prioAt, Store.tick, withSize, ← ih]

theorem cr_dq_bubbleUp_size (m : Nat) (s : Store P) (i idx : Nat) :
    PQ.DQ.bubbleUp { s with size := m } i idx = (PQ.DQ.bubbleUp s i idx).map (withSize m) := by
  simp only [PQ.DQ.bubbleUp, Store.tick, Store.prioAt, cr_map_bind, cr_map_ite]
  apply bind_congr; intro e
  split
  · simp only [bind_assoc]
    apply bind_congr; intro hi
    apply bind_congr; intro en
    simp only [pure_bind]
    apply bind_congr; intro pi
    cases decide (level i % 2 = 0) <;> cases decide (en.2 < e.2) <;>
      simp only [PQ.DQ.bubbleUpMin, PQ.DQ.bubbleUpMax, cr_dq_bubbleUpMinLoop_size m _ _ _ _ _ s.size,
        cr_dq_bubbleUpMaxLoop_size m _ _ _ _ _ s.size, cr_map_bind, cr_bind_map, bind_assoc, cr_map_pure, withSize]
  · simp only [pure_bind, cr_map_pure, withSize]

/-- a sift-up that does not read `size` may run before or after `push` bumps it -/
theorem cr_bump_first {B : Store P → Nat → Nat → R (Store P × Nat)}
    (hB : ∀ m s i idx, B { s with size := m } i idx = (B s i idx).map (withSize m)) (s : Store P) (i idx : Nat) :
    (B s i idx >>= fun x => pure ({ x.1 with size := x.1.size + 1 }, (none : Option P))) =
      (B { s with size := s.size + 1 } i idx >>= fun x => pure (x.1, none)) := by
  have h0 := hB s.size s i idx
  rw [hB (s.size + 1), cr_bind_map]
  cases hb : B s i idx with
  | error e => rfl
  | ok r =>
    have hsz : r.1.size = s.size := by
      rw [show ({ s with size := s.size } : Store P) = s from rfl, hb] at h0
      exact congrArg (·.1.size) (Except.ok.inj h0)
    simp only [ok_bind, withSize, hsz]

end Rules

section Safe
variable {P : Type} [LT P] [DecidableLT P] [LE P] [Std.IsLinearPreorder P] [Std.LawfulOrderLT P]

/-! ## `priority_queue/mod.rs`: the sifting procedures -/

omit [LE P] [Std.IsLinearPreorder P] [Std.LawfulOrderLT P] in
/-- `pickLargestF` writes nothing: a crash leaves the store with only the ghost counter advanced -/
theorem cr_pq_pickLargestF (fuse : Nat) (s : Store P) (i : Nat) :
    CrOut (MaxQ.pickLargestF fuse s i) (PQ.MaxQ.pickLargest s i) (fun s' => ∃ k, s' = s.tick k) := by
  unfold MaxQ.pickLargestF PQ.MaxQ.pickLargest
  refine cr_bind_lift fun ip _ => cr_ite (fun _ => ?_) fun _ => cr_pure _ _
  refine cr_bind_lift fun childp _ => cr_cmp ⟨0, rfl⟩ ?_
  simp only [decide_eq_true_eq]
  refine cr_ite (fun _ => ?_) fun _ => cr_pure _ _
  refine cr_bind_lift fun rp _ => cr_cmp ⟨1, rfl⟩ ?_
  simp only [decide_eq_true_eq]
  exact cr_pure _ _

/-- the sift-down loop: swap-based, a crash leaves every swap done so far complete -/
theorem cr_pq_heapifyLoopF (fuse fuel : Nat) : ∀ (s : Store P) (i : Nat), s.WF → i < s.size →
    CrOut (MaxQ.heapifyLoopF fuse fuel s i) (PQ.MaxQ.heapifyLoop fuel s i)
      (fun s' => s'.WF ∧ s'.map = s.map ∧ s'.size = s.size) := by
  induction fuel with
  | zero => intros; exact Or.inl rfl
  | succ fuel ih =>
    intro s i h hi
    obtain ⟨k, L, hpick, _, hL, hLc⟩ := PQ.MaxQ.pickLargest_safe h hi
    simp only [MaxQ.heapifyLoopF, PQ.MaxQ.heapifyLoop]
    refine ((cr_pq_pickLargestF fuse s i).mono ?_).bind_val hpick (cr_ite (fun _ => cr_pure _ _) fun hLi => ?_)
    · rintro s' ⟨k', rfl⟩; exact ⟨tick_TWF.mpr h, rfl, rfl⟩
    · obtain ⟨s1, hswap, h1wf, h1map, h1size, _, _⟩ := swap_spec h hi hL
      have h1wf' : s1.WF := WF.of_TWF_size h1wf h1size
      refine cr_bind_val (a := s1.tick k) (by rw [swap_tick, hswap]) ?_
      refine (ih (s1.tick k) L (tick_TWF.mpr h1wf') (by simpa [h1size] using hL)).mono ?_
      rintro s' ⟨a, b, c⟩
      exact ⟨a, by rw [b]; simpa using h1map, by rw [c]; simpa using h1size⟩

theorem cr_pq_heapifyF (fuse : Nat) {s : Store P} {i : Nat} (h : s.WF) (hi : i < s.size) :
    CrOut (MaxQ.heapifyF fuse s i) (PQ.MaxQ.heapify s i) (fun s' => s'.WF ∧ s'.map = s.map ∧ s'.size = s.size) :=
  cr_ite (fun _ => cr_pure _ _) fun _ => cr_pq_heapifyLoopF fuse s.size s i h hi

/-- with at most one element `heapifyF` returns at once, whatever the index -/
theorem cr_pq_heapifyF_small (fuse : Nat) {s : Store P} (i : Nat) (h1 : s.size ≤ 1) : MaxQ.heapifyF fuse s i = .ok s := by
  unfold MaxQ.heapifyF; simp [h1]; rfl

/-- the sift-up loop under the `Hole` guard: a crash fills the hole where it is, which restores well-formed tables -/
theorem cr_pq_bubbleUpLoopF (fuse : Nat) (v : P) (n idx : Nat) (fuel : Nat) : ∀ (s : Store P) (hole : Nat),
    s.HoleTWF n hole idx →
    CrOut (MaxQ.bubbleUpLoopF fuse idx fuel s hole v) (PQ.MaxQ.bubbleUpLoop fuel s hole v)
      (fun s' => s'.TWF n ∧ s'.map = s.map ∧ s'.size = s.size) := by
  induction fuel with
  | zero => intros; exact Or.inl rfl
  | succ fuel ih =>
    intro s hole h
    simp only [MaxQ.bubbleUpLoopF, PQ.MaxQ.bubbleUpLoop]
    refine cr_ite (fun h0 => ?_) fun _ => cr_pure _ _
    have hppn : parent hole < n := by have := h.hole_lt; simp only [parent]; omega
    have hppne : parent hole ≠ hole := by simp only [parent]; omega
    obtain ⟨pi, x, hpi, hx, hxp⟩ := h.prioAt_ok hppn hppne
    refine cr_bind_lift fun pp hpp => ?_
    obtain ⟨sf, hfill, hf1, hf2, hf3, _⟩ := cr_fillHole h 205 206
    refine cr_cmpHole hfill ⟨hf1, hf2, hf3⟩ ?_
    simp only [decide_eq_true_eq]
    refine cr_ite (fun _ => ?_) fun _ => cr_pure _ _
    refine cr_bind_val (getU_ok (by simpa using hpi)) ?_
    refine cr_bind_lift fun heap hheap => cr_bind_lift fun qp hqp => ?_
    obtain ⟨_, rfl⟩ := setU_eq_ok_iff.1 hheap
    obtain ⟨_, rfl⟩ := setU_eq_ok_iff.1 hqp
    have hstep := (h.tick (k := 1)).step hppn hppne (by simpa using hpi)
    exact ih _ (parent hole) hstep

/-- **`bubbleUpF(i, idx)`** on well-formed tables of length `n` with `heap[i] = idx` -/
theorem cr_pq_bubbleUpF (fuse : Nat) {s : Store P} {n i idx : Nat} (h : s.TWF n) (hi : s.heap[i]? = some idx) :
    CrOut (MaxQ.bubbleUpF fuse s i idx) (PQ.MaxQ.bubbleUp s i idx)
      (fun s' => s'.TWF n ∧ s'.map = s.map ∧ s'.size = s.size) := by
  unfold MaxQ.bubbleUpF PQ.MaxQ.bubbleUp
  refine cr_bind_lift fun e he => ?_
  exact (cr_pq_bubbleUpLoopF fuse e.2 n idx (i + 1) s i (h.toHole hi)).bind fun _ _ =>
    cr_bind_lift fun _ _ => cr_bind_lift fun _ _ => cr_pure _ _

/-- **`upHeapifyF(i)`**: crash in the sift-up ⇒ hole filled, crash in the sift-down ⇒ the store at that moment -/
theorem cr_pq_upHeapifyF (fuse : Nat) {s : Store P} {i : Nat} (h : s.WF) (hi : i < s.size) :
    CrOut (MaxQ.upHeapifyF fuse s i) (PQ.MaxQ.upHeapify s i) (fun s' => s'.WF ∧ s'.map = s.map ∧ s'.size = s.size) := by
  unfold MaxQ.upHeapifyF PQ.MaxQ.upHeapify
  refine cr_bind_lift fun tmp ht => ?_
  have hidx := getU_eq_ok_iff.1 ht
  obtain ⟨s1, pos, hb, h1, hm1, hsz1, hle⟩ := PQ.MaxQ.bubbleUp_tables h hidx
  refine ((cr_pq_bubbleUpF fuse h hidx).mono ?_).bind_val hb ?_
  · rintro s' ⟨a, b, c⟩; exact ⟨WF.of_TWF_size a c, b, c⟩
  · refine (cr_pq_heapifyF fuse (WF.of_TWF_size h1 hsz1) (i := pos) (by rw [hsz1]; omega)).mono ?_
    rintro s' ⟨a, b, c⟩; exact ⟨a, b.trans hm1, c.trans hsz1⟩

theorem cr_pq_heapBuildLoopF (fuse : Nat) : ∀ (k : Nat) (s : Store P), s.WF → k < s.size →
    CrOut (MaxQ.heapBuildLoopF fuse s k) (PQ.MaxQ.heapBuildLoop s k)
      (fun s' => s'.WF ∧ s'.map = s.map ∧ s'.size = s.size) := by
  intro k
  induction k with
  | zero => intro s h hk; exact cr_pq_heapifyF fuse h hk
  | succ k ih =>
    intro s h hk
    obtain ⟨s1, hh, hwf, hm, hsz⟩ := PQ.MaxQ.heapify_safe h hk
    refine (cr_pq_heapifyF fuse h hk).bind_val hh ((ih s1 hwf (by rw [hsz]; omega)).mono ?_)
    rintro s' ⟨a, b, c⟩; exact ⟨a, b.trans hm, c.trans hsz⟩

/-- **`heapBuildF`**: a crash leaves the partially rebuilt store, which is well-formed and has the same map and size -/
theorem cr_pq_heapBuildF (fuse : Nat) {s : Store P} (h : s.WF) :
    CrOut (MaxQ.heapBuildF fuse s) (PQ.MaxQ.heapBuild s) (fun s' => s'.WF ∧ s'.map = s.map ∧ s'.size = s.size) := by
  refine cr_ite (fun _ => cr_pure _ _) fun h0 => cr_bind_lift fun top ht => ?_
  have : top = parent s.size := by simp [PQ.MaxQ.parentC, h0] at ht; exact ht.symm
  subst this
  exact cr_pq_heapBuildLoopF fuse _ s h (parent_lt (by omega))


/-! ## `priority_queue/mod.rs`: the public operations -/

omit [LE P] [Std.IsLinearPreorder P] [Std.LawfulOrderLT P] in
theorem cr_asNew {α : Type} {x : CR P α} {y : R α} {Q : Store P → Prop} (h : CrOut x y Q) :
    asNew x = liftR y ∨ asNew x = .error .crashedNew := by
  rcases h with h | ⟨s', h, _⟩
  · left; rw [h]; cases y <;> rfl
  · right; rw [h]; rfl

omit [LE P] [Std.IsLinearPreorder P] [Std.LawfulOrderLT P] in
/-- **the constructors** of either kind (`pre`: the capacity request that comes before the rebuild of the fresh store `s0`):
the plain result (which is the capacity panic when `pre` is), or `crashedNew`; never a surviving store -/
theorem cr_ctor {buildF : Nat → Store P → CR P (Store P)} {build : Store P → R (Store P)} {Q : Store P → Store P → Prop}
    (hb : ∀ (fuse : Nat) {s : Store P}, s.WF → CrOut (buildF fuse s) (build s) (Q s))
    (fuse : Nat) {s0 : Store P} (h0 : s0.WF) (pre : R Unit) :
    (liftR pre >>= fun _ => asNew (buildF fuse s0)) = liftR (pre >>= fun _ => build s0) ∨
      (liftR pre >>= fun _ => asNew (buildF fuse s0)) = .error .crashedNew := by
  cases pre with
  | error f => exact .inl rfl
  | ok _ => exact cr_asNew (hb fuse h0)

/-- **`popF`**: crash ⇒ the root entry is gone (and lost), the store is well-formed with one element less -/
theorem cr_pq_popF (fuse : Nat) {s : Store P} (h : s.WF) :
    CrOut (MaxQ.popF fuse s) (PQ.MaxQ.pop s) (fun s' => s'.WF ∧ s'.size = s.size - 1) := by
  unfold MaxQ.popF PQ.MaxQ.pop
  generalize hn : s.size = n
  match n with
  | 0 => exact cr_pure _ _
  | 1 => exact cr_lift _ _
  | n + 2 =>
    obtain ⟨s1, e, hsr, _, h1wf, h1sz, _⟩ := swapRemove_spec h (pos := 0) (by omega)
    refine cr_bind_val hsr ?_
    exact (cr_pq_heapifyF fuse h1wf (by omega)).ret (fun s' ⟨a, _, c⟩ => ⟨a, by omega⟩) _

theorem cr_pq_popIfF (fuse : Nat) {s : Store P} (h : s.WF) (f : Item → P → Bool × Item × P)
    (hf : ∀ it p, (f it p).2.1.key = it.key) :
    CrOut (MaxQ.popIfF fuse s f) (PQ.MaxQ.popIf s f) (fun s' => s'.WF ∧ (s'.size = s.size ∨ s'.size = s.size - 1)) := by
  unfold MaxQ.popIfF PQ.MaxQ.popIf
  generalize hn : s.size = n
  match n with
  | 0 => exact cr_pure _ _
  | 1 => exact cr_lift _ _
  | n + 2 =>
    obtain ⟨e, _, htrue, hfalse⟩ := swapRemoveIf_spec f h (pos := 0) (by omega) hf
    cases hr : (f e.1 e.2).1 with
    | true =>
      obtain ⟨s1, hsr, h1wf, h1sz, _⟩ := htrue hr
      refine cr_bind_val hsr ?_
      exact (cr_pq_heapifyF fuse h1wf (by omega)).ret (fun s' ⟨a, _, c⟩ => ⟨a, Or.inr (by omega)⟩) _
    | false =>
      obtain ⟨s1, hsr, h1wf, h1sz, _⟩ := hfalse hr
      refine cr_bind_val hsr ?_
      exact (cr_pq_heapifyF fuse h1wf (by omega)).ret (fun s' ⟨a, _, c⟩ => ⟨a, Or.inl (by omega)⟩) _

/-- **`pushIncreaseF` / `pushDecreaseF`** of either kind (`a q`, `b q`: the two sides of the pre-check against the stored
priority `q`): a crash in the pre-check returns the store untouched (`push` has not started); afterwards as `pushF` -/
theorem cr_pushCond {pushF : Nat → Store P → Item → P → CR P (Store P × Option P)}
    {push : Store P → Item → P → R (Store P × Option P)}
    (hpush : ∀ (fuse : Nat) {s : Store P}, s.WF → ∀ it p, CrOut (pushF fuse s it p) (push s it p)
      (fun s' => s'.WF ∧ s'.size = if (s.abs it.key).isSome then s.size else s.size + 1))
    (fuse : Nat) {s : Store P} (h : s.WF) (it : Item) (p : P) (a b : P → P) :
    CrOut
      (match s.getPriority it.key with
        | none => pushF fuse s it p
        | some q => do
          let (s, lt) ← cmpF fuse s (a q) (b q)
          if lt then pushF fuse s it p else pure (s, some p))
      (match s.getPriority it.key with
        | none => push s it p
        | some q =>
          let s := s.tick
          if a q < b q then push s it p else pure (s, some p))
      (fun s' => s'.WF ∧ (s'.size = s.size ∨ s'.size = s.size + 1)) := by
  have hsz : ∀ {t s' : Store P}, t.size = s.size →
      (s'.WF ∧ s'.size = if (t.abs it.key).isSome then t.size else t.size + 1) →
      s'.WF ∧ (s'.size = s.size ∨ s'.size = s.size + 1) := fun ht h' =>
    ⟨h'.1, by have := h'.2; split at this <;> omega⟩
  cases s.getPriority it.key with
  | none => exact (hpush fuse h it p).mono fun _ => hsz rfl
  | some q =>
    refine cr_cmp ⟨h, Or.inl rfl⟩ ?_
    simp only [decide_eq_true_eq]
    exact cr_ite (fun _ => (hpush fuse (tick_TWF.mpr h) it p).mono fun _ => hsz rfl) fun _ => cr_pure _ _

/-- **`pushF`**.  Stored item: crash ⇒ well-formed, same size (the priority is already replaced).  New item: crash ⇒
well-formed **with `size = s.size + 1`**: the new element is in (the guard has put it where the hole was). -/
theorem cr_pq_pushF (fuse : Nat) {s : Store P} (h : s.WF) (it : Item) (p : P) :
    CrOut (MaxQ.pushF fuse s it p) (PQ.MaxQ.push s it p)
      (fun s' => s'.WF ∧ s'.size = if (s.abs it.key).isSome then s.size else s.size + 1) := by
  rcases IMap.insertFull_cases s.map it p with ⟨i, e, hf, he, hk, hins⟩ | ⟨hf, hins⟩
  · have hil : i < s.size := by have := lt_size_of_getElem? he; rw [h.map_size] at this; exact this
    obtain ⟨pos, hq, hpl⟩ := h.qp_some hil
    unfold MaxQ.pushF PQ.MaxQ.push
    rw [hins]
    refine cr_bind_val (getU_ok hq) ?_
    refine (cr_pq_upHeapifyF fuse (setEntry_TWF (e' := (e.1, p)) h he rfl) (i := pos) hpl).ret ?_ _
    rintro s' ⟨a, b, c⟩
    exact ⟨a, by rw [PQ.MaxQ.abs_isSome_iff_find?, hf, c]; rfl⟩
  · unfold MaxQ.pushF PQ.MaxQ.push
    rw [hins]
    dsimp only
    rw [cr_bump_first cr_pq_bubbleUp_size]
    have hT : ({ PQ.MaxQ.pushPre s it p with size := s.size + 1 } : Store P).TWF (s.size + 1) :=
      TWF.congr (PQ.MaxQ.pushPre_TWF h hf) rfl rfl rfl
    refine (cr_pq_bubbleUpF fuse hT (PQ.MaxQ.pushPre_heap_last h it p)).ret ?_ _
    rintro s' ⟨a, b, c⟩
    have c' : s'.size = s.size + 1 := c
    exact ⟨WF.of_TWF_size a c', by rw [PQ.MaxQ.abs_isSome_iff_find?, hf, c']; rfl⟩

theorem cr_pq_changePriorityF (fuse : Nat) {s : Store P} (h : s.WF) (k : Nat) (p : P) :
    CrOut (MaxQ.changePriorityF fuse s k p) (PQ.MaxQ.changePriority s k p) (fun s' => s'.WF ∧ s'.size = s.size) := by
  unfold MaxQ.changePriorityF PQ.MaxQ.changePriority
  cases hl : IMap.lookup s.map k with
  | none => exact cr_bind_val (changePriority_spec_none hl p) (cr_pure _ _)
  | some e =>
    obtain ⟨s1, pos, hcp, hpl, _, hwf1, hsz1, _⟩ := changePriority_spec_some h hl p
    refine cr_bind_val hcp ?_
    exact (cr_pq_upHeapifyF fuse hwf1 (by rw [hsz1]; exact hpl)).ret (fun s' ⟨a, _, c⟩ => ⟨a, c.trans hsz1⟩) _

theorem cr_pq_changePriorityByF (fuse : Nat) {s : Store P} (h : s.WF) (k : Nat) (g : P → P) :
    CrOut (MaxQ.changePriorityByF fuse s k g) (PQ.MaxQ.changePriorityBy s k g)
      (fun s' => s'.WF ∧ s'.size = s.size) := by
  unfold MaxQ.changePriorityByF PQ.MaxQ.changePriorityBy
  cases hl : IMap.lookup s.map k with
  | none => exact cr_bind_val (changePriorityBy_spec_none hl g) (cr_pure _ _)
  | some e =>
    obtain ⟨s1, pos, hcp, hpl, _, hwf1, hsz1, _⟩ := changePriorityBy_spec_some h hl g
    refine cr_bind_val hcp ?_
    exact (cr_pq_upHeapifyF fuse hwf1 (by rw [hsz1]; exact hpl)).ret (fun s' ⟨a, _, c⟩ => ⟨a, c.trans hsz1⟩) _

theorem cr_pq_removeF (fuse : Nat) {s : Store P} (h : s.WF) (k : Nat) :
    CrOut (MaxQ.removeF fuse s k) (PQ.MaxQ.remove s k) (fun s' => s'.WF ∧ s'.size = s.size - 1) := by
  unfold MaxQ.removeF PQ.MaxQ.remove
  cases hl : IMap.lookup s.map k with
  | none => exact cr_bind_val (remove_spec_none hl) (cr_pure _ _)
  | some e =>
    obtain ⟨s1, pos, hr, hpl, _, hwf1, hsz1, _⟩ := remove_spec_some h hl
    refine cr_bind_val hr (cr_ite (fun hp => ?_) fun _ => cr_pure _ _)
    exact (cr_pq_upHeapifyF fuse hwf1 hp).ret (fun s' ⟨a, _, c⟩ => ⟨a, c.trans hsz1⟩) _

theorem cr_pq_retainMutF (fuse : Nat) {s : Store P} (h : s.WF) (f : Item → P → Bool × Item × P)
    (hf : ∀ it p, (f it p).2.1.key = it.key) :
    CrOut (MaxQ.retainMutF fuse s f) (PQ.MaxQ.retainMut s f)
      (fun s' => s'.WF ∧ s'.map = s.map.retain f) :=
  (cr_pq_heapBuildF fuse (wf_retainMut h hf)).mono fun s' ⟨a, b, _⟩ => ⟨a, by rw [b, retainMut_map]⟩

/-- on a crash only the receiver's store is reported -/
theorem cr_pq_appendF (fuse : Nat) {s o : Store P} (hs : s.WF) (ho : o.WF) :
    CrOut (MaxQ.appendF fuse s o) (PQ.MaxQ.append s o) (fun s' => s'.WF ∧ s'.map = (Store.append s o).1.map) :=
  (cr_pq_heapBuildF fuse (wf_append_fst hs ho)).ret (fun _ ⟨a, b, _⟩ => ⟨a, b⟩) _

/-- (the capped pre-allocation of `Deserialize` never fails) -/
theorem cr_pq_deserializeF (fuse : Nat) (hint : Option Nat) (xs : Array (Item × P)) :
    MaxQ.deserializeF fuse hint xs = liftR (PQ.MaxQ.deserialize hint xs) ∨
      MaxQ.deserializeF fuse hint xs = .error .crashedNew := by
  cases hint <;> exact cr_ctor cr_pq_heapBuildF fuse (wf_visitSeq xs) _

theorem cr_pq_pushAllF (fuse : Nat) : ∀ (l : List (Item × P)) {s : Store P}, s.WF →
    CrOut (MaxQ.pushAllF fuse l s) (PQ.MaxQ.pushAll l s) (fun s' => s'.WF) := by
  intro l
  induction l with
  | nil => intro s h; exact cr_pure _ _
  | cons e l ih =>
    intro s h
    obtain ⟨s1, h1, h1wf, _⟩ := PQ.MaxQ.push_safe h e.1 e.2
    exact ((cr_pq_pushF fuse h e.1 e.2).mono fun _ hs => hs.1).bind_val h1 (ih h1wf)

theorem cr_pq_extendF (fuse : Nat) {s : Store P} (h : s.WF) (lo : Nat) (xs : Array (Item × P)) :
    CrOut (MaxQ.extendF fuse s lo xs) (PQ.MaxQ.extend s lo xs) (fun s' => s'.WF) :=
  cr_bind_lift fun _ _ => cr_ite (fun _ => (cr_pq_heapBuildF fuse (wf_extend h xs)).mono fun _ hs => hs.1)
    fun _ => cr_pq_pushAllF fuse xs.toList h

theorem cr_pq_iterMutDropF (fuse : Nat) {s : Store P} (h : s.WF) (prog : List (ICall × IMWrite P)) :
    CrOut (MaxQ.iterMutDropF fuse s prog)
      (do let (outs, m) ← iterMutRun .pq s.map.size prog PIterMut.new (DIterMut.new s.map.size) s.map
          let s' ← PQ.MaxQ.heapBuild { s with map := m }
          pure (s', outs))
      (fun s' => s'.WF ∧ s'.size = s.size) := by
  obtain ⟨outs, m', hrun, hwf1, _⟩ := hist_iterMutRun_wf h .pq prog
  refine cr_bind_val hrun ?_
  exact (cr_pq_heapBuildF fuse hwf1).ret (fun s' ⟨a, _, c⟩ => ⟨a, c⟩) _

/-! ## `double_priority_queue/mod.rs`: the sifting procedures -/

omit [LE P] [Std.IsLinearPreorder P] [Std.LawfulOrderLT P] in
/-- a position whose priority can be read is in range -/
theorem cr_lt_of_prioAt {s : Store P} {n p : Nat} {x : P} (h : s.TWF n) (hp : s.prioAt p = .ok x) : p < n := by
  have h1 := prioAt_eq_ok_iff.1 hp
  unfold Store.pr at h1
  cases hh : s.heap[p]? with
  | none => rw [hh] at h1; cases h1
  | some i => have := lt_size_of_getElem? hh; rw [h.heap_size] at this; exact this

omit [LE P] [Std.IsLinearPreorder P] [Std.LawfulOrderLT P] in
/-- the fold of `min_by_key`, comparison by comparison: without a crash it is the plain fold and the counter has advanced by
the number of candidates folded; a crash leaves the store with only the counter advanced (no hypothesis) -/
theorem cr_dq_minFoldF (fuse : Nat) : ∀ (ys : List (Nat × P)) (s : Store P) (acc : Nat × P),
    CrOut (DQ.minFoldF fuse ys s acc)
      (.ok (s.tick ys.length, ys.foldl (fun acc y => if y.2 < acc.2 then y else acc) acc))
      (fun s' => ∃ k, s' = s.tick k) := by
  intro ys
  induction ys with
  | nil => intro s acc; exact cr_ok _ _
  | cons y ys ih =>
    intro s acc
    simp only [DQ.minFoldF]
    refine cr_cmp ⟨0, rfl⟩ ?_
    simp only [decide_eq_true_eq, List.foldl_cons, List.length_cons]
    rw [show s.tick (ys.length + 1) = (s.tick).tick ys.length by rw [tick_tick, Nat.add_comm]]
    exact (ih s.tick _).mono fun s' ⟨k, e⟩ => ⟨1 + k, e.trans (tick_tick _ _ _)⟩

omit [LE P] [Std.IsLinearPreorder P] [Std.LawfulOrderLT P] in
theorem cr_dq_maxFoldF (fuse : Nat) : ∀ (ys : List (Nat × P)) (s : Store P) (acc : Nat × P),
    CrOut (DQ.maxFoldF fuse ys s acc)
      (.ok (s.tick ys.length, ys.foldl (fun acc y => if y.2 < acc.2 then acc else y) acc))
      (fun s' => ∃ k, s' = s.tick k) := by
  intro ys
  induction ys with
  | nil => intro s acc; exact cr_ok _ _
  | cons y ys ih =>
    intro s acc
    simp only [DQ.maxFoldF]
    refine cr_cmp ⟨0, rfl⟩ ?_
    simp only [decide_eq_true_eq, List.foldl_cons, List.length_cons]
    rw [show s.tick (ys.length + 1) = (s.tick).tick ys.length by rw [tick_tick, Nat.add_comm]]
    exact (ih s.tick _).mono fun s' ⟨k, e⟩ => ⟨1 + k, e.trans (tick_tick _ _ _)⟩

omit [LE P] [Std.IsLinearPreorder P] [Std.LawfulOrderLT P] in
theorem cr_dq_minByKeyF (fuse : Nat) (s : Store P) (cs : List (Nat × P)) :
    CrOut (DQ.minByKeyF fuse s cs) (.ok (s.tick (cs.length - 1), PQ.DQ.minByKey cs)) (fun s' => ∃ k, s' = s.tick k) := by
  cases cs with
  | nil => exact cr_ok _ _
  | cons x xs => exact (cr_dq_minFoldF fuse xs s x).bind_ok rfl (cr_ok _ _)

omit [LE P] [Std.IsLinearPreorder P] [Std.LawfulOrderLT P] in
theorem cr_dq_maxByKeyF (fuse : Nat) (s : Store P) (cs : List (Nat × P)) :
    CrOut (DQ.maxByKeyF fuse s cs) (.ok (s.tick (cs.length - 1), PQ.DQ.maxByKey cs)) (fun s' => ∃ k, s' = s.tick k) := by
  cases cs with
  | nil => exact cr_ok _ _
  | cons x xs => exact (cr_dq_maxFoldF fuse xs s x).bind_ok rfl (cr_ok _ _)

/-- the trickle-down loop of the min levels: three comparison sites per iteration, all between complete statements -/
theorem cr_dq_heapifyMinLoopF (fuse fuel : Nat) : ∀ (s : Store P) (i : Nat), s.WF →
    CrOut (DQ.heapifyMinLoopF fuse fuel s i) (PQ.DQ.heapifyMinLoop fuel s i)
      (fun s' => s'.WF ∧ s'.map = s.map ∧ s'.size = s.size) := by
  induction fuel with
  | zero => intros; exact Or.inl rfl
  | succ fuel ih =>
    intro s i h
    simp only [DQ.heapifyMinLoopF, PQ.DQ.heapifyMinLoop]
    refine cr_bind_lift fun last _ => cr_bind_lift fun bound _ => cr_ite (fun _ => ?_) fun _ => cr_pure _ _
    refine cr_bind_lift fun cs _ => ?_
    have hw0 : (s.tick (cs.length - 1)).WF := tick_TWF.mpr h
    refine ((cr_dq_minByKeyF fuse s cs).mono fun s' ⟨k, e⟩ => e ▸ ⟨tick_TWF.mpr h, rfl, rfl⟩).bind_ok rfl ?_
    dsimp only
    refine cr_bind_lift fun c _ => cr_bind_lift fun pc hpc => cr_bind_lift fun pm hpm => cr_cmp ⟨hw0, rfl, rfl⟩ ?_
    simp only [decide_eq_true_eq]
    refine cr_ite (fun _ => ?_) fun _ => cr_pure _ _
    have hcn : c.1 < s.size := cr_lt_of_prioAt hw0 hpc
    obtain ⟨s1, hsw, h1wf, h1map, h1size, _, _⟩ :=
      swap_spec (tick_TWF.mpr hw0) (a := c.1) (b := i) hcn (cr_lt_of_prioAt hw0 hpm)
    have h1wf' : s1.WF := WF.of_TWF_size h1wf h1size
    have h1map' : s1.map = s.map := h1map
    have h1size' : s1.size = s.size := h1size
    refine cr_bind_val hsw (cr_ite (fun _ => ?_) fun _ => cr_pure _ _)
    refine cr_bind_lift fun p _ => cr_bind_lift fun pc' _ => cr_bind_lift fun pp hpp => ?_
    refine cr_cmp ⟨h1wf', h1map', h1size'⟩ ?_
    simp only [decide_eq_true_eq]
    by_cases hlt2 : pp < pc'
    · simp only [hlt2, if_true]
      obtain ⟨s2, hsw2, h2wf, h2map, h2size, _, _⟩ := swap_spec (tick_TWF.mpr h1wf') (a := c.1) (b := p)
        (by show c.1 < s1.size; rw [h1size']; exact hcn) (cr_lt_of_prioAt h1wf' hpp)
      have h2size' : s2.size = s.size := h2size.trans h1size'
      refine cr_bind_val hsw2 ((ih s2 c.1 (WF.of_TWF_size h2wf h2size)).mono ?_)
      rintro s' ⟨a, b, d⟩; exact ⟨a, b.trans (h2map.trans h1map'), d.trans h2size'⟩
    · simp only [hlt2, if_false]
      refine (cr_pure _ _).bind_val rfl ?_
      refine (ih s1.tick c.1 (tick_TWF.mpr h1wf')).mono ?_
      rintro s' ⟨a, b, d⟩; exact ⟨a, b.trans h1map', d.trans h1size'⟩

/-- the trickle-down loop of the max levels: three comparison sites per iteration, all between complete statements -/
theorem cr_dq_heapifyMaxLoopF (fuse fuel : Nat) : ∀ (s : Store P) (i : Nat), s.WF →
    CrOut (DQ.heapifyMaxLoopF fuse fuel s i) (PQ.DQ.heapifyMaxLoop fuel s i)
      (fun s' => s'.WF ∧ s'.map = s.map ∧ s'.size = s.size) := by
  induction fuel with
  | zero => intros; exact Or.inl rfl
  | succ fuel ih =>
    intro s i h
    simp only [DQ.heapifyMaxLoopF, PQ.DQ.heapifyMaxLoop]
    refine cr_bind_lift fun last _ => cr_bind_lift fun bound _ => cr_ite (fun _ => ?_) fun _ => cr_pure _ _
    refine cr_bind_lift fun cs _ => ?_
    have hw0 : (s.tick (cs.length - 1)).WF := tick_TWF.mpr h
    refine ((cr_dq_maxByKeyF fuse s cs).mono fun s' ⟨k, e⟩ => e ▸ ⟨tick_TWF.mpr h, rfl, rfl⟩).bind_ok rfl ?_
    dsimp only
    refine cr_bind_lift fun c _ => cr_bind_lift fun pc hpc => cr_bind_lift fun pm hpm => cr_cmp ⟨hw0, rfl, rfl⟩ ?_
    simp only [decide_eq_true_eq]
    refine cr_ite (fun _ => ?_) fun _ => cr_pure _ _
    have hcn : c.1 < s.size := cr_lt_of_prioAt hw0 hpc
    obtain ⟨s1, hsw, h1wf, h1map, h1size, _, _⟩ :=
      swap_spec (tick_TWF.mpr hw0) (a := c.1) (b := i) hcn (cr_lt_of_prioAt hw0 hpm)
    have h1wf' : s1.WF := WF.of_TWF_size h1wf h1size
    have h1map' : s1.map = s.map := h1map
    have h1size' : s1.size = s.size := h1size
    refine cr_bind_val hsw (cr_ite (fun _ => ?_) fun _ => cr_pure _ _)
    refine cr_bind_lift fun p _ => cr_bind_lift fun pc' _ => cr_bind_lift fun pp hpp => ?_
    refine cr_cmp ⟨h1wf', h1map', h1size'⟩ ?_
    simp only [decide_eq_true_eq]
    by_cases hlt2 : pc' < pp
    · simp only [hlt2, if_true]
      obtain ⟨s2, hsw2, h2wf, h2map, h2size, _, _⟩ := swap_spec (tick_TWF.mpr h1wf') (a := c.1) (b := p)
        (by show c.1 < s1.size; rw [h1size']; exact hcn) (cr_lt_of_prioAt h1wf' hpp)
      have h2size' : s2.size = s.size := h2size.trans h1size'
      refine cr_bind_val hsw2 ((ih s2 c.1 (WF.of_TWF_size h2wf h2size)).mono ?_)
      rintro s' ⟨a, b, d⟩; exact ⟨a, b.trans (h2map.trans h1map'), d.trans h2size'⟩
    · simp only [hlt2, if_false]
      refine (cr_pure _ _).bind_val rfl ?_
      refine (ih s1.tick c.1 (tick_TWF.mpr h1wf')).mono ?_
      rintro s' ⟨a, b, d⟩; exact ⟨a, b.trans h1map', d.trans h1size'⟩

/-- **`DQ.heapifyF`** at any position (also out of range) -/
theorem cr_dq_heapifyF (fuse : Nat) {s : Store P} (h : s.WF) (i : Nat) :
    CrOut (DQ.heapifyF fuse s i) (PQ.DQ.heapify s i) (fun s' => s'.WF ∧ s'.map = s.map ∧ s'.size = s.size) :=
  cr_ite (fun _ => cr_pure _ _) fun _ => cr_ite
    (fun _ => cr_dq_heapifyMinLoopF fuse s.size s i h) fun _ => cr_dq_heapifyMaxLoopF fuse s.size s i h

/-- the grandparent loop of `bubble_up_min` under the `Hole` guard -/
theorem cr_dq_bubbleUpMinLoopF (fuse : Nat) (v : P) (n idx : Nat) (fuel : Nat) : ∀ (s : Store P) (q : Nat),
    s.HoleTWF n q idx →
    CrOut (DQ.bubbleUpMinLoopF fuse idx fuel s q v) (PQ.DQ.bubbleUpMinLoop fuel s q v)
      (fun s' => s'.TWF n ∧ s'.map = s.map ∧ s'.size = s.size) := by
  induction fuel with
  | zero => intros; exact Or.inl rfl
  | succ fuel ih =>
    intro s q h
    simp only [DQ.bubbleUpMinLoopF, PQ.DQ.bubbleUpMinLoop]
    refine cr_ite (fun hc => ?_) fun _ => cr_pure _ _
    have hgq := (PQ.Up.anc_gp hc.1 hc.2).lt
    have hqn := h.hole_lt
    obtain ⟨gpi, eg, hgpi, _⟩ := PQ.Up.hole_read h (p := parent (parent q)) (by omega) (by omega)
    refine cr_bind_lift fun gpp _ => ?_
    obtain ⟨sf, hfill, hf1, hf2, hf3, _⟩ := cr_fillHole h 316 317
    refine cr_cmpHole hfill ⟨hf1, hf2, hf3⟩ ?_
    simp only [decide_eq_true_eq]
    refine cr_ite (fun _ => ?_) fun _ => cr_pure _ _
    refine cr_bind_val (getU_ok (by simpa using hgpi)) ?_
    refine cr_bind_lift fun heap hheap => cr_bind_lift fun qp hqp => ?_
    obtain ⟨_, rfl⟩ := setU_eq_ok_iff.1 hheap
    obtain ⟨_, rfl⟩ := setU_eq_ok_iff.1 hqp
    exact ih _ _ (HoleTWF.step (h.tick (k := 1)) (pp := parent (parent q)) (by omega) (by omega) hgpi)

/-- the grandparent loop of `bubble_up_max` under the `Hole` guard -/
theorem cr_dq_bubbleUpMaxLoopF (fuse : Nat) (v : P) (n idx : Nat) (fuel : Nat) : ∀ (s : Store P) (q : Nat),
    s.HoleTWF n q idx →
    CrOut (DQ.bubbleUpMaxLoopF fuse idx fuel s q v) (PQ.DQ.bubbleUpMaxLoop fuel s q v)
      (fun s' => s'.TWF n ∧ s'.map = s.map ∧ s'.size = s.size) := by
  induction fuel with
  | zero => intros; exact Or.inl rfl
  | succ fuel ih =>
    intro s q h
    simp only [DQ.bubbleUpMaxLoopF, PQ.DQ.bubbleUpMaxLoop]
    refine cr_ite (fun hc => ?_) fun _ => cr_pure _ _
    have hgq := (PQ.Up.anc_gp hc.1 hc.2).lt
    have hqn := h.hole_lt
    obtain ⟨gpi, eg, hgpi, _⟩ := PQ.Up.hole_read h (p := parent (parent q)) (by omega) (by omega)
    refine cr_bind_lift fun gpp _ => ?_
    obtain ⟨sf, hfill, hf1, hf2, hf3, _⟩ := cr_fillHole h 316 317
    refine cr_cmpHole hfill ⟨hf1, hf2, hf3⟩ ?_
    simp only [decide_eq_true_eq]
    refine cr_ite (fun _ => ?_) fun _ => cr_pure _ _
    refine cr_bind_val (getU_ok (by simpa using hgpi)) ?_
    refine cr_bind_lift fun heap hheap => cr_bind_lift fun qp hqp => ?_
    obtain ⟨_, rfl⟩ := setU_eq_ok_iff.1 hheap
    obtain ⟨_, rfl⟩ := setU_eq_ok_iff.1 hqp
    exact ih _ _ (HoleTWF.step (h.tick (k := 1)) (pp := parent (parent q)) (by omega) (by omega) hgpi)

theorem cr_dq_bubbleUpMinF (fuse : Nat) {s : Store P} {n q idx : Nat} (h : s.HoleTWF n q idx) :
    CrOut (DQ.bubbleUpMinF fuse s q idx) (PQ.DQ.bubbleUpMin s q idx)
      (fun s' => s'.TWF n ∧ s'.map = s.map ∧ s'.size = s.size) :=
  cr_bind_lift fun e _ => cr_dq_bubbleUpMinLoopF fuse e.2 n idx (q + 1) s q h

theorem cr_dq_bubbleUpMaxF (fuse : Nat) {s : Store P} {n q idx : Nat} (h : s.HoleTWF n q idx) :
    CrOut (DQ.bubbleUpMaxF fuse s q idx) (PQ.DQ.bubbleUpMax s q idx)
      (fun s' => s'.TWF n ∧ s'.map = s.map ∧ s'.size = s.size) :=
  cr_bind_lift fun e _ => cr_dq_bubbleUpMaxLoopF fuse e.2 n idx (q + 1) s q h

/-- **`DQ.bubbleUpF(i, idx)`** on well-formed tables of length `n` with `heap[i] = idx`: the guard is created before the
comparison with the parent; wherever the fuse fires, the hole is filled at the position reached -/
theorem cr_dq_bubbleUpF (fuse : Nat) {s : Store P} {n i idx : Nat} (h : s.TWF n) (hi : s.heap[i]? = some idx) :
    CrOut (DQ.bubbleUpF fuse s i idx) (PQ.DQ.bubbleUp s i idx)
      (fun s' => s'.TWF n ∧ s'.map = s.map ∧ s'.size = s.size) := by
  have hH := h.toHole hi
  unfold DQ.bubbleUpF PQ.DQ.bubbleUp
  refine cr_bind_lift fun e _ => ?_
  dsimp only
  -- every branch ends with the guard's two writes on the normal path
  refine cr_ite (fun h0 => ?_) fun _ => (cr_pure _ _).bind fun _ _ => cr_bind_lift fun _ _ => cr_bind_lift fun _ _ => cr_pure _ _
  have hin := hH.hole_lt
  have hpi := parent_lt h0
  obtain ⟨ppi, ep, hppi, _⟩ := PQ.Up.hole_read hH (p := parent i) (by omega) (by omega)
  refine cr_bind_lift fun pp _ => cr_bind_val (getU_ok hppi) ?_
  obtain ⟨sf, hfill, hf1, hf2, hf3, _⟩ := cr_fillHole hH 316 317
  refine cr_cmpHole hfill ⟨hf1, hf2, hf3⟩ ?_
  dsimp only
  have hstep := HoleTWF.step (hH.tick (k := 1)) (pp := parent i) (by omega) (by omega) hppi
  cases decide (level i % 2 = 0) <;> cases decide (pp < e.2) <;> dsimp only
  · refine cr_bind_lift fun heap hheap => cr_bind_lift fun qp hqp => ?_
    obtain ⟨_, rfl⟩ := setU_eq_ok_iff.1 hheap
    obtain ⟨_, rfl⟩ := setU_eq_ok_iff.1 hqp
    exact (cr_dq_bubbleUpMinF fuse hstep).bind fun _ _ => cr_bind_lift fun _ _ => cr_bind_lift fun _ _ => cr_pure _ _
  · exact (cr_dq_bubbleUpMaxF fuse (hH.tick (k := 1))).bind fun _ _ =>
      cr_bind_lift fun _ _ => cr_bind_lift fun _ _ => cr_pure _ _
  · exact (cr_dq_bubbleUpMinF fuse (hH.tick (k := 1))).bind fun _ _ =>
      cr_bind_lift fun _ _ => cr_bind_lift fun _ _ => cr_pure _ _
  · refine cr_bind_lift fun heap hheap => cr_bind_lift fun qp hqp => ?_
    obtain ⟨_, rfl⟩ := setU_eq_ok_iff.1 hheap
    obtain ⟨_, rfl⟩ := setU_eq_ok_iff.1 hqp
    exact (cr_dq_bubbleUpMaxF fuse hstep).bind fun _ _ => cr_bind_lift fun _ _ => cr_bind_lift fun _ _ => cr_pure _ _

/-- **`DQ.upHeapifyF(i)`** at any position: fused sift-up (hole filled on a crash), then the fused sift-downs -/
theorem cr_dq_upHeapifyF (fuse : Nat) {s : Store P} (h : s.WF) (i : Nat) :
    CrOut (DQ.upHeapifyF fuse s i) (PQ.DQ.upHeapify s i) (fun s' => s'.WF ∧ s'.map = s.map ∧ s'.size = s.size) := by
  unfold DQ.upHeapifyF PQ.DQ.upHeapify
  cases hidx : s.heap[i]? with
  | none => exact cr_pure _ _
  | some tmp =>
    obtain ⟨s1, pos, hb, h1, hm1, hsz1, _⟩ := PQ.DQ.bubbleUp_tables h hidx
    have h1wf : s1.WF := WF.of_TWF_size h1 hsz1
    have hQ1 : ∀ s' : Store P, (s'.WF ∧ s'.map = s1.map ∧ s'.size = s1.size) →
        (s'.WF ∧ s'.map = s.map ∧ s'.size = s.size) := fun s' ⟨a, b, c⟩ => ⟨a, b.trans hm1, c.trans hsz1⟩
    refine ((cr_dq_bubbleUpF fuse h hidx).mono fun s' ⟨a, b, c⟩ => ⟨WF.of_TWF_size a c, b, c⟩).bind_val hb ?_
    dsimp only
    refine cr_ite (fun _ => ?_) fun _ => (cr_pure _ _).bind_val rfl ((cr_dq_heapifyF fuse h1wf pos).mono hQ1)
    obtain ⟨s2, hr, hwf2, hm2, hsz2, _⟩ := PQ.DQ.heapify_safe h1wf i
    refine ((cr_dq_heapifyF fuse h1wf i).mono hQ1).bind_val hr ((cr_dq_heapifyF fuse hwf2 pos).mono ?_)
    rintro s' ⟨a, b, c⟩; exact ⟨a, (b.trans hm2).trans hm1, (c.trans hsz2).trans hsz1⟩

theorem cr_dq_heapBuildLoopF (fuse : Nat) : ∀ (k : Nat) (s : Store P), s.WF →
    CrOut (DQ.heapBuildLoopF fuse s k) (PQ.DQ.heapBuildLoop s k)
      (fun s' => s'.WF ∧ s'.map = s.map ∧ s'.size = s.size) := by
  intro k
  induction k with
  | zero => intro s h; exact cr_dq_heapifyF fuse h 0
  | succ k ih =>
    intro s h
    obtain ⟨s1, hh, hwf, hm, hsz, _⟩ := PQ.DQ.heapify_safe h (k + 1)
    refine (cr_dq_heapifyF fuse h (k + 1)).bind_val hh ((ih s1 hwf).mono ?_)
    rintro s' ⟨a, b, c⟩; exact ⟨a, b.trans hm, c.trans hsz⟩

/-- **`DQ.heapBuildF`**: a crash leaves the partially rebuilt store, well-formed, same map and size -/
theorem cr_dq_heapBuildF (fuse : Nat) {s : Store P} (h : s.WF) :
    CrOut (DQ.heapBuildF fuse s) (PQ.DQ.heapBuild s) (fun s' => s'.WF ∧ s'.map = s.map ∧ s'.size = s.size) :=
  cr_ite (fun _ => cr_pure _ _) fun _ => cr_bind_lift fun top _ => cr_dq_heapBuildLoopF fuse top s h

omit [LE P] [Std.IsLinearPreorder P] [Std.LawfulOrderLT P] in
/-- **`findMaxF`**: one comparison, nothing written: a crash leaves the store exactly as it was -/
theorem cr_dq_findMaxF (fuse : Nat) (s : Store P) :
    CrOut (DQ.findMaxF fuse s) (PQ.DQ.findMax s) (fun s' => s' = s) := by
  unfold DQ.findMaxF PQ.DQ.findMax
  generalize s.size = n
  match n with
  | 0 => exact cr_pure _ _
  | 1 => exact cr_pure _ _
  | 2 => exact cr_pure _ _
  | n + 3 =>
    refine cr_bind_lift fun p1 _ => cr_bind_lift fun p2 _ => cr_cmp rfl ?_
    simp only [decide_eq_true_eq]
    exact cr_pure _ _

/-! ## `double_priority_queue/mod.rs`: the public operations -/

theorem cr_dq_peekMaxF (fuse : Nat) (s : Store P) :
    CrOut (DQ.peekMaxF fuse s) (PQ.DQ.peekMax s) (fun s' => s' = s) := by
  refine (cr_dq_findMaxF fuse s).bind ?_
  rintro ⟨s1, r⟩ _
  cases r
  · exact cr_pure _ _
  · exact cr_bind_lift fun _ _ => cr_pure _ _

omit [LE P] [Std.IsLinearPreorder P] [Std.LawfulOrderLT P] in
/-- **`peekMaxMutWriteF`**: `find_max` runs before the reference is handed out: crash ⇒ unchanged -/
theorem cr_dq_peekMaxMutWriteF (fuse : Nat) (s : Store P) (w : Item → Item) :
    CrOut (DQ.peekMaxMutWriteF fuse s w) (PQ.DQ.peekMaxMutWrite s w) (fun s' => s' = s) := by
  refine (cr_dq_findMaxF fuse s).bind ?_
  rintro ⟨s1, r⟩ _
  cases r with
  | none => exact cr_pure _ _
  | some pos =>
    refine cr_bind_lift fun i _ => ?_
    cases s1.map.getIndex i <;> exact cr_pure _ _

/-- **`popMinF`**: crash ⇒ the minimum is gone (and lost), well-formed with one element less -/
theorem cr_dq_popMinF (fuse : Nat) {s : Store P} (h : s.WF) :
    CrOut (DQ.popMinF fuse s) (PQ.DQ.popMin s) (fun s' => s'.WF ∧ s'.size = s.size - 1) := by
  unfold DQ.popMinF PQ.DQ.popMin
  by_cases h0 : s.size = 0
  · rw [PQ.DQ.findMin_empty h0]; exact cr_pure _ _
  · rw [PQ.DQ.findMin_spec (by omega)]
    obtain ⟨s1, e, hsr, _, h1wf, h1sz, _⟩ := swapRemove_spec h (pos := 0) (by omega)
    refine cr_bind_val hsr ?_
    exact (cr_dq_heapifyF fuse h1wf 0).ret (fun s' ⟨a, _, c⟩ => ⟨a, by omega⟩) _

/-- the first step of `pop_max` / `pop_max_if`: a crash in `find_max` leaves the store unchanged; otherwise the position
of the maximum is known and only the counter has advanced -/
theorem cr_dq_afterFindMax (fuse : Nat) {s : Store P} (h : s.WF) {α : Type}
    {f : Store P × Option Nat → CR P α} {g : Store P × Option Nat → R α} {Q : Store P → Prop} (hQ : Q s)
    (h0 : ∀ k, s.size = 0 → CrOut (f (s.tick k, none)) (g (s.tick k, none)) Q)
    (h1 : ∀ k p, p < s.size → (s.tick k).WF → CrOut (f (s.tick k, some p)) (g (s.tick k, some p)) Q) :
    CrOut (DQ.findMaxF fuse s >>= f) (PQ.DQ.findMax s >>= g) Q := by
  obtain ⟨k, r, hfm, _, hr0, hr1⟩ := PQ.DQ.findMax_safe h
  refine ((cr_dq_findMaxF fuse s).mono fun s' e => e ▸ hQ).bind_val hfm ?_
  by_cases hz : s.size = 0
  · rw [hr0 hz]; exact h0 k hz
  · obtain ⟨p, rfl, hp⟩ := hr1 (by omega)
    exact h1 k p hp (tick_TWF.mpr h)

/-- **`popMaxF`**: crash in `find_max` ⇒ unchanged; afterwards as `popMinF` -/
theorem cr_dq_popMaxF (fuse : Nat) {s : Store P} (h : s.WF) :
    CrOut (DQ.popMaxF fuse s) (PQ.DQ.popMax s) (fun s' => s'.WF ∧ (s'.size = s.size ∨ s'.size = s.size - 1)) := by
  refine cr_dq_afterFindMax fuse h ⟨h, Or.inl rfl⟩ (fun _ _ => cr_pure _ _) fun k p hp hwt => ?_
  obtain ⟨s1, e, hsr, _, h1wf, h1sz, _⟩ := swapRemove_spec hwt (pos := p) hp
  refine cr_bind_val hsr ?_
  exact (cr_dq_heapifyF fuse h1wf p).ret (fun s' ⟨a, _, c⟩ => ⟨a, Or.inr (c.trans h1sz)⟩) _

theorem cr_dq_popMinIfF (fuse : Nat) {s : Store P} (h : s.WF) (f : Item → P → Bool × Item × P)
    (hf : ∀ it p, (f it p).2.1.key = it.key) :
    CrOut (DQ.popMinIfF fuse s f) (PQ.DQ.popMinIf s f) (fun s' => s'.WF ∧ (s'.size = s.size ∨ s'.size = s.size - 1)) := by
  unfold DQ.popMinIfF PQ.DQ.popMinIf
  by_cases h0 : s.size = 0
  · rw [PQ.DQ.findMin_empty h0]; exact cr_pure _ _
  · rw [PQ.DQ.findMin_spec (by omega)]
    obtain ⟨e, _, htrue, hfalse⟩ := swapRemoveIf_spec f h (pos := 0) (by omega) hf
    cases hr : (f e.1 e.2).1 with
    | true =>
      obtain ⟨s1, hsr, h1wf, h1sz, _⟩ := htrue hr
      refine cr_bind_val hsr ?_
      exact (cr_dq_heapifyF fuse h1wf 0).ret (fun s' ⟨a, _, c⟩ => ⟨a, Or.inr (by omega)⟩) _
    | false =>
      obtain ⟨s1, hsr, h1wf, h1sz, _⟩ := hfalse hr
      refine cr_bind_val hsr ?_
      exact (cr_dq_heapifyF fuse h1wf 0).ret (fun s' ⟨a, _, c⟩ => ⟨a, Or.inl (by omega)⟩) _

/-- **`popMaxIfF`**: a crash in `find_max` comes before the predicate is called -/
theorem cr_dq_popMaxIfF (fuse : Nat) {s : Store P} (h : s.WF) (f : Item → P → Bool × Item × P)
    (hf : ∀ it p, (f it p).2.1.key = it.key) :
    CrOut (DQ.popMaxIfF fuse s f) (PQ.DQ.popMaxIf s f) (fun s' => s'.WF ∧ (s'.size = s.size ∨ s'.size = s.size - 1)) := by
  refine cr_dq_afterFindMax fuse h ⟨h, Or.inl rfl⟩ (fun _ _ => cr_pure _ _) fun k p hp hwt => ?_
  obtain ⟨e, _, htrue, hfalse⟩ := swapRemoveIf_spec f hwt (pos := p) hp hf
  cases hr : (f e.1 e.2).1 with
  | true =>
    obtain ⟨s1, hsr, h1wf, h1sz, _⟩ := htrue hr
    refine cr_bind_val hsr ?_
    exact (cr_dq_upHeapifyF fuse h1wf p).ret (fun s' ⟨a, _, c⟩ => ⟨a, Or.inr (c.trans h1sz)⟩) _
  | false =>
    obtain ⟨s1, hsr, h1wf, h1sz, _⟩ := hfalse hr
    refine cr_bind_val hsr ?_
    exact (cr_dq_upHeapifyF fuse h1wf p).ret (fun s' ⟨a, _, c⟩ => ⟨a, Or.inl (c.trans h1sz)⟩) _

/-- **`DQ.pushF`** (as `MaxQ.pushF`: new item ⇒ a crashed store has `size = s.size + 1`) -/
theorem cr_dq_pushF (fuse : Nat) {s : Store P} (h : s.WF) (it : Item) (p : P) :
    CrOut (DQ.pushF fuse s it p) (PQ.DQ.push s it p)
      (fun s' => s'.WF ∧ s'.size = if (s.abs it.key).isSome then s.size else s.size + 1) := by
  rcases IMap.insertFull_cases s.map it p with ⟨i, e, hf, he, hk, hins⟩ | ⟨hf, hins⟩
  · have hil : i < s.size := by have := lt_size_of_getElem? he; rw [h.map_size] at this; exact this
    obtain ⟨pos, hq, hpl⟩ := h.qp_some hil
    unfold DQ.pushF PQ.DQ.push
    rw [hins]
    refine cr_bind_val (getU_ok hq) ?_
    refine (cr_dq_upHeapifyF fuse (setEntry_TWF (e' := (e.1, p)) h he rfl) pos).ret ?_ _
    rintro s' ⟨a, b, c⟩
    exact ⟨a, by rw [PQ.MaxQ.abs_isSome_iff_find?, hf, c]; rfl⟩
  · unfold DQ.pushF PQ.DQ.push
    rw [hins]
    dsimp only
    rw [cr_bump_first cr_dq_bubbleUp_size]
    have hT : ({ PQ.MaxQ.pushPre s it p with size := s.size + 1 } : Store P).TWF (s.size + 1) :=
      TWF.congr (PQ.MaxQ.pushPre_TWF h hf) rfl rfl rfl
    refine (cr_dq_bubbleUpF fuse hT (PQ.MaxQ.pushPre_heap_last h it p)).ret ?_ _
    rintro s' ⟨a, b, c⟩
    have c' : s'.size = s.size + 1 := c
    exact ⟨WF.of_TWF_size a c', by rw [PQ.MaxQ.abs_isSome_iff_find?, hf, c']; rfl⟩

theorem cr_dq_changePriorityF (fuse : Nat) {s : Store P} (h : s.WF) (k : Nat) (p : P) :
    CrOut (DQ.changePriorityF fuse s k p) (PQ.DQ.changePriority s k p) (fun s' => s'.WF ∧ s'.size = s.size) := by
  unfold DQ.changePriorityF PQ.DQ.changePriority
  cases hl : IMap.lookup s.map k with
  | none => exact cr_bind_val (changePriority_spec_none hl p) (cr_pure _ _)
  | some e =>
    obtain ⟨s1, pos, hcp, _, _, hwf1, hsz1, _⟩ := changePriority_spec_some h hl p
    refine cr_bind_val hcp ?_
    exact (cr_dq_upHeapifyF fuse hwf1 pos).ret (fun s' ⟨a, _, c⟩ => ⟨a, c.trans hsz1⟩) _

theorem cr_dq_changePriorityByF (fuse : Nat) {s : Store P} (h : s.WF) (k : Nat) (g : P → P) :
    CrOut (DQ.changePriorityByF fuse s k g) (PQ.DQ.changePriorityBy s k g) (fun s' => s'.WF ∧ s'.size = s.size) := by
  unfold DQ.changePriorityByF PQ.DQ.changePriorityBy
  cases hl : IMap.lookup s.map k with
  | none => exact cr_bind_val (changePriorityBy_spec_none hl g) (cr_pure _ _)
  | some e =>
    obtain ⟨s1, pos, hcp, _, _, hwf1, hsz1, _⟩ := changePriorityBy_spec_some h hl g
    refine cr_bind_val hcp ?_
    exact (cr_dq_upHeapifyF fuse hwf1 pos).ret (fun s' ⟨a, _, c⟩ => ⟨a, c.trans hsz1⟩) _

theorem cr_dq_removeF (fuse : Nat) {s : Store P} (h : s.WF) (k : Nat) :
    CrOut (DQ.removeF fuse s k) (PQ.DQ.remove s k) (fun s' => s'.WF ∧ s'.size = s.size - 1) := by
  unfold DQ.removeF PQ.DQ.remove
  cases hl : IMap.lookup s.map k with
  | none => exact cr_bind_val (remove_spec_none hl) (cr_pure _ _)
  | some e =>
    obtain ⟨s1, pos, hr, _, _, hwf1, hsz1, _⟩ := remove_spec_some h hl
    refine cr_bind_val hr (cr_ite (fun _ => ?_) fun _ => cr_pure _ _)
    exact (cr_dq_upHeapifyF fuse hwf1 pos).ret (fun s' ⟨a, _, c⟩ => ⟨a, c.trans hsz1⟩) _

theorem cr_dq_retainMutF (fuse : Nat) {s : Store P} (h : s.WF) (f : Item → P → Bool × Item × P)
    (hf : ∀ it p, (f it p).2.1.key = it.key) :
    CrOut (DQ.retainMutF fuse s f) (PQ.DQ.retainMut s f) (fun s' => s'.WF ∧ s'.map = s.map.retain f) :=
  (cr_dq_heapBuildF fuse (wf_retainMut h hf)).mono fun s' ⟨a, b, _⟩ => ⟨a, by rw [b, retainMut_map]⟩

theorem cr_dq_appendF (fuse : Nat) {s o : Store P} (hs : s.WF) (ho : o.WF) :
    CrOut (DQ.appendF fuse s o) (PQ.DQ.append s o) (fun s' => s'.WF ∧ s'.map = (Store.append s o).1.map) :=
  (cr_dq_heapBuildF fuse (wf_append_fst hs ho)).ret (fun _ ⟨a, b, _⟩ => ⟨a, b⟩) _

/-- (the capped pre-allocation of `Deserialize` never fails) -/
theorem cr_dq_deserializeF (fuse : Nat) (hint : Option Nat) (xs : Array (Item × P)) :
    DQ.deserializeF fuse hint xs = liftR (PQ.DQ.deserialize hint xs) ∨
      DQ.deserializeF fuse hint xs = .error .crashedNew := by
  cases hint <;> exact cr_ctor cr_dq_heapBuildF fuse (wf_visitSeq xs) _

theorem cr_dq_pushAllF (fuse : Nat) : ∀ (l : List (Item × P)) {s : Store P}, s.WF →
    CrOut (DQ.pushAllF fuse l s) (PQ.DQ.pushAll l s) (fun s' => s'.WF) := by
  intro l
  induction l with
  | nil => intro s h; exact cr_pure _ _
  | cons e l ih =>
    intro s h
    obtain ⟨s1, h1, h1wf, _⟩ := PQ.DQ.push_safe h e.1 e.2
    exact ((cr_dq_pushF fuse h e.1 e.2).mono fun _ hs => hs.1).bind_val h1 (ih h1wf)

theorem cr_dq_extendF (fuse : Nat) {s : Store P} (h : s.WF) (lo : Nat) (xs : Array (Item × P)) :
    CrOut (DQ.extendF fuse s lo xs) (PQ.DQ.extend s lo xs) (fun s' => s'.WF) :=
  cr_bind_lift fun _ _ => cr_ite (fun _ => (cr_dq_heapBuildF fuse (wf_extend h xs)).mono fun _ hs => hs.1)
    fun _ => cr_dq_pushAllF fuse xs.toList h

theorem cr_dq_iterMutDropF (fuse : Nat) {s : Store P} (h : s.WF) (prog : List (ICall × IMWrite P)) :
    CrOut (DQ.iterMutDropF fuse s prog)
      (do let (outs, m) ← iterMutRun .dpq s.map.size prog PIterMut.new (DIterMut.new s.map.size) s.map
          let s' ← PQ.DQ.heapBuild { s with map := m }
          pure (s', outs))
      (fun s' => s'.WF ∧ s'.size = s.size) := by
  obtain ⟨outs, m', hrun, hwf1, _⟩ := hist_iterMutRun_wf h .dpq prog
  refine cr_bind_val hrun ?_
  exact (cr_dq_heapBuildF fuse hwf1).ret (fun s' ⟨a, _, c⟩ => ⟨a, c⟩) _


/-! ## Histories: one fused operation on a queue -/

omit [LT P] [DecidableLT P] [LE P] [Std.IsLinearPreorder P] [Std.LawfulOrderLT P] in
/-- lifting a plain result to the queue level does not depend on the kind tag -/
theorem cr_liftQ_liftR {α : Type} (k k' : Kind) (y : R α) : (liftQ k (liftR y) : CRQ P α) = liftQ k' (liftR y) := by
  cases y <;> rfl

/-- the three possible outcomes of a fused operation on a queue: it is the plain operation, or it crashed into a queue `q'`
with `W q'`, or it crashed while building a fresh queue (the old one is untouched) -/
def StepOut (x : CRQ P (Q P × Out P)) (y : R (Q P × Out P)) (k : Kind) (W : Q P → Prop) : Prop :=
  x = liftQ k (liftR y) ∨ (∃ q', x = .error (.crashed q') ∧ W q') ∨ x = .error .crashedNew

omit [LE P] [Std.IsLinearPreorder P] [Std.LawfulOrderLT P] in
/-- a fused store-level computation of a queue of kind `k` followed by a pure repackaging, at the queue level (`W` is whatever
the operation's lemma says about the crash state besides `WF`; it is not needed here) -/
theorem cr_stepOut {α : Type} {x : CR P α} {y : R α} {W : Store P → Prop} {k k' : Kind}
    (h : CrOut x y fun s' => s'.WF ∧ W s') {f : α → CRQ P (Q P × Out P)} {g : α → R (Q P × Out P)}
    (hfg : ∀ a, f a = liftQ k (liftR (g a))) : StepOut (liftQ k x >>= f) (y >>= g) k' QWF := by
  rcases h with h | ⟨s', h, hw⟩
  · left
    rw [h, cr_liftQ_liftR k' k]
    cases y with
    | error e => rfl
    | ok a => exact hfg a
  · right; left; rw [h]; exact ⟨⟨k, s'⟩, rfl, hw.1⟩

omit [LE P] [Std.IsLinearPreorder P] [Std.LawfulOrderLT P] in
/-- the same for a constructor twin (`asNew`) -/
theorem cr_stepOut_new {α : Type} {x : CR P α} {y : R α} {k : Kind} (h : x = liftR y ∨ x = .error .crashedNew)
    {f : α → CRQ P (Q P × Out P)} {g : α → R (Q P × Out P)} (hfg : ∀ a, f a = liftQ k (liftR (g a))) :
    StepOut (liftQ k x >>= f) (y >>= g) k QWF := by
  rcases h with h | h
  · left
    rw [h]
    cases y with
    | error e => rfl
    | ok a => exact hfg a
  · right; right; rw [h]; rfl

/-- **One fused operation**: on a well-formed queue, a legal operation run with any fuse either is the plain operation, or
crashes into a well-formed queue, or (constructors only) drops the fresh queue and leaves the old one untouched. -/
theorem cr_stepF_out (fuse : Nat) {q : Q P} {op : Op P} (hq : QWF q) (hl : op.Legal) :
    StepOut (stepF fuse q op) (step q op) q.kind QWF := by
  obtain ⟨k, s⟩ := q
  have h : s.WF := hq
  cases op with
  | push it p =>
    cases k
    · exact cr_stepOut (cr_pq_pushF fuse h it p) fun _ => rfl
    · exact cr_stepOut (cr_dq_pushF fuse h it p) fun _ => rfl
  | pushIncrease it p =>
    cases k
    · exact cr_stepOut (cr_pushCond cr_pq_pushF fuse h it p (fun q => q) fun _ => p) fun _ => rfl
    · exact cr_stepOut (cr_pushCond cr_dq_pushF fuse h it p (fun q => q) fun _ => p) fun _ => rfl
  | pushDecrease it p =>
    cases k
    · exact cr_stepOut (cr_pushCond cr_pq_pushF fuse h it p (fun _ => p) fun q => q) fun _ => rfl
    · exact cr_stepOut (cr_pushCond cr_dq_pushF fuse h it p (fun _ => p) fun q => q) fun _ => rfl
  | changePriority key p =>
    cases k
    · exact cr_stepOut (cr_pq_changePriorityF fuse h key p) fun _ => rfl
    · exact cr_stepOut (cr_dq_changePriorityF fuse h key p) fun _ => rfl
  | changePriorityBy key g =>
    cases k
    · exact cr_stepOut (cr_pq_changePriorityByF fuse h key g) fun _ => rfl
    · exact cr_stepOut (cr_dq_changePriorityByF fuse h key g) fun _ => rfl
  | remove key =>
    cases k
    · exact cr_stepOut (cr_pq_removeF fuse h key) fun _ => rfl
    · exact cr_stepOut (cr_dq_removeF fuse h key) fun _ => rfl
  | getMut key w => exact Or.inl rfl
  | popFront =>
    cases k
    · exact cr_stepOut (cr_pq_popF fuse h) fun _ => rfl
    · exact cr_stepOut (cr_dq_popMinF fuse h) fun _ => rfl
  | popBack =>
    cases k
    · exact Or.inl rfl
    · exact cr_stepOut (cr_dq_popMaxF fuse h) fun _ => rfl
  | popFrontIf f =>
    cases k
    · exact cr_stepOut (cr_pq_popIfF fuse h f hl) fun _ => rfl
    · exact cr_stepOut (cr_dq_popMinIfF fuse h f hl) fun _ => rfl
  | popBackIf f =>
    cases k
    · exact Or.inl rfl
    · exact cr_stepOut (cr_dq_popMaxIfF fuse h f hl) fun _ => rfl
  | peekFrontMut w =>
    cases k
    · exact cr_stepOut (W := fun _ => True) (cr_lift (PQ.MaxQ.peekMutWrite s w) _) fun _ => rfl
    · exact cr_stepOut (W := fun _ => True) (cr_lift (PQ.DQ.peekMinMutWrite s w) _) fun _ => rfl
  | peekBackMut w =>
    cases k
    · exact Or.inl rfl
    · exact cr_stepOut ((cr_dq_peekMaxMutWriteF fuse s w).mono fun _ e => ⟨e ▸ h, trivial⟩) fun _ => rfl
  | retainMut f =>
    cases k
    · exact cr_stepOut (cr_pq_retainMutF fuse h f hl) fun _ => rfl
    · exact cr_stepOut (cr_dq_retainMutF fuse h f hl) fun _ => rfl
  | iterMut leak prog =>
    obtain ⟨outs, m', hrun, hwf1, _⟩ := hist_iterMutRun_wf h k prog
    cases leak with
    | true =>
      left
      show (liftQ k (liftR (iterMutRun k s.map.size prog PIterMut.new (DIterMut.new s.map.size) s.map)) >>= _) =
        liftQ k (liftR (iterMutRun k s.map.size prog PIterMut.new (DIterMut.new s.map.size) s.map >>= _))
      rw [hrun]; rfl
    | false =>
      have e1 : stepF fuse ⟨k, s⟩ (.iterMut false prog) =
          (liftQ k (heapBuildKF fuse k { s with map := m' }) >>= fun s' => pure (⟨k, s'⟩, .outs outs)) := by
        show (liftQ k (liftR (iterMutRun k s.map.size prog PIterMut.new (DIterMut.new s.map.size) s.map)) >>= _) = _
        rw [hrun]; rfl
      have e2 : step ⟨k, s⟩ (.iterMut false prog) =
          (heapBuildK k { s with map := m' } >>= fun s' => pure (⟨k, s'⟩, .outs outs)) := by
        show (iterMutRun k s.map.size prog PIterMut.new (DIterMut.new s.map.size) s.map >>= _) = _
        rw [hrun]; rfl
      rw [e1, e2]
      cases k
      · exact cr_stepOut (cr_pq_heapBuildF fuse hwf1) fun _ => rfl
      · exact cr_stepOut (cr_dq_heapBuildF fuse hwf1) fun _ => rfl
  | extend lo xs =>
    cases k
    · exact cr_stepOut ((cr_pq_extendF fuse h lo xs).mono fun _ hs => ⟨hs, trivial⟩) fun _ => rfl
    · exact cr_stepOut ((cr_dq_extendF fuse h lo xs).mono fun _ hs => ⟨hs, trivial⟩) fun _ => rfl
  | append o =>
    cases k
    · exact cr_stepOut (cr_pq_appendF fuse h hl) fun _ => rfl
    · exact cr_stepOut (cr_dq_appendF fuse h hl) fun _ => rfl
  | fromVec xs =>
    cases k
    · exact cr_stepOut_new (cr_ctor cr_pq_heapBuildF fuse (wf_fromVec xs) (pure ())) fun _ => rfl
    · exact cr_stepOut_new (cr_ctor cr_dq_heapBuildF fuse (wf_fromVec xs) (pure ())) fun _ => rfl
  | fromIter lo xs =>
    cases k
    · exact cr_stepOut_new (cr_ctor cr_pq_heapBuildF fuse (wf_fromIter xs) (reserveC lo)) fun _ => rfl
    · exact cr_stepOut_new (cr_ctor cr_dq_heapBuildF fuse (wf_fromIter xs) (reserveC lo)) fun _ => rfl
  | deserialize hint xs =>
    cases k
    · exact cr_stepOut_new (cr_pq_deserializeF fuse hint xs) fun _ => rfl
    · exact cr_stepOut_new (cr_dq_deserializeF fuse hint xs) fun _ => rfl
  | convert =>
    cases k
    · exact cr_stepOut (cr_dq_heapBuildF fuse h) fun _ => rfl
    · exact cr_stepOut (cr_pq_heapBuildF fuse h) fun _ => rfl
  | clear => exact Or.inl rfl
  | drain => exact Or.inl rfl
  | capacityOp => exact Or.inl rfl

/-- A legal operation on a well-formed queue, run with ANY fuse: a normal return leaves a
well-formed queue (it is the plain operation's return), a crash leaves a well-formed queue, and there is no model fault. -/
theorem cr_stepF_wf (fuse : Nat) {q : Q P} {op : Op P} (hq : QWF q) (hl : op.Legal) :
    (∀ q' o, stepF fuse q op = .ok (q', o) → QWF q') ∧
    (∀ q', stepF fuse q op = .error (.crashed q') → QWF q') ∧
    (∀ f, stepF fuse q op ≠ .error (.fault f)) := by
  obtain ⟨q1, o1, hs, hwf⟩ := hist_step_safe hq hl
  rcases cr_stepF_out fuse hq hl with h | ⟨q', h, hw⟩ | h <;> rw [h]
  · rw [hs]
    refine ⟨fun q' o e => ?_, fun q' e => ?_, fun f e => ?_⟩ <;> cases e
    exact hwf
  · refine ⟨fun q' o e => ?_, fun q'' e => ?_, fun f e => ?_⟩ <;> cases e
    exact hw
  · refine ⟨fun q' o e => ?_, fun q'' e => ?_, fun f e => ?_⟩ <;> cases e

/-- a normal return of the fused operation is the return of the plain operation -/
theorem cr_stepF_ok (fuse : Nat) {q : Q P} {op : Op P} (hq : QWF q) (hl : op.Legal) {r : Q P × Out P}
    (hr : stepF fuse q op = .ok r) : step q op = .ok r := by
  obtain ⟨q1, o1, hs, hwf⟩ := hist_step_safe hq hl
  rcases cr_stepF_out fuse hq hl with h | ⟨q', h, hw⟩ | h <;> rw [h] at hr
  · rw [hs] at hr; cases hr; exact hs
  · cases hr
  · cases hr

/-- whatever queue the caller holds after the operation stopped (`StopQ.survivor`: the crashed queue, or the old queue when a
fresh one was being built) is well-formed -/
theorem cr_survivor_wf (fuse : Nat) {q : Q P} {op : Op P} (hq : QWF q) (hl : op.Legal) {e : StopQ P}
    (he : stepF fuse q op = .error e) : ∃ q', e.survivor q = some q' ∧ QWF q' := by
  obtain ⟨_, h2, h3⟩ := cr_stepF_wf fuse hq hl
  cases e with
  | fault f => exact absurd he (h3 f)
  | crashed q' => exact ⟨q', rfl, h2 q' he⟩
  | crashedNew => exact ⟨q, rfl, hq⟩

/-! ## Sequences of operations, each with its own fuse -/

/-- run a sequence of operations, the `j`-th with fuse `prog[j].1`; whenever a fuse fires the run continues from the queue
that survives the crash (the crashed queue, or the old one if a fresh queue was being built); a model fault stops the run.
Returns the final queue and the number of crashes. -/
def runF (q : Q P) : List (Nat × Op P) → Except Fault (Q P × Nat)
  | [] => .ok (q, 0)
  | (fuse, op) :: rest =>
    match stepF fuse q op with
    | .ok (q', _) => runF q' rest
    | .error (.crashed q') => (runF q' rest).map fun r => (r.1, r.2 + 1)
    | .error .crashedNew => (runF q rest).map fun r => (r.1, r.2 + 1)
    | .error (.fault f) => .error f

/-- any sequence of legal operations with arbitrary fuses, from a well-formed queue: no model fault, well-formed at the end -/
theorem cr_runF_wf (prog : List (Nat × Op P)) : ∀ {q : Q P}, QWF q → (∀ x ∈ prog, x.2.Legal) →
    ∃ q' n, runF q prog = .ok (q', n) ∧ QWF q' := by
  induction prog with
  | nil => intro q hq _; exact ⟨q, 0, rfl, hq⟩
  | cons x rest ih =>
    intro q hq hl
    obtain ⟨fuse, op⟩ := x
    have hlr : ∀ x ∈ rest, x.2.Legal := fun x hx => hl x (List.mem_cons_of_mem _ hx)
    obtain ⟨h1, h2, h3⟩ := cr_stepF_wf fuse hq (hl (fuse, op) List.mem_cons_self)
    simp only [runF]
    cases hs : stepF fuse q op with
    | ok r => exact ih (h1 r.1 r.2 hs) hlr
    | error e =>
      cases e with
      | fault f => exact absurd hs (h3 f)
      | crashed q1 =>
        obtain ⟨q', n, hr, hw⟩ := ih (h2 q1 hs) hlr
        exact ⟨q', n + 1, by simp only [hr, Except.map], hw⟩
      | crashedNew =>
        obtain ⟨q', n, hr, hw⟩ := ih hq hlr
        exact ⟨q', n + 1, by simp only [hr, Except.map], hw⟩

/-! ## The three clauses

For every twin, `cr_three_post (cr_… : CrOut (fF fuse …) (f …) Q) (the plain *_safe lemma)` gives: a normal return satisfies the
postcondition of the plain function, a crash state satisfies `Q`, and there is neither a model fault nor `crashedNew`.
Spelled out for one twin of each sort of loop (swap-based, hole). -/

omit [LE P] [Std.IsLinearPreorder P] [Std.LawfulOrderLT P] in
theorem cr_three_post {α : Type} {x : CR P α} {y : R α} {W : Store P → Prop} {post : α → Prop} (h : CrOut x y W)
    (hy : ∃ r, y = .ok r ∧ post r) :
    (∀ r, x = .ok r → post r) ∧ (∀ s', x = .error (.crashed s') → W s') ∧ (∀ f, x ≠ .error (.fault f)) ∧
      x ≠ .error .crashedNew := by
  obtain ⟨r, hr, hp⟩ := hy
  obtain ⟨h1, h2, h3, h4⟩ := cr_three h hr
  exact ⟨fun r' e => (h1 r' e) ▸ hp, h2, h3, h4⟩

theorem cr_pq_heapifyLoopF_three (fuse fuel : Nat) {s : Store P} {i : Nat} (h : s.WF) (hi : i < s.size)
    (hf : s.size - i ≤ fuel) :
    (∀ r, MaxQ.heapifyLoopF fuse fuel s i = .ok r → r.WF ∧ r.map = s.map ∧ r.size = s.size) ∧
    (∀ s', MaxQ.heapifyLoopF fuse fuel s i = .error (.crashed s') → s'.WF ∧ s'.map = s.map ∧ s'.size = s.size) ∧
    (∀ f, MaxQ.heapifyLoopF fuse fuel s i ≠ .error (.fault f)) ∧
    MaxQ.heapifyLoopF fuse fuel s i ≠ .error .crashedNew :=
  cr_three_post (cr_pq_heapifyLoopF fuse fuel s i h hi) (PQ.MaxQ.heapifyLoop_safe fuel s i h hi hf)

theorem cr_pq_bubbleUpLoopF_three (fuse : Nat) (v : P) {n idx fuel : Nat} {s : Store P} {hole : Nat}
    (h : s.HoleTWF n hole idx) (hf : hole + 1 ≤ fuel) :
    (∀ r, MaxQ.bubbleUpLoopF fuse idx fuel s hole v = .ok r → r.1.HoleTWF n r.2 idx ∧ r.1.map = s.map ∧
        r.1.size = s.size ∧ r.2 ≤ hole) ∧
    (∀ s', MaxQ.bubbleUpLoopF fuse idx fuel s hole v = .error (.crashed s') → s'.TWF n ∧ s'.map = s.map ∧
        s'.size = s.size) ∧
    (∀ f, MaxQ.bubbleUpLoopF fuse idx fuel s hole v ≠ .error (.fault f)) ∧
    MaxQ.bubbleUpLoopF fuse idx fuel s hole v ≠ .error .crashedNew := by
  refine cr_three_post (cr_pq_bubbleUpLoopF fuse v n idx fuel s hole h) ?_
  obtain ⟨s', pos, h1, h2, h3, h4, h5⟩ := PQ.MaxQ.bubbleUpLoop_tables v n idx fuel s hole h hf
  exact ⟨(s', pos), h1, h2, h3, h4, h5⟩

/-- a crashed `pushF` of a NEW item has already counted it -/
theorem cr_pq_pushF_new_size (fuse : Nat) {s s' : Store P} (h : s.WF) {it : Item} {p : P} (hn : s.abs it.key = none)
    (hc : MaxQ.pushF fuse s it p = .error (.crashed s')) : s'.WF ∧ s'.size = s.size + 1 := by
  have := (cr_pq_pushF fuse h it p).crashed hc
  rw [hn] at this; exact this

theorem cr_dq_pushF_new_size (fuse : Nat) {s s' : Store P} (h : s.WF) {it : Item} {p : P} (hn : s.abs it.key = none)
    (hc : DQ.pushF fuse s it p = .error (.crashed s')) : s'.WF ∧ s'.size = s.size + 1 := by
  have := (cr_dq_pushF fuse h it p).crashed hc
  rw [hn] at this; exact this

end Safe

/-! ## Erasure: with the fuse off the twins are the plain functions (no hypothesis at all) -/
section Erasure
variable {P : Type} [LT P] [DecidableLT P]

theorem cr_er_ite {α : Type} (c : Prop) [Decidable c] (a b : R α) :
    (liftR (if c then a else b) : CR P α) = if c then liftR a else liftR b := by
  split <;> rfl

theorem cr_er_bind {α β : Type} {x : CR P α} {y : R α} {f : α → CR P β} {g : α → R β} (hx : x = liftR y)
    (h : ∀ a, f a = liftR (g a)) : (x >>= f) = liftR (y >>= g) := by
  rw [hx]
  cases y with
  | error e => rfl
  | ok a => exact h a

theorem cr_er_asNew {α : Type} (y : R α) : asNew (liftR y : CR P α) = liftR y := by
  cases y <;> rfl

/-- `pushIncreaseF` / `pushDecreaseF` of either kind with the fuse off (`a q`, `b q` as in `cr_pushCond`) -/
theorem cr_er_pushCond {pushF : Nat → Store P → Item → P → CR P (Store P × Option P)}
    {push : Store P → Item → P → R (Store P × Option P)} (hpush : ∀ s it p, pushF 0 s it p = liftR (push s it p))
    (s : Store P) (it : Item) (p : P) (a b : P → P) :
    (match s.getPriority it.key with
      | none => pushF 0 s it p
      | some q => do
        let (s, lt) ← cmpF 0 s (a q) (b q)
        if lt then pushF 0 s it p else pure (s, some p)) =
    liftR (match s.getPriority it.key with
      | none => push s it p
      | some q =>
        let s := s.tick
        if a q < b q then push s it p else pure (s, some p)) := by
  cases s.getPriority it.key with
  | none => exact hpush s it p
  | some q => simp only [cmpF_zero, ok_bind, decide_eq_true_eq, hpush, cr_er_ite, liftR_pure]

/-- the constructors of either kind with the fuse off (`pre`, `s0` as in `cr_ctor`) -/
theorem cr_er_ctor {buildF : Nat → Store P → CR P (Store P)} {build : Store P → R (Store P)}
    (hb : ∀ s, buildF 0 s = liftR (build s)) (s0 : Store P) (pre : R Unit) :
    (liftR pre >>= fun _ => asNew (buildF 0 s0)) = liftR (pre >>= fun _ => build s0) := by
  rw [hb, cr_er_asNew]
  cases pre <;> rfl

/-! ### `priority_queue/mod.rs` -/

theorem cr_er_pq_pickLargestF (s : Store P) (i : Nat) :
    MaxQ.pickLargestF 0 s i = liftR (PQ.MaxQ.pickLargest s i) := by
  unfold MaxQ.pickLargestF PQ.MaxQ.pickLargest
  simp only [liftR_bind, liftR_pure, cr_er_ite, cmpF_zero, ok_bind, decide_eq_true_eq]

theorem cr_er_pq_heapifyLoopF (fuel : Nat) : ∀ (s : Store P) (i : Nat),
    MaxQ.heapifyLoopF 0 fuel s i = liftR (PQ.MaxQ.heapifyLoop fuel s i) := by
  induction fuel with
  | zero => intro s i; rfl
  | succ fuel ih =>
    intro s i
    simp only [MaxQ.heapifyLoopF, PQ.MaxQ.heapifyLoop, cr_er_pq_pickLargestF, ih, liftR_bind, liftR_pure, cr_er_ite]

theorem cr_er_pq_heapifyF (s : Store P) (i : Nat) : MaxQ.heapifyF 0 s i = liftR (PQ.MaxQ.heapify s i) := by
  simp only [MaxQ.heapifyF, PQ.MaxQ.heapify, cr_er_pq_heapifyLoopF, liftR_pure, cr_er_ite]

theorem cr_er_pq_bubbleUpLoopF (mp : Nat) (fuel : Nat) : ∀ (s : Store P) (pos : Nat) (v : P),
    MaxQ.bubbleUpLoopF 0 mp fuel s pos v = liftR (PQ.MaxQ.bubbleUpLoop fuel s pos v) := by
  induction fuel with
  | zero => intro s i v; rfl
  | succ fuel ih =>
    intro s i v
    simp only [MaxQ.bubbleUpLoopF, PQ.MaxQ.bubbleUpLoop, ih, liftR_bind, liftR_pure, cr_er_ite, cmpHoleF_zero,
      ok_bind, decide_eq_true_eq]

theorem cr_er_pq_bubbleUpF (s : Store P) (i idx : Nat) :
    MaxQ.bubbleUpF 0 s i idx = liftR (PQ.MaxQ.bubbleUp s i idx) := by
  simp only [MaxQ.bubbleUpF, PQ.MaxQ.bubbleUp, cr_er_pq_bubbleUpLoopF, liftR_bind, liftR_pure]

theorem cr_er_pq_upHeapifyF (s : Store P) (i : Nat) : MaxQ.upHeapifyF 0 s i = liftR (PQ.MaxQ.upHeapify s i) := by
  simp only [MaxQ.upHeapifyF, PQ.MaxQ.upHeapify, cr_er_pq_bubbleUpF, cr_er_pq_heapifyF, liftR_bind]

theorem cr_er_pq_heapBuildLoopF : ∀ (k : Nat) (s : Store P),
    MaxQ.heapBuildLoopF 0 s k = liftR (PQ.MaxQ.heapBuildLoop s k) := by
  intro k
  induction k with
  | zero => intro s; simp only [MaxQ.heapBuildLoopF, PQ.MaxQ.heapBuildLoop, cr_er_pq_heapifyF]
  | succ k ih =>
    intro s
    simp only [MaxQ.heapBuildLoopF, PQ.MaxQ.heapBuildLoop, cr_er_pq_heapifyF, ih, liftR_bind]

theorem cr_er_pq_heapBuildF (s : Store P) : MaxQ.heapBuildF 0 s = liftR (PQ.MaxQ.heapBuild s) := by
  simp only [MaxQ.heapBuildF, PQ.MaxQ.heapBuild, cr_er_pq_heapBuildLoopF, liftR_bind, liftR_pure, cr_er_ite]

theorem cr_er_pq_popF (s : Store P) : MaxQ.popF 0 s = liftR (PQ.MaxQ.pop s) := by
  unfold MaxQ.popF PQ.MaxQ.pop
  generalize s.size = n
  match n with
  | 0 => rfl
  | 1 => rfl
  | n + 2 =>
    dsimp only
    refine cr_er_bind rfl ?_
    rintro ⟨s1, r⟩
    simp only [cr_er_pq_heapifyF, liftR_bind, liftR_pure]

theorem cr_er_pq_popIfF (s : Store P) (f : Item → P → Bool × Item × P) :
    MaxQ.popIfF 0 s f = liftR (PQ.MaxQ.popIf s f) := by
  unfold MaxQ.popIfF PQ.MaxQ.popIf
  generalize s.size = n
  match n with
  | 0 => rfl
  | 1 => rfl
  | n + 2 =>
    dsimp only
    refine cr_er_bind rfl ?_
    rintro ⟨s1, r⟩
    simp only [cr_er_pq_heapifyF, liftR_bind, liftR_pure]

/-- **`pushF`**: the one intended difference to `push` — `size` is bumped before the sift-up instead of after it — does not
show in the result, because `bubble_up` neither reads nor writes `size` -/
theorem cr_er_pq_pushF (s : Store P) (it : Item) (p : P) : MaxQ.pushF 0 s it p = liftR (PQ.MaxQ.push s it p) := by
  unfold MaxQ.pushF PQ.MaxQ.push
  generalize s.map.insertFull it p = t
  obtain ⟨map, idx, old⟩ := t
  cases old with
  | some oldp => simp only [cr_er_pq_upHeapifyF, liftR_bind, liftR_pure]
  | none =>
    dsimp only
    rw [cr_bump_first cr_pq_bubbleUp_size]
    simp only [cr_er_pq_bubbleUpF, liftR_bind, liftR_pure]

theorem cr_er_pq_changePriorityF (s : Store P) (k : Nat) (p : P) :
    MaxQ.changePriorityF 0 s k p = liftR (PQ.MaxQ.changePriority s k p) := by
  unfold MaxQ.changePriorityF PQ.MaxQ.changePriority
  refine cr_er_bind rfl ?_
  rintro ⟨s1, r⟩
  cases r with
  | none => rfl
  | some x => simp only [cr_er_pq_upHeapifyF, liftR_bind, liftR_pure]

theorem cr_er_pq_changePriorityByF (s : Store P) (k : Nat) (g : P → P) :
    MaxQ.changePriorityByF 0 s k g = liftR (PQ.MaxQ.changePriorityBy s k g) := by
  unfold MaxQ.changePriorityByF PQ.MaxQ.changePriorityBy
  refine cr_er_bind rfl ?_
  rintro ⟨s1, r⟩
  cases r with
  | none => rfl
  | some x => simp only [cr_er_pq_upHeapifyF, liftR_bind, liftR_pure]

theorem cr_er_pq_removeF (s : Store P) (k : Nat) : MaxQ.removeF 0 s k = liftR (PQ.MaxQ.remove s k) := by
  unfold MaxQ.removeF PQ.MaxQ.remove
  refine cr_er_bind rfl ?_
  rintro ⟨s1, r⟩
  cases r with
  | none => rfl
  | some x => simp only [cr_er_pq_upHeapifyF, liftR_bind, liftR_pure, cr_er_ite]

theorem cr_er_pq_appendF (s o : Store P) : MaxQ.appendF 0 s o = liftR (PQ.MaxQ.append s o) := by
  simp only [MaxQ.appendF, PQ.MaxQ.append, cr_er_pq_heapBuildF, liftR_bind, liftR_pure]

theorem cr_er_pq_deserializeF (hint : Option Nat) (xs : Array (Item × P)) :
    MaxQ.deserializeF 0 hint xs = liftR (PQ.MaxQ.deserialize hint xs) := by
  cases hint <;> exact cr_er_ctor cr_er_pq_heapBuildF _ _

theorem cr_er_pq_pushAllF : ∀ (l : List (Item × P)) (s : Store P),
    MaxQ.pushAllF 0 l s = liftR (PQ.MaxQ.pushAll l s) := by
  intro l
  induction l with
  | nil => intro s; rfl
  | cons e l ih =>
    intro s
    simp only [MaxQ.pushAllF, PQ.MaxQ.pushAll, cr_er_pq_pushF, ih, liftR_bind]

theorem cr_er_pq_extendF (s : Store P) (lo : Nat) (xs : Array (Item × P)) :
    MaxQ.extendF 0 s lo xs = liftR (PQ.MaxQ.extend s lo xs) := by
  simp only [MaxQ.extendF, PQ.MaxQ.extend, cr_er_pq_heapBuildF, cr_er_pq_pushAllF, cr_er_ite, liftR_bind]

theorem cr_er_pq_iterMutDropF (s : Store P) (prog : List (ICall × IMWrite P)) :
    MaxQ.iterMutDropF 0 s prog =
      liftR (do let (outs, m) ← iterMutRun .pq s.map.size prog PIterMut.new (DIterMut.new s.map.size) s.map
                let s' ← PQ.MaxQ.heapBuild { s with map := m }
                pure (s', outs)) := by
  simp only [MaxQ.iterMutDropF, cr_er_pq_heapBuildF, liftR_bind, liftR_pure]

/-! ### `double_priority_queue/mod.rs` -/

theorem cr_er_dq_minFoldF : ∀ (ys : List (Nat × P)) (s : Store P) (acc : Nat × P),
    DQ.minFoldF 0 ys s acc = .ok (s.tick ys.length, ys.foldl (fun acc y => if y.2 < acc.2 then y else acc) acc) := by
  intro ys
  induction ys with
  | nil => intro s acc; rfl
  | cons y ys ih =>
    intro s acc
    simp only [DQ.minFoldF, cmpF_zero, ok_bind, ih, decide_eq_true_eq, List.foldl_cons, List.length_cons, tick_tick]
    rw [Nat.add_comm]

theorem cr_er_dq_maxFoldF : ∀ (ys : List (Nat × P)) (s : Store P) (acc : Nat × P),
    DQ.maxFoldF 0 ys s acc = .ok (s.tick ys.length, ys.foldl (fun acc y => if y.2 < acc.2 then acc else y) acc) := by
  intro ys
  induction ys with
  | nil => intro s acc; rfl
  | cons y ys ih =>
    intro s acc
    simp only [DQ.maxFoldF, cmpF_zero, ok_bind, ih, decide_eq_true_eq, List.foldl_cons, List.length_cons, tick_tick]
    rw [Nat.add_comm]

/-- the threaded fold of `minByKeyF` is the plain `min_by_key` plus `length - 1` ticks (what the plain model ticks at once) -/
theorem cr_er_dq_minByKeyF (s : Store P) (cs : List (Nat × P)) :
    DQ.minByKeyF 0 s cs = .ok (s.tick (cs.length - 1), PQ.DQ.minByKey cs) := by
  cases cs with
  | nil => rfl
  | cons x xs => simp only [DQ.minByKeyF, PQ.DQ.minByKey, cr_er_dq_minFoldF, ok_bind, List.length_cons,
      Nat.add_sub_cancel, cr_pure_eq]

theorem cr_er_dq_maxByKeyF (s : Store P) (cs : List (Nat × P)) :
    DQ.maxByKeyF 0 s cs = .ok (s.tick (cs.length - 1), PQ.DQ.maxByKey cs) := by
  cases cs with
  | nil => rfl
  | cons x xs => simp only [DQ.maxByKeyF, PQ.DQ.maxByKey, cr_er_dq_maxFoldF, ok_bind, List.length_cons,
      Nat.add_sub_cancel, cr_pure_eq]

theorem cr_er_dq_heapifyMinLoopF (fuel : Nat) : ∀ (s : Store P) (i : Nat),
    DQ.heapifyMinLoopF 0 fuel s i = liftR (PQ.DQ.heapifyMinLoop fuel s i) := by
  induction fuel with
  | zero => intro s i; rfl
  | succ fuel ih =>
    intro s i
    simp only [DQ.heapifyMinLoopF, PQ.DQ.heapifyMinLoop, ih, cr_er_dq_minByKeyF, cmpF_zero, ok_bind, liftR_bind,
      liftR_pure, cr_er_ite, decide_eq_true_eq]

theorem cr_er_dq_heapifyMaxLoopF (fuel : Nat) : ∀ (s : Store P) (i : Nat),
    DQ.heapifyMaxLoopF 0 fuel s i = liftR (PQ.DQ.heapifyMaxLoop fuel s i) := by
  induction fuel with
  | zero => intro s i; rfl
  | succ fuel ih =>
    intro s i
    simp only [DQ.heapifyMaxLoopF, PQ.DQ.heapifyMaxLoop, ih, cr_er_dq_maxByKeyF, cmpF_zero, ok_bind, liftR_bind,
      liftR_pure, cr_er_ite, decide_eq_true_eq]

theorem cr_er_dq_heapifyF (s : Store P) (i : Nat) : DQ.heapifyF 0 s i = liftR (PQ.DQ.heapify s i) := by
  simp only [DQ.heapifyF, PQ.DQ.heapify, cr_er_dq_heapifyMinLoopF, cr_er_dq_heapifyMaxLoopF, liftR_pure, cr_er_ite]

theorem cr_er_dq_bubbleUpMinLoopF (mp : Nat) (fuel : Nat) : ∀ (s : Store P) (pos : Nat) (v : P),
    DQ.bubbleUpMinLoopF 0 mp fuel s pos v = liftR (PQ.DQ.bubbleUpMinLoop fuel s pos v) := by
  induction fuel with
  | zero => intro s i v; rfl
  | succ fuel ih =>
    intro s i v
    simp only [DQ.bubbleUpMinLoopF, PQ.DQ.bubbleUpMinLoop, ih, liftR_bind, liftR_pure, cr_er_ite, cmpHoleF_zero,
      ok_bind, decide_eq_true_eq]

theorem cr_er_dq_bubbleUpMaxLoopF (mp : Nat) (fuel : Nat) : ∀ (s : Store P) (pos : Nat) (v : P),
    DQ.bubbleUpMaxLoopF 0 mp fuel s pos v = liftR (PQ.DQ.bubbleUpMaxLoop fuel s pos v) := by
  induction fuel with
  | zero => intro s i v; rfl
  | succ fuel ih =>
    intro s i v
    simp only [DQ.bubbleUpMaxLoopF, PQ.DQ.bubbleUpMaxLoop, ih, liftR_bind, liftR_pure, cr_er_ite, cmpHoleF_zero,
      ok_bind, decide_eq_true_eq]

theorem cr_er_dq_bubbleUpMinF (s : Store P) (i idx : Nat) :
    DQ.bubbleUpMinF 0 s i idx = liftR (PQ.DQ.bubbleUpMin s i idx) := by
  simp only [DQ.bubbleUpMinF, PQ.DQ.bubbleUpMin, cr_er_dq_bubbleUpMinLoopF, liftR_bind]

theorem cr_er_dq_bubbleUpMaxF (s : Store P) (i idx : Nat) :
    DQ.bubbleUpMaxF 0 s i idx = liftR (PQ.DQ.bubbleUpMax s i idx) := by
  simp only [DQ.bubbleUpMaxF, PQ.DQ.bubbleUpMax, cr_er_dq_bubbleUpMaxLoopF, liftR_bind]

theorem cr_er_dq_bubbleUpF (s : Store P) (i idx : Nat) :
    DQ.bubbleUpF 0 s i idx = liftR (PQ.DQ.bubbleUp s i idx) := by
  unfold DQ.bubbleUpF PQ.DQ.bubbleUp
  refine cr_er_bind rfl fun e => ?_
  dsimp only
  by_cases h0 : i > 0
  · simp only [h0, if_true]
    refine cr_er_bind rfl fun pp => ?_
    refine cr_er_bind rfl fun pi => ?_
    simp only [cmpHoleF_zero, ok_bind]
    cases decide (level i % 2 = 0) <;> cases decide (pp < e.2) <;>
      simp only [cr_er_dq_bubbleUpMinF, cr_er_dq_bubbleUpMaxF, liftR_bind, liftR_pure]
  · simp only [h0, if_false, liftR_bind, liftR_pure]

theorem cr_er_dq_upHeapifyF (s : Store P) (i : Nat) : DQ.upHeapifyF 0 s i = liftR (PQ.DQ.upHeapify s i) := by
  unfold DQ.upHeapifyF PQ.DQ.upHeapify
  cases s.heap[i]? with
  | none => rfl
  | some tmp =>
    simp only [cr_er_dq_bubbleUpF, cr_er_dq_heapifyF, liftR_bind, liftR_pure, cr_er_ite]

theorem cr_er_dq_heapBuildLoopF : ∀ (k : Nat) (s : Store P),
    DQ.heapBuildLoopF 0 s k = liftR (PQ.DQ.heapBuildLoop s k) := by
  intro k
  induction k with
  | zero => intro s; simp only [DQ.heapBuildLoopF, PQ.DQ.heapBuildLoop, cr_er_dq_heapifyF]
  | succ k ih =>
    intro s
    simp only [DQ.heapBuildLoopF, PQ.DQ.heapBuildLoop, cr_er_dq_heapifyF, ih, liftR_bind]

theorem cr_er_dq_heapBuildF (s : Store P) : DQ.heapBuildF 0 s = liftR (PQ.DQ.heapBuild s) := by
  simp only [DQ.heapBuildF, PQ.DQ.heapBuild, cr_er_dq_heapBuildLoopF, liftR_bind, liftR_pure, cr_er_ite]

theorem cr_er_dq_findMaxF (s : Store P) : DQ.findMaxF 0 s = liftR (PQ.DQ.findMax s) := by
  unfold DQ.findMaxF PQ.DQ.findMax
  generalize s.size = n
  match n with
  | 0 => rfl
  | 1 => rfl
  | 2 => rfl
  | n + 3 =>
    dsimp only
    simp only [cmpF_zero, ok_bind, liftR_bind, liftR_pure, decide_eq_true_eq]

theorem cr_er_dq_peekMaxF (s : Store P) : DQ.peekMaxF 0 s = liftR (PQ.DQ.peekMax s) := by
  unfold DQ.peekMaxF PQ.DQ.peekMax
  refine cr_er_bind (cr_er_dq_findMaxF s) ?_
  rintro ⟨s1, r⟩
  cases r with
  | none => rfl
  | some i => simp only [liftR_bind, liftR_pure]

theorem cr_er_dq_peekMaxMutWriteF (s : Store P) (w : Item → Item) :
    DQ.peekMaxMutWriteF 0 s w = liftR (PQ.DQ.peekMaxMutWrite s w) := by
  unfold DQ.peekMaxMutWriteF PQ.DQ.peekMaxMutWrite
  refine cr_er_bind (cr_er_dq_findMaxF s) ?_
  rintro ⟨s1, r⟩
  cases r with
  | none => rfl
  | some pos =>
    dsimp only
    refine cr_er_bind rfl fun i => ?_
    cases s1.map.getIndex i <;> rfl

theorem cr_er_dq_popMinF (s : Store P) : DQ.popMinF 0 s = liftR (PQ.DQ.popMin s) := by
  unfold DQ.popMinF PQ.DQ.popMin
  cases PQ.DQ.findMin s with
  | none => rfl
  | some i =>
    dsimp only
    refine cr_er_bind rfl ?_
    rintro ⟨s1, r⟩
    simp only [cr_er_dq_heapifyF, liftR_bind, liftR_pure]

theorem cr_er_dq_popMaxF (s : Store P) : DQ.popMaxF 0 s = liftR (PQ.DQ.popMax s) := by
  unfold DQ.popMaxF PQ.DQ.popMax
  refine cr_er_bind (cr_er_dq_findMaxF s) ?_
  rintro ⟨s1, r⟩
  cases r with
  | none => rfl
  | some i =>
    dsimp only
    refine cr_er_bind rfl ?_
    rintro ⟨s2, r2⟩
    simp only [cr_er_dq_heapifyF, liftR_bind, liftR_pure]

theorem cr_er_dq_popMinIfF (s : Store P) (f : Item → P → Bool × Item × P) :
    DQ.popMinIfF 0 s f = liftR (PQ.DQ.popMinIf s f) := by
  unfold DQ.popMinIfF PQ.DQ.popMinIf
  cases PQ.DQ.findMin s with
  | none => rfl
  | some i =>
    dsimp only
    refine cr_er_bind rfl ?_
    rintro ⟨s1, r⟩
    simp only [cr_er_dq_heapifyF, liftR_bind, liftR_pure]

theorem cr_er_dq_popMaxIfF (s : Store P) (f : Item → P → Bool × Item × P) :
    DQ.popMaxIfF 0 s f = liftR (PQ.DQ.popMaxIf s f) := by
  unfold DQ.popMaxIfF PQ.DQ.popMaxIf
  refine cr_er_bind (cr_er_dq_findMaxF s) ?_
  rintro ⟨s1, r⟩
  cases r with
  | none => rfl
  | some i =>
    dsimp only
    refine cr_er_bind rfl ?_
    rintro ⟨s2, r2⟩
    simp only [cr_er_dq_upHeapifyF, liftR_bind, liftR_pure]

theorem cr_er_dq_pushF (s : Store P) (it : Item) (p : P) : DQ.pushF 0 s it p = liftR (PQ.DQ.push s it p) := by
  unfold DQ.pushF PQ.DQ.push
  generalize s.map.insertFull it p = t
  obtain ⟨map, idx, old⟩ := t
  cases old with
  | some oldp => simp only [cr_er_dq_upHeapifyF, liftR_bind, liftR_pure]
  | none =>
    dsimp only
    rw [cr_bump_first cr_dq_bubbleUp_size]
    simp only [cr_er_dq_bubbleUpF, liftR_bind, liftR_pure]

theorem cr_er_dq_changePriorityF (s : Store P) (k : Nat) (p : P) :
    DQ.changePriorityF 0 s k p = liftR (PQ.DQ.changePriority s k p) := by
  unfold DQ.changePriorityF PQ.DQ.changePriority
  refine cr_er_bind rfl ?_
  rintro ⟨s1, r⟩
  cases r with
  | none => rfl
  | some x => simp only [cr_er_dq_upHeapifyF, liftR_bind, liftR_pure]

theorem cr_er_dq_changePriorityByF (s : Store P) (k : Nat) (g : P → P) :
    DQ.changePriorityByF 0 s k g = liftR (PQ.DQ.changePriorityBy s k g) := by
  unfold DQ.changePriorityByF PQ.DQ.changePriorityBy
  refine cr_er_bind rfl ?_
  rintro ⟨s1, r⟩
  cases r with
  | none => rfl
  | some x => simp only [cr_er_dq_upHeapifyF, liftR_bind, liftR_pure]

theorem cr_er_dq_removeF (s : Store P) (k : Nat) : DQ.removeF 0 s k = liftR (PQ.DQ.remove s k) := by
  unfold DQ.removeF PQ.DQ.remove
  refine cr_er_bind rfl ?_
  rintro ⟨s1, r⟩
  cases r with
  | none => rfl
  | some x => simp only [cr_er_dq_upHeapifyF, liftR_bind, liftR_pure, cr_er_ite]

theorem cr_er_dq_appendF (s o : Store P) : DQ.appendF 0 s o = liftR (PQ.DQ.append s o) := by
  simp only [DQ.appendF, PQ.DQ.append, cr_er_dq_heapBuildF, liftR_bind, liftR_pure]

theorem cr_er_dq_deserializeF (hint : Option Nat) (xs : Array (Item × P)) :
    DQ.deserializeF 0 hint xs = liftR (PQ.DQ.deserialize hint xs) := by
  cases hint <;> exact cr_er_ctor cr_er_dq_heapBuildF _ _

theorem cr_er_dq_pushAllF : ∀ (l : List (Item × P)) (s : Store P),
    DQ.pushAllF 0 l s = liftR (PQ.DQ.pushAll l s) := by
  intro l
  induction l with
  | nil => intro s; rfl
  | cons e l ih =>
    intro s
    simp only [DQ.pushAllF, PQ.DQ.pushAll, cr_er_dq_pushF, ih, liftR_bind]

theorem cr_er_dq_extendF (s : Store P) (lo : Nat) (xs : Array (Item × P)) :
    DQ.extendF 0 s lo xs = liftR (PQ.DQ.extend s lo xs) := by
  simp only [DQ.extendF, PQ.DQ.extend, cr_er_dq_heapBuildF, cr_er_dq_pushAllF, cr_er_ite, liftR_bind]

theorem cr_er_dq_iterMutDropF (s : Store P) (prog : List (ICall × IMWrite P)) :
    DQ.iterMutDropF 0 s prog =
      liftR (do let (outs, m) ← iterMutRun .dpq s.map.size prog PIterMut.new (DIterMut.new s.map.size) s.map
                let s' ← PQ.DQ.heapBuild { s with map := m }
                pure (s', outs)) := by
  simp only [DQ.iterMutDropF, cr_er_dq_heapBuildF, liftR_bind, liftR_pure]

theorem cr_er_heapBuildKF (k : Kind) (s : Store P) : heapBuildKF 0 k s = liftR (heapBuildK k s) := by
  cases k
  · exact cr_er_pq_heapBuildF s
  · exact cr_er_dq_heapBuildF s

theorem cr_er_step {α β : Type} {x : CR P α} {y : R α} {k k' : Kind} (hx : x = liftR y)
    {f : α → CRQ P β} {g : α → R β} (hfg : ∀ a, f a = liftQ k (liftR (g a))) :
    (liftQ k x >>= f) = liftQ k' (liftR (y >>= g)) := by
  rw [hx, cr_liftQ_liftR k' k]
  cases y with
  | error e => rfl
  | ok a => exact hfg a

/-- **Erasure.**  With the fuse off, every fused operation is the plain operation of `Ops.step`, for every
queue (well-formed or not) and every operation (legal or not). -/
theorem cr_stepF_zero (q : Q P) (op : Op P) : stepF 0 q op = liftQ q.kind (liftR (step q op)) := by
  obtain ⟨k, s⟩ := q
  cases op with
  | push it p =>
    cases k
    · exact cr_er_step (cr_er_pq_pushF s it p) fun _ => rfl
    · exact cr_er_step (cr_er_dq_pushF s it p) fun _ => rfl
  | pushIncrease it p =>
    cases k
    · exact cr_er_step (cr_er_pushCond cr_er_pq_pushF s it p (fun q => q) fun _ => p) fun _ => rfl
    · exact cr_er_step (cr_er_pushCond cr_er_dq_pushF s it p (fun q => q) fun _ => p) fun _ => rfl
  | pushDecrease it p =>
    cases k
    · exact cr_er_step (cr_er_pushCond cr_er_pq_pushF s it p (fun _ => p) fun q => q) fun _ => rfl
    · exact cr_er_step (cr_er_pushCond cr_er_dq_pushF s it p (fun _ => p) fun q => q) fun _ => rfl
  | changePriority key p =>
    cases k
    · exact cr_er_step (cr_er_pq_changePriorityF s key p) fun _ => rfl
    · exact cr_er_step (cr_er_dq_changePriorityF s key p) fun _ => rfl
  | changePriorityBy key g =>
    cases k
    · exact cr_er_step (cr_er_pq_changePriorityByF s key g) fun _ => rfl
    · exact cr_er_step (cr_er_dq_changePriorityByF s key g) fun _ => rfl
  | remove key =>
    cases k
    · exact cr_er_step (cr_er_pq_removeF s key) fun _ => rfl
    · exact cr_er_step (cr_er_dq_removeF s key) fun _ => rfl
  | getMut key w => rfl
  | popFront =>
    cases k
    · exact cr_er_step (cr_er_pq_popF s) fun _ => rfl
    · exact cr_er_step (cr_er_dq_popMinF s) fun _ => rfl
  | popBack =>
    cases k
    · rfl
    · exact cr_er_step (cr_er_dq_popMaxF s) fun _ => rfl
  | popFrontIf f =>
    cases k
    · exact cr_er_step (cr_er_pq_popIfF s f) fun _ => rfl
    · exact cr_er_step (cr_er_dq_popMinIfF s f) fun _ => rfl
  | popBackIf f =>
    cases k
    · rfl
    · exact cr_er_step (cr_er_dq_popMaxIfF s f) fun _ => rfl
  | peekFrontMut w =>
    cases k
    · exact cr_er_step (y := PQ.MaxQ.peekMutWrite s w) rfl fun _ => rfl
    · exact cr_er_step (y := PQ.DQ.peekMinMutWrite s w) rfl fun _ => rfl
  | peekBackMut w =>
    cases k
    · rfl
    · exact cr_er_step (cr_er_dq_peekMaxMutWriteF s w) fun _ => rfl
  | retainMut f =>
    cases k
    · exact cr_er_step (cr_er_pq_heapBuildF _) fun _ => rfl
    · exact cr_er_step (cr_er_dq_heapBuildF _) fun _ => rfl
  | iterMut leak prog =>
    refine cr_er_step (y := iterMutRun k s.map.size prog PIterMut.new (DIterMut.new s.map.size) s.map) rfl ?_
    rintro ⟨outs, m⟩
    cases leak with
    | true => rfl
    | false => exact cr_er_step (cr_er_heapBuildKF k _) fun _ => rfl
  | extend lo xs =>
    cases k
    · exact cr_er_step (cr_er_pq_extendF s lo xs) fun _ => rfl
    · exact cr_er_step (cr_er_dq_extendF s lo xs) fun _ => rfl
  | append o =>
    cases k
    · exact cr_er_step (cr_er_pq_appendF s _) fun _ => rfl
    · exact cr_er_step (cr_er_dq_appendF s _) fun _ => rfl
  | fromVec xs =>
    cases k
    · exact cr_er_step (cr_er_ctor cr_er_pq_heapBuildF _ (pure ())) fun _ => rfl
    · exact cr_er_step (cr_er_ctor cr_er_dq_heapBuildF _ (pure ())) fun _ => rfl
  | fromIter lo xs =>
    cases k
    · exact cr_er_step (cr_er_ctor cr_er_pq_heapBuildF _ (reserveC lo)) fun _ => rfl
    · exact cr_er_step (cr_er_ctor cr_er_dq_heapBuildF _ (reserveC lo)) fun _ => rfl
  | deserialize hint xs =>
    cases k
    · exact cr_er_step (cr_er_pq_deserializeF hint xs) fun _ => rfl
    · exact cr_er_step (cr_er_dq_deserializeF hint xs) fun _ => rfl
  | convert =>
    cases k
    · exact cr_er_step (cr_er_dq_heapBuildF s) fun _ => rfl
    · exact cr_er_step (cr_er_pq_heapBuildF s) fun _ => rfl
  | clear => rfl
  | drain => rfl
  | capacityOp => rfl

end Erasure
end PQ.Crash
