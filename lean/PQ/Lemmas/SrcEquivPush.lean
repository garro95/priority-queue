import PQ.Lemmas.SrcEquivStore2
/-!
# Source-translated tie: `push` of both queues

The source counts the new element (`size += 1`) BEFORE sifting it up, the hand model after: `bubble_up` neither reads
nor writes the size counter (`*_size_frame`), so the results coincide.
-/
set_option linter.unusedSimpArgs false
set_option linter.unusedSectionVars false
namespace PQ.SrcEquiv
open PQ PQ.Src PQ.SrcGen
variable {P : Type} [LT P] [DecidableLT P]

/-! ## `PriorityQueue::push` -/

theorem bubbleUpLoop_size_frame (f : Nat) (s : Store P) (pos : Nat) (prio : P) (n : Nat) :
    MaxQ.bubbleUpLoop f { s with size := n } pos prio
      = (fun r => (({ r.1 with size := n } : Store P), r.2)) <$> MaxQ.bubbleUpLoop f s pos prio :=
  (bubbleUpLoop_hole prio).size_frame n f s pos

theorem bubbleUp_size_frame (s : Store P) (pos mp n : Nat) :
    MaxQ.bubbleUp { s with size := n } pos mp
      = (fun r => (({ r.1 with size := n } : Store P), r.2)) <$> MaxQ.bubbleUp s pos mp := by
  simp only [MaxQ.bubbleUp, bubbleUpLoop_size_frame, map_eq_pure_bind, bind_assoc, pure_bind]

/-- `PriorityQueue::push` = `MaxQ.push` (the source counts the element before sifting it up, the model after) -/
theorem pqPush (s : Store P) (it : Item) (p : P) (fuel : Nat) (h : fuel ≥ s.size + s.heap.size + 5) :
    Src.run SrcGen.prog fuel .pqPush s [] [p] [Val.item it]
      = (fun r => (r.1, Val.optP r.2)) <$> MaxQ.push s it p := by
  rw [run_eq_pos rfl (by omega)]
  unfold MaxQ.push
  cases hf : IMap.find? s.map it.key with
  | none =>
    rw [IMap.insertFull_of_find?_none hf]
    src_eval [pqPush_body, hf]
    simp only [Option.isSome_none, Bool.false_eq_true, ↓reduceIte]
    rw [call_pqBubbleUp _ _ _ _ (by omega)]
    have hfr := bubbleUp_size_frame
      { map := Array.push s.map (it, p), heap := s.heap.push s.size, qp := s.qp.push s.size, size := s.size,
        ticks := s.ticks } s.size s.size (s.size + 1)
    simp only at hfr
    rw [hfr]
    src_eval
    refine bind_congr_ok fun r hr => ?_
    have hsz := (bubbleUp_kept _ _ _ r hr).1
    simp only at hsz
    simp only [hsz]
  | some i =>
    obtain ⟨e, he, _⟩ := IMap.find?_getElem? hf
    rw [IMap.insertFull_of_find?_some hf he]
    src_eval [pqPush_body, hf, he]
    simp only [Option.isSome_some, ↓reduceIte]
    refine bind_congr_ok fun pos hpos => ?_
    rw [call_pqUpHeapify _ _ _ (by simp only; omega)]
    src_eval

/-! ## `DoublePriorityQueue::push` -/

theorem bubbleUpMinLoop_size_frame (f : Nat) (s : Store P) (pos : Nat) (prio : P) (n : Nat) :
    DQ.bubbleUpMinLoop f { s with size := n } pos prio
      = (fun r => (({ r.1 with size := n } : Store P), r.2)) <$> DQ.bubbleUpMinLoop f s pos prio :=
  (bubbleUpMinLoop_hole prio).size_frame n f s pos

theorem bubbleUpMaxLoop_size_frame (f : Nat) (s : Store P) (pos : Nat) (prio : P) (n : Nat) :
    DQ.bubbleUpMaxLoop f { s with size := n } pos prio
      = (fun r => (({ r.1 with size := n } : Store P), r.2)) <$> DQ.bubbleUpMaxLoop f s pos prio :=
  (bubbleUpMaxLoop_hole prio).size_frame n f s pos

theorem dq_bubbleUpMin_size_frame (s : Store P) (pos mp n : Nat) :
    DQ.bubbleUpMin { s with size := n } pos mp
      = (fun r => (({ r.1 with size := n } : Store P), r.2)) <$> DQ.bubbleUpMin s pos mp := by
  simp only [DQ.bubbleUpMin, bubbleUpMinLoop_size_frame, map_eq_pure_bind, bind_assoc, pure_bind]

theorem dq_bubbleUpMax_size_frame (s : Store P) (pos mp n : Nat) :
    DQ.bubbleUpMax { s with size := n } pos mp
      = (fun r => (({ r.1 with size := n } : Store P), r.2)) <$> DQ.bubbleUpMax s pos mp := by
  simp only [DQ.bubbleUpMax, bubbleUpMaxLoop_size_frame, map_eq_pure_bind, bind_assoc, pure_bind]

theorem dq_bubbleUp_size_frame (s : Store P) (pos mp n : Nat) :
    DQ.bubbleUp { s with size := n } pos mp
      = (fun r => (({ r.1 with size := n } : Store P), r.2)) <$> DQ.bubbleUp s pos mp := by
  simp only [DQ.bubbleUp, Store.prioAt, Store.tick, map_eq_pure_bind, bind_assoc, pure_bind]
  refine bind_congr_ok fun e _ => ?_
  split
  · simp only [bind_assoc]
    refine bind_congr_ok fun i _ => bind_congr_ok fun pe _ => bind_congr_ok fun pi _ => ?_
    have hmin := fun (s' : Store P) p => dq_bubbleUpMin_size_frame s' p mp n
    have hmax := fun (s' : Store P) p => dq_bubbleUpMax_size_frame s' p mp n
    simp only [map_eq_pure_bind] at hmin hmax
    split
    · simp only [bind_assoc]
      refine bind_congr_ok fun heap _ => bind_congr_ok fun qp _ => ?_
      have := hmax { s with ticks := s.ticks + 1, heap := heap, qp := qp } (Arith.parent pos)
      simp only at this
      rw [this]
      simp only [bind_assoc, pure_bind]
    · have := hmin { s with ticks := s.ticks + 1 } pos
      simp only at this
      rw [this]
      simp only [bind_assoc, pure_bind]
    · have := hmax { s with ticks := s.ticks + 1 } pos
      simp only at this
      rw [this]
      simp only [bind_assoc, pure_bind]
    · simp only [bind_assoc]
      refine bind_congr_ok fun heap _ => bind_congr_ok fun qp _ => ?_
      have := hmin { s with ticks := s.ticks + 1, heap := heap, qp := qp } (Arith.parent pos)
      simp only at this
      rw [this]
      simp only [bind_assoc, pure_bind]
  · simp only [pure_bind, bind_assoc]

/-- `DoublePriorityQueue::push` = `DQ.push` -/
theorem dqPush (s : Store P) (it : Item) (p : P) (fuel : Nat) (h : fuel ≥ s.size + s.heap.size + 6) :
    Src.run SrcGen.prog fuel .dqPush s [] [p] [Val.item it]
      = (fun r => (r.1, Val.optP r.2)) <$> DQ.push s it p := by
  rw [run_eq_pos rfl (by omega)]
  unfold DQ.push
  cases hf : IMap.find? s.map it.key with
  | none =>
    rw [IMap.insertFull_of_find?_none hf]
    src_eval [dqPush_body, hf]
    simp only [Option.isSome_none, Bool.false_eq_true, ↓reduceIte]
    rw [call_dqBubbleUp _ _ _ _ (by omega)]
    have hfr := dq_bubbleUp_size_frame
      { map := Array.push s.map (it, p), heap := s.heap.push s.size, qp := s.qp.push s.size, size := s.size,
        ticks := s.ticks } s.size s.size (s.size + 1)
    simp only at hfr
    rw [hfr]
    src_eval
    refine bind_congr_ok fun r hr => ?_
    have hsz := (dq_bubbleUp_kept _ _ _ r hr).1
    simp only at hsz
    simp only [hsz]
  | some i =>
    obtain ⟨e, he, _⟩ := IMap.find?_getElem? hf
    rw [IMap.insertFull_of_find?_some hf he]
    src_eval [dqPush_body, hf, he]
    simp only [Option.isSome_some, ↓reduceIte]
    refine bind_congr_ok fun pos hpos => ?_
    rw [call_dqUpHeapify _ _ _ (by simp only; omega)]
    src_eval
end PQ.SrcEquiv
