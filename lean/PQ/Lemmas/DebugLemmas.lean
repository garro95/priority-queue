import PQ.Lemmas.Defs
/-!
# `impl Debug for Store` on a well-formed store (helper lemmas for C04)
-/
namespace PQ
variable {P : Type}

theorem mapM_ok_of_forall {α β : Type} (f : α → R β) (g : α → β) :
    ∀ (l : List α), (∀ x ∈ l, f x = .ok (g x)) → l.mapM f = .ok (l.map g)
  | [], _ => rfl
  | x :: xs, h => by
    have hx := h x (by simp)
    have ih := mapM_ok_of_forall f g xs (fun y hy => h y (by simp [hy]))
    simp [List.mapM_cons, hx, ih, bind, Except.bind, pure, Except.pure]

/-- `d` only inhabits `P` for the branch of `g` that is never taken -/
theorem debugEntries_wf_aux (d : P) (s : Store P) (h : s.WF) :
    ∃ l, s.debugEntries = .ok l ∧ l.map (·.1) = s.heap.toList ∧ l.length = s.size ∧
      ∀ x ∈ l, s.map[x.1]? = some (x.2.1, x.2.2) := by
  -- every slot named by the heap table is a slot of the map
  have hslot : ∀ i ∈ s.heap.toList, ∃ e, s.map[i]? = some e := by
    intro i hi
    obtain ⟨p, hp, hpe⟩ := List.mem_iff_getElem.mp hi
    have hp' : p < s.size := by simpa [h.heap_size] using hp
    obtain ⟨j, hj, hq⟩ := h.heap_qp p hp'
    have : s.heap[p]? = some i := by simp [← hpe, Array.getElem?_eq_getElem (by simpa using hp)]
    have hij : j = i := by simpa [this] using hj.symm
    subst hij
    have hlt : j < s.qp.size := by
      rcases Nat.lt_or_ge j s.qp.size with h1 | h1
      · exact h1
      · simp [Array.getElem?_eq_none h1] at hq
    have hm : j < s.map.size := by
      have := h.map_size; have := h.qp_size; omega
    exact ⟨s.map[j], by simp [hm]⟩
  let g : Nat → Nat × Item × P := fun i => match s.map[i]? with
    | some e => (i, e.1, e.2)
    | none => (i, default, d)
  have hg1 : ∀ i, (g i).1 = i := by
    intro i; simp only [g]; split <;> rfl
  refine ⟨s.heap.toList.map g, ?_, ?_, ?_, ?_⟩
  · unfold Store.debugEntries
    apply mapM_ok_of_forall
    intro i hi
    obtain ⟨e, he⟩ := hslot i hi
    simp [g, IMap.getIndex, he, unwrapO, bind, Except.bind, pure, Except.pure]
  · rw [List.map_map]
    conv => rhs; rw [← List.map_id s.heap.toList]
    apply List.map_congr_left
    intro i _; simp [hg1]
  · simp [h.heap_size]
  · intro x hx
    obtain ⟨i, hi, rfl⟩ := List.mem_map.mp hx
    obtain ⟨e, he⟩ := hslot i hi
    simp [g, he]

/-- `Debug` never panics on a well-formed store: it lists the heap table in order, each slot with its stored entry -/
theorem debugEntries_wf (s : Store P) (h : s.WF) :
    ∃ l, s.debugEntries = .ok l ∧ l.map (·.1) = s.heap.toList ∧ l.length = s.size ∧
      ∀ x ∈ l, s.map[x.1]? = some (x.2.1, x.2.2) := by
  cases hm : s.map[0]? with
  | some e => exact debugEntries_wf_aux e.2 s h
  | none =>
    have h0 : s.size = 0 := by
      have := h.map_size
      rcases Nat.eq_zero_or_pos s.map.size with h1 | h1
      · omega
      · simp [Array.getElem?_eq_getElem h1] at hm
    have hh : s.heap = #[] := by
      apply Array.eq_empty_of_size_eq_zero; have := h.heap_size; omega
    refine ⟨[], ?_, ?_, ?_, ?_⟩
    · simp [Store.debugEntries, hh, pure, Except.pure]
    · simp [hh]
    · simp [h0]
    · intro x hx; cases hx
end PQ
