import PQ.Lemmas.OpsCommon
/-!
# `DoublePriorityQueue`: every public operation is fault-free on a well-formed store

After a leaked `iter_mut` guard the store is well-formed (`WF`) but not ordered; property C04 needs that every
operation is still fault-free, keeps `WF` and has the right abstract contents.  That is the content of the
`*_safe` theorems of this file: they assume `s.WF` ONLY.

The `*_core` theorems add the conditional order statement "if the store was a min-max heap, the result is one (and the
entry addressed is an extreme)"; `*_safe` and the theorems under `DQ.Inv` of `PQ/Lemmas/DQOps.lean` are read off them.
For `push`, `push_increase`/`push_decrease`, `pop_min`, `pop_max`, the two `peek_*_mut`, `change_priority`,
`change_priority_by`, `remove`, `extend` the `*_core` is one total statement (`∃ s' r, … = .ok (s', r) ∧ …`) and `*_safe`
is it without the last clause; `find_max`, the peeks and `pop_min_if`/`pop_max_if` keep a `*_core` split on
`size = 0 / 0 < size` (with `popMinIf_total`/`popMaxIf_total` beside it).  The operations that end in `heap_build` have
only a `*_safe`, with `MinMaxHeap` of the result unconditionally.
-/
set_option linter.unusedSectionVars false
namespace PQ
open Arith Store
variable {P : Type} [LT P] [DecidableLT P] [LE P] [Std.IsLinearPreorder P] [Std.LawfulOrderLT P]

namespace DQ

theorem rel_congr {s s' : Store P} {a d d' : Nat} (ha : s'.pr a = s.pr a) (hd : s'.pr d = s.pr d')
    (h : s.Rel a d') : s'.Rel a d := by
  intro x y hx hy
  rw [ha] at hx; rw [hd] at hy
  exact h x y hx hy

theorem pr_congr_of_entryAt {s s' : Store P} {p q : Nat} (h : s'.entryAt p = s.entryAt q) : s'.pr p = s.pr q := by
  rw [pr_eq_entryAt, pr_eq_entryAt, h]

theorem rel_frame {s s' : Store P} {pos : Nat} (hm : s.MinMaxHeap) (hsz : s'.size ≤ s.size)
    (hent : ∀ p, p < s'.size → p ≠ pos → s'.entryAt p = s.entryAt p) :
    ∀ a d, Anc a d → d < s'.size → a ≠ pos → d ≠ pos → s'.Rel a d := by
  intro a d had hd ha hdp
  have := had.lt
  exact rel_congr (pr_congr_of_entryAt (hent a (by omega) ha)) (pr_congr_of_entryAt (hent d hd hdp))
    (hm a d had (by omega))

theorem minMaxHeap_congr {s s' : Store P} (hpr : ∀ q, s'.pr q = s.pr q) (hsz : s'.size = s.size)
    (hm : s.MinMaxHeap) : s'.MinMaxHeap := by
  intro a d had hd
  rw [hsz] at hd
  exact rel_congr (hpr a) (hpr d) (hm a d had hd)

theorem abs_of_entryAt {s : Store P} (h : s.WF) {p : Nat} {e : Item × P} (he : s.entryAt p = some e) :
    s.abs e.1.key = some e :=
  (mem_iff_lookup h).1 (entryAt_mem he)

theorem abs_none_of_size_zero {s : Store P} (h : s.WF) (h0 : s.size = 0) (k : Nat) : s.abs k = none := by
  have := (h.tables_empty_of_size_zero h0).1
  show IMap.lookup s.map k = none
  rw [this]; rfl

theorem size_pos_of_abs {s : Store P} (h : s.WF) {k : Nat} {e : Item × P} (he : s.abs k = some e) : 0 < s.size := by
  rcases Nat.eq_zero_or_pos s.size with h0 | h0
  · rw [abs_none_of_size_zero h h0] at he; cases he
  · exact h0

theorem heapify_core {s : Store P} (h : s.WF) (i : Nat) :
    ∃ s', heapify s i = .ok s' ∧ s'.WF ∧ s'.map = s.map ∧ s'.size = s.size ∧
      ((∀ a d, Anc a d → d < s.size → a ≠ i → s.Rel a d) → s'.MinMaxHeap) := by
  obtain ⟨s', hrun, hwf, hmap, hsz, _⟩ := heapify_safe h i
  refine ⟨s', hrun, hwf, hmap, hsz, ?_⟩
  intro hpre
  by_cases hi : i < s.size
  · obtain ⟨s'', hrun', _, _, _, hfrom, _⟩ := heapify_spec (lo := 0) h hi (Nat.zero_le _)
      (fun a d had hd _ hai => hpre a d had hd hai)
    rw [hrun] at hrun'; cases hrun'
    exact (minMaxHeap_iff_from _).mpr hfrom
  · rw [heapify_noop (by omega)] at hrun; cases hrun
    intro a d had hd
    exact hpre a d had hd (by have := had.lt; omega)

theorem upHeapify_core {s : Store P} (h : s.WF) (i : Nat) :
    ∃ s', upHeapify s i = .ok s' ∧ s'.WF ∧ s'.map = s.map ∧ s'.size = s.size ∧
      ((∀ a d, Anc a d → d < s.size → a ≠ i → d ≠ i → s.Rel a d) → s'.MinMaxHeap) := by
  by_cases hi : i < s.size
  · obtain ⟨idx, hidx, _⟩ := TWF.heap_some h hi
    obtain ⟨s1, pos, hrun1, hwf1, hm1, hsz1, _, _⟩ := bubbleUp_tables h hidx
    have hwf1' : s1.WF := WF.of_TWF_size hwf1 hsz1
    have hmid : ∃ s2, (if i ≠ pos then heapify s1 i else pure s1) = .ok s2 ∧ s2.WF ∧ s2.map = s1.map ∧
        s2.size = s1.size := by
      by_cases hne : i = pos
      · exact ⟨s1, by simp [hne, pure, Except.pure], hwf1', rfl, rfl⟩
      · obtain ⟨s2, hr, hw, hm, hs, _⟩ := heapify_safe hwf1' i
        exact ⟨s2, by simp [hne, hr], hw, hm, hs⟩
    obtain ⟨s2, hrun2, hwf2, hm2, hsz2⟩ := hmid
    obtain ⟨s3, hrun3, hwf3, hm3, hsz3, _⟩ := heapify_safe hwf2 pos
    have hrun : upHeapify s i = .ok s3 := by
      simp only [upHeapify, hidx, hrun1, bind, Except.bind]
      by_cases hne : i = pos
      · simp only [hne, ne_eq, not_true_eq_false, if_false, pure, Except.pure] at hrun2 ⊢
        cases hrun2; exact hrun3
      · simp only [hne, ne_eq, not_false_eq_true, if_true] at hrun2 ⊢
        rw [hrun2]; exact hrun3
    refine ⟨s3, hrun, hwf3, by rw [hm3, hm2, hm1], by rw [hsz3, hsz2, hsz1], ?_⟩
    intro hpre
    obtain ⟨s', hrun', _, _, _, hmm⟩ := upHeapify_spec h hi hpre
    rw [hrun] at hrun'; cases hrun'
    exact hmm
  · have hnone : s.heap[i]? = none := by
      apply Array.getElem?_eq_none; rw [h.heap_size]; omega
    refine ⟨s, upHeapify_noop hnone, h, rfl, rfl, ?_⟩
    intro hpre a d had hd
    have := had.lt
    exact hpre a d had hd (by omega) (by omega)

theorem heapify_zero_after {s s1 : Store P} (h1 : s1.WF) (hsz : s1.size ≤ s.size)
    (hent : ∀ p, p < s1.size → p ≠ 0 → s1.entryAt p = s.entryAt p) :
    ∃ s2, heapify s1 0 = .ok s2 ∧ s2.WF ∧ s2.map = s1.map ∧ s2.size = s1.size ∧ (s.MinMaxHeap → s2.MinMaxHeap) := by
  obtain ⟨s2, hrun, hwf2, hmap2, hsz2, hord⟩ := heapify_core h1 0
  exact ⟨s2, hrun, hwf2, hmap2, hsz2, fun hm => hord fun a d had hd ha0 =>
    rel_frame (pos := 0) hm hsz hent a d had hd ha0 (by have := had.pos; omega)⟩

theorem upHeapify_after {s s1 : Store P} (h1 : s1.WF) (pos : Nat) (hsz : s1.size ≤ s.size)
    (hent : ∀ p, p < s1.size → p ≠ pos → s1.entryAt p = s.entryAt p) :
    ∃ s2, upHeapify s1 pos = .ok s2 ∧ s2.WF ∧ s2.map = s1.map ∧ s2.size = s1.size ∧
      (s.MinMaxHeap → s2.MinMaxHeap) := by
  obtain ⟨s2, hrun, hwf2, hmap2, hsz2, hord⟩ := upHeapify_core h1 pos
  exact ⟨s2, hrun, hwf2, hmap2, hsz2, fun hm => hord (rel_frame hm hsz hent)⟩

theorem upAfter : UpAfter (P := P) upHeapify Store.MinMaxHeap :=
  fun _ _ pos _ h1 hsz _ hent => upHeapify_after h1 pos hsz hent

theorem heapBuild_safe {s : Store P} (h : s.WF) :
    ∃ s', heapBuild s = .ok s' ∧ s'.WF ∧ s'.map = s.map ∧ s'.size = s.size ∧ s'.MinMaxHeap :=
  heapBuild_spec h

/-- `find_max` from `WF` only: at most one comparison, a valid position among `0, 1, 2`; in a min-max heap that position
holds a maximum -/
theorem findMax_core {s : Store P} (h : s.WF) :
    (s.size = 0 → findMax s = .ok (s, none)) ∧
    (0 < s.size → ∃ k p, findMax s = .ok (s.tick k, some p) ∧ k ≤ 1 ∧ p < s.size ∧ p ≤ 2 ∧
        (s.MinMaxHeap → ∃ e, s.entryAt p = some e ∧ s.IsMax e)) := by
  refine ⟨findMax_empty, fun hn => ?_⟩
  have key : ∃ k p, findMax s = .ok (s.tick k, some p) ∧ k ≤ 1 ∧ p < s.size ∧ p ≤ 2 := by
    by_cases hs1 : s.size = 1
    · exact ⟨0, 0, by simp [findMax, hs1, pure, Except.pure, tick_zero], by omega, hn, by omega⟩
    · by_cases hs2 : s.size = 2
      · exact ⟨0, 1, by simp [findMax, hs2, pure, Except.pure, tick_zero], by omega, by omega, by omega⟩
      · obtain ⟨n, hsz⟩ : ∃ n, s.size = n + 3 := ⟨s.size - 3, by omega⟩
        obtain ⟨x1, hp1, _⟩ := TWF.prioAt_ok h (show 1 < s.size by omega)
        obtain ⟨x2, hp2, _⟩ := TWF.prioAt_ok h (show 2 < s.size by omega)
        refine ⟨1, if x2 < x1 then 1 else 2, ?_, by omega, by split <;> omega, by split <;> omega⟩
        simp [findMax, hsz, hp1, hp2, bind, Except.bind, pure, Except.pure, Store.tick]
  obtain ⟨k, p, hrun, hk, hp, hp2⟩ := key
  refine ⟨k, p, hrun, hk, hp, hp2, ?_⟩
  intro hm
  obtain ⟨k', p', e, hrun', _, _, he, hmax⟩ := findMax_spec h hm hn
  rw [hrun] at hrun'
  cases (Prod.mk.inj (Except.ok.inj hrun')).2
  exact ⟨e, he, hmax⟩

theorem findMax_safe {s : Store P} (h : s.WF) :
    ∃ k r, findMax s = .ok (s.tick k, r) ∧ k ≤ 1 ∧ (s.size = 0 → r = none) ∧
      (0 < s.size → ∃ p, r = some p ∧ p < s.size) := by
  obtain ⟨h0, h1⟩ := findMax_core h
  rcases Nat.eq_zero_or_pos s.size with hz | hn
  · exact ⟨0, none, h0 hz, by omega, fun _ => rfl, fun hn => by omega⟩
  · obtain ⟨k, p, hrun, hk, hp, _⟩ := h1 hn
    exact ⟨k, some p, hrun, hk, fun hz => by omega, fun _ => ⟨p, rfl, hp⟩⟩

theorem peekMin_core {s : Store P} (h : s.WF) :
    (s.size = 0 → peekMin s = .ok none) ∧
    (0 < s.size → ∃ e, peekMin s = .ok (some e) ∧ s.entryAt 0 = some e ∧ s.abs e.1.key = some e ∧
        (s.MinMaxHeap → s.IsMin e)) := by
  refine ⟨peekMin_empty, fun hn => ?_⟩
  obtain ⟨e, he⟩ := TWF.entryAt_some h hn
  refine ⟨e, by simp [peekMin, findMin_spec hn, dq_entryAt_ok he], he, abs_of_entryAt h he, ?_⟩
  intro hm
  obtain ⟨e', he', hmin⟩ := root_isMin h hm hn
  rw [he] at he'; cases he'; exact hmin

theorem peekMin_safe {s : Store P} (h : s.WF) :
    ∃ r, peekMin s = .ok r ∧ (s.size = 0 → r = none) ∧
      (0 < s.size → ∃ e, r = some e ∧ s.abs e.1.key = some e) := by
  obtain ⟨h0, h1⟩ := peekMin_core h
  rcases Nat.eq_zero_or_pos s.size with hz | hn
  · exact ⟨none, h0 hz, fun _ => rfl, fun hn => by omega⟩
  · obtain ⟨e, hrun, _, ha, _⟩ := h1 hn
    exact ⟨some e, hrun, fun hz => by omega, fun _ => ⟨e, rfl, ha⟩⟩

theorem peekMax_core {s : Store P} (h : s.WF) :
    (s.size = 0 → peekMax s = .ok (s, none)) ∧
    (0 < s.size → ∃ k p e, peekMax s = .ok (s.tick k, some e) ∧ findMax s = .ok (s.tick k, some p) ∧ k ≤ 1 ∧
        p < s.size ∧ p ≤ 2 ∧ s.entryAt p = some e ∧ s.abs e.1.key = some e ∧ (s.MinMaxHeap → s.IsMax e)) := by
  refine ⟨peekMax_empty, fun hn => ?_⟩
  obtain ⟨k, p, hrun, hk, hp, hp2, hord⟩ := (findMax_core h).2 hn
  obtain ⟨e, he⟩ := TWF.entryAt_some h hp
  have he' : (s.tick k).entryAt p = some e := he
  refine ⟨k, p, e, ?_, hrun, hk, hp, hp2, he, abs_of_entryAt h he, ?_⟩
  · simp [peekMax, hrun, dq_entryAt_ok he', bind, Except.bind, pure, Except.pure]
  · intro hm
    obtain ⟨e', he'', hmax⟩ := hord hm
    rw [he] at he''; cases he''; exact hmax

theorem peekMax_safe {s : Store P} (h : s.WF) :
    ∃ k r, peekMax s = .ok (s.tick k, r) ∧ k ≤ 1 ∧ (s.size = 0 → r = none) ∧
      (0 < s.size → ∃ e, r = some e ∧ s.abs e.1.key = some e) := by
  obtain ⟨h0, h1⟩ := peekMax_core h
  rcases Nat.eq_zero_or_pos s.size with hz | hn
  · exact ⟨0, none, h0 hz, by omega, fun _ => rfl, fun hn => by omega⟩
  · obtain ⟨k, p, e, hrun, _, hk, _, _, _, ha, _⟩ := h1 hn
    exact ⟨k, some e, hrun, hk, fun hz => by omega, fun _ => ⟨e, rfl, ha⟩⟩

theorem writeItem_at {s : Store P} (h : s.WF) {p : Nat} (hp : p < s.size) (w : Item → Item)
    (hw : ∀ it, (w it).key = it.key) :
    ∃ i e, s.heap[p]? = some i ∧ s.map.getIndex i = some e ∧ s.entryAt p = some e ∧
      ({ s with map := s.map.setItem i (w e.1) } : Store P).WF ∧
      ({ s with map := s.map.setItem i (w e.1) } : Store P).abs = absSet s.abs e.1.key (w e.1, e.2) ∧
      (∀ q, ({ s with map := s.map.setItem i (w e.1) } : Store P).pr q = s.pr q) := by
  obtain ⟨i, hh, hil⟩ := h.heap_some hp
  obtain ⟨e, he⟩ := h.map_some hil
  have hep : s.entryAt p = some e := by simp [Store.entryAt, hh, he]
  obtain ⟨h1, h2, h3⟩ := setEntry_spec (e' := (w e.1, e.2)) h hh he (hw _)
  have heq : ({ s with map := s.map.setItem i (w e.1) } : Store P) = s.setEntry i (w e.1, e.2) := by
    rw [IMap.setItem_of_getElem? he]; rfl
  refine ⟨i, e, hh, he, hep, ?_⟩
  rw [heq]
  refine ⟨h1, ?_, ?_⟩
  · funext k; exact h3 k
  · intro q
    rw [pr_eq_entryAt, pr_eq_entryAt, h2]
    split
    · subst_vars; rw [hep]; rfl
    · rfl

theorem peekMinMutWrite_core {s : Store P} (h : s.WF) (w : Item → Item) (hw : ∀ it, (w it).key = it.key) :
    ∃ s' r, peekMinMutWrite s w = .ok (s', r) ∧ s'.WF ∧ s'.size = s.size ∧ peekMin s = .ok r ∧
      (s.size = 0 → s' = s ∧ r = none) ∧
      (0 < s.size → ∃ e, r = some e ∧ s.abs e.1.key = some e ∧ s'.abs = absSet s.abs e.1.key (w e.1, e.2)) ∧
      (s.MinMaxHeap → s'.MinMaxHeap ∧ ∀ e, r = some e → s.IsMin e) := by
  rcases Nat.eq_zero_or_pos s.size with hz | hn
  · exact ⟨s, none, by simp [peekMinMutWrite, findMin_empty hz, pure, Except.pure], h, rfl, peekMin_empty hz,
      fun _ => ⟨rfl, rfl⟩, fun hn => by omega, fun hm => ⟨hm, nofun⟩⟩
  · obtain ⟨i, e, hh, he, hep, hwf, habs, hpr⟩ := writeItem_at h hn w hw
    obtain ⟨e', hpk, hep', ha, hmin⟩ := (peekMin_core h).2 hn
    rw [hep] at hep'; cases hep'
    refine ⟨_, some e, ?_, hwf, rfl, hpk, fun hz => by omega, fun _ => ⟨e, rfl, ha, habs⟩,
      fun hm => ⟨minMaxHeap_congr hpr rfl hm, fun _ he' => by cases he'; exact hmin hm⟩⟩
    simp [peekMinMutWrite, findMin_spec hn, getU_ok hh, he, bind, Except.bind, pure, Except.pure]

theorem peekMinMutWrite_safe {s : Store P} (h : s.WF) (w : Item → Item) (hw : ∀ it, (w it).key = it.key) :
    ∃ s' r, peekMinMutWrite s w = .ok (s', r) ∧ s'.WF ∧ s'.size = s.size ∧ peekMin s = .ok r ∧
      (s.size = 0 → s' = s ∧ r = none) ∧
      (0 < s.size → ∃ e, r = some e ∧ s.abs e.1.key = some e ∧ s'.abs = absSet s.abs e.1.key (w e.1, e.2)) := by
  obtain ⟨s', r, h1, h2, h3, h4, h5, h6, _⟩ := peekMinMutWrite_core h w hw
  exact ⟨s', r, h1, h2, h3, h4, h5, h6⟩

theorem peekMaxMutWrite_core {s : Store P} (h : s.WF) (w : Item → Item) (hw : ∀ it, (w it).key = it.key) :
    ∃ k s' r, peekMaxMutWrite s w = .ok (s', r) ∧ peekMax s = .ok (s.tick k, r) ∧ k ≤ 1 ∧ s'.WF ∧ s'.size = s.size ∧
      (s.size = 0 → s' = s ∧ r = none) ∧
      (0 < s.size → ∃ e, r = some e ∧ s.abs e.1.key = some e ∧ s'.abs = absSet s.abs e.1.key (w e.1, e.2)) ∧
      (s.MinMaxHeap → s'.MinMaxHeap ∧ ∀ e, r = some e → s.IsMax e) := by
  rcases Nat.eq_zero_or_pos s.size with hz | hn
  · exact ⟨0, s, none, by simp [peekMaxMutWrite, findMax_empty hz, bind, Except.bind, pure, Except.pure],
      peekMax_empty hz, Nat.zero_le _, h, rfl, fun _ => ⟨rfl, rfl⟩, fun hn => by omega, fun hm => ⟨hm, nofun⟩⟩
  · obtain ⟨k, p, e, hpk, hfm, hk, hp, _, hep, ha, hmax⟩ := (peekMax_core h).2 hn
    have hwt : (s.tick k).WF := tick_WF.mpr h
    obtain ⟨i, e', hh, he, hep', hwf, habs, hpr⟩ := writeItem_at hwt (p := p) hp w hw
    have : s.entryAt p = some e' := hep'
    rw [hep] at this; cases this
    have hh' : s.heap[p]? = some i := hh
    have he' : s.map.getIndex i = some e := he
    refine ⟨k, _, some e, ?_, hpk, hk, hwf, rfl, fun hz => by omega, fun _ => ⟨e, rfl, ha, habs⟩,
      fun hm => ⟨minMaxHeap_congr (s := s.tick k) hpr rfl hm, fun _ he' => by cases he'; exact hmax hm⟩⟩
    simp [peekMaxMutWrite, hfm, getU_ok hh', he', bind, Except.bind, pure, Except.pure]

theorem peekMaxMutWrite_safe {s : Store P} (h : s.WF) (w : Item → Item) (hw : ∀ it, (w it).key = it.key) :
    ∃ s' r, peekMaxMutWrite s w = .ok (s', r) ∧ s'.WF ∧ s'.size = s.size ∧
      (s.size = 0 → s' = s ∧ r = none) ∧
      (0 < s.size → ∃ k e, r = some e ∧ peekMax s = .ok (s.tick k, some e) ∧ s.abs e.1.key = some e ∧
        s'.abs = absSet s.abs e.1.key (w e.1, e.2)) := by
  obtain ⟨k, s', r, hrun, hpk, _, hwf, hsz, h0, h1, _⟩ := peekMaxMutWrite_core h w hw
  refine ⟨s', r, hrun, hwf, hsz, h0, fun hn => ?_⟩
  obtain ⟨e, rfl, h2⟩ := h1 hn
  exact ⟨k, e, rfl, hpk, h2⟩

theorem popMin_core {s : Store P} (h : s.WF) :
    ∃ s' r, popMin s = .ok (s', r) ∧ s'.WF ∧ peekMin s = .ok r ∧ (s.size = 0 → s' = s ∧ r = none) ∧
      (0 < s.size → ∃ e, r = some e ∧ s.abs e.1.key = some e ∧ s'.abs = absRemove s.abs e.1.key ∧
        s'.size = s.size - 1) ∧
      (s.MinMaxHeap → s'.MinMaxHeap ∧ ∀ e, r = some e → s.IsMin e) := by
  rcases Nat.eq_zero_or_pos s.size with hz | hn
  · exact ⟨s, none, by simp [popMin, findMin_empty hz, pure, Except.pure], h, peekMin_empty hz, fun _ => ⟨rfl, rfl⟩,
      fun hn => by omega, fun hm => ⟨hm, nofun⟩⟩
  · obtain ⟨s1, e, hsr, he, hwf1, hsz1, _, hent, hlook⟩ := swapRemove_spec h hn
    obtain ⟨s2, hrun, hwf2, hmap2, hsz2, hord⟩ := heapify_zero_after (s := s) hwf1 (by omega)
      fun p hp hp0 => by rw [hent p (by omega), if_neg hp0]
    obtain ⟨e', hpk, hep', ha, hmin⟩ := (peekMin_core h).2 hn
    rw [he] at hep'; cases hep'
    refine ⟨s2, some e, ?_, hwf2, hpk, fun hz => by omega,
      fun _ => ⟨e, rfl, ha, (abs_of_map_eq hmap2).trans (funext hlook), by omega⟩,
      fun hm => ⟨hord hm, fun _ he' => by cases he'; exact hmin hm⟩⟩
    simp [popMin, findMin_spec hn, hsr, hrun, bind, Except.bind, pure, Except.pure]

theorem popMin_safe {s : Store P} (h : s.WF) :
    ∃ s' r, popMin s = .ok (s', r) ∧ s'.WF ∧ peekMin s = .ok r ∧ (s.size = 0 → s' = s ∧ r = none) ∧
      (0 < s.size → ∃ e, r = some e ∧ s.abs e.1.key = some e ∧ s'.abs = absRemove s.abs e.1.key ∧
        s'.size = s.size - 1) := by
  obtain ⟨s', r, h1, h2, h3, h4, h5, _⟩ := popMin_core h
  exact ⟨s', r, h1, h2, h3, h4, h5⟩

theorem popMax_core {s : Store P} (h : s.WF) :
    ∃ k s' r, popMax s = .ok (s', r) ∧ peekMax s = .ok (s.tick k, r) ∧ k ≤ 1 ∧ s'.WF ∧
      (s.size = 0 → s' = s ∧ r = none) ∧
      (0 < s.size → ∃ e, r = some e ∧ s.abs e.1.key = some e ∧ s'.abs = absRemove s.abs e.1.key ∧
        s'.size = s.size - 1) ∧
      (s.MinMaxHeap → s'.MinMaxHeap ∧ ∀ e, r = some e → s.IsMax e) := by
  rcases Nat.eq_zero_or_pos s.size with hz | hn
  · exact ⟨0, s, none, by simp [popMax, findMax_empty hz, bind, Except.bind, pure, Except.pure], peekMax_empty hz,
      Nat.zero_le _, h, fun _ => ⟨rfl, rfl⟩, fun hn => by omega, fun hm => ⟨hm, nofun⟩⟩
  · obtain ⟨k, p, e, hpk, hfm, hk, hp, hp2, hep, ha, hmax⟩ := (peekMax_core h).2 hn
    have hwt : (s.tick k).WF := tick_WF.mpr h
    obtain ⟨s1, e', hsr, he, hwf1, hsz1, htk1, hent, hlook⟩ := swapRemove_spec hwt (pos := p) hp
    have : s.entryAt p = some e' := he
    rw [hep] at this; cases this
    simp only [tick_size, tick_entryAt, tick_map, tick_ticks] at hsz1 hent hlook htk1
    obtain ⟨s2, hrun, hwf2, hmap2, hsz2, hord⟩ := heapify_core hwf1 p
    refine ⟨k, s2, some e, ?_, hpk, hk, hwf2, fun hz => by omega, fun _ => ⟨e, rfl, ha, ?_, by omega⟩,
      fun hm => ⟨hord ?_, fun _ he' => by cases he'; exact hmax hm⟩⟩
    · simp [popMax, hfm, hsr, hrun, bind, Except.bind, pure, Except.pure]
    · exact (abs_of_map_eq hmap2).trans (funext hlook)
    · intro a d had hd hap
      have hfr : ∀ q, q < s1.size → q ≠ p → s1.entryAt q = s.entryAt q := by
        intro q hq hqp
        rw [hent q (by omega), if_neg hqp]
      by_cases hdp : d = p
      · subst hdp
        -- the only ancestor of position 1 or 2 is the root; the entry moved into `d` was below the root
        have ha0 : a = 0 := by
          rcases had.cases_child with e0 | e0
          · rw [e0]; simp only [parent]; omega
          · exfalso
            have : parent d = 0 := by simp only [parent]; omega
            rw [this] at e0; exact not_anc_zero a e0
        subst ha0
        have hd0 := had.pos
        refine rel_congr (d' := s.size - 1) (pr_congr_of_entryAt (hfr 0 (by omega) (by omega))) ?_
          (hm 0 (s.size - 1) (Anc.zero (by omega)) (by omega))
        apply pr_congr_of_entryAt
        rw [hent d (by omega), if_pos rfl]
      · exact rel_frame (pos := p) hm (by omega) hfr a d had hd hap hdp

theorem popMax_safe {s : Store P} (h : s.WF) :
    ∃ s' r, popMax s = .ok (s', r) ∧ s'.WF ∧ (s.size = 0 → s' = s ∧ r = none) ∧
      (0 < s.size → ∃ k e, r = some e ∧ peekMax s = .ok (s.tick k, some e) ∧ s.abs e.1.key = some e ∧
        s'.abs = absRemove s.abs e.1.key ∧ s'.size = s.size - 1) := by
  obtain ⟨k, s', r, hrun, hpk, _, hwf, h0, h1, _⟩ := popMax_core h
  refine ⟨s', r, hrun, hwf, h0, fun hn => ?_⟩
  obtain ⟨e, rfl, h2⟩ := h1 hn
  exact ⟨k, e, rfl, hpk, h2⟩

/-! ## `pop_min_if`, `pop_max_if` (the predicate may rewrite the entry but not its key) -/

theorem popMinIf_core {s : Store P} (h : s.WF) (f : Item → P → Bool × Item × P)
    (hf : ∀ it p, (f it p).2.1.key = it.key) :
    (s.size = 0 → popMinIf s f = .ok (s, none)) ∧
    (0 < s.size → ∃ e, peekMin s = .ok (some e) ∧ s.abs e.1.key = some e ∧ (s.MinMaxHeap → s.IsMin e) ∧
      ((f e.1 e.2).1 = true → ∃ s', popMinIf s f = .ok (s', some ((f e.1 e.2).2.1, (f e.1 e.2).2.2)) ∧ s'.WF ∧
          s'.abs = absRemove s.abs e.1.key ∧ s'.size = s.size - 1 ∧ (s.MinMaxHeap → s'.MinMaxHeap)) ∧
      ((f e.1 e.2).1 = false → ∃ s', popMinIf s f = .ok (s', none) ∧ s'.WF ∧
          s'.abs = absSet s.abs e.1.key ((f e.1 e.2).2.1, (f e.1 e.2).2.2) ∧ s'.size = s.size ∧
          (s.MinMaxHeap → s'.MinMaxHeap))) := by
  constructor
  · intro h0; simp [popMinIf, findMin_empty h0, pure, Except.pure]
  · intro hn
    obtain ⟨e, hep, htrue, hfalse⟩ := swapRemoveIf_spec f h hn hf
    obtain ⟨e', hpk, hep', ha, hmin⟩ := (peekMin_core h).2 hn
    rw [hep] at hep'; cases hep'
    refine ⟨e, hpk, ha, hmin, ?_, ?_⟩
    · intro hr
      obtain ⟨s1, hsr, hwf1, hsz1, _, hent, hlook⟩ := htrue hr
      obtain ⟨s2, hrun, hwf2, hmap2, hsz2, hord⟩ := heapify_zero_after (s := s) hwf1 (by omega)
        fun p hp hp0 => by rw [hent p (by omega), if_neg hp0]
      refine ⟨s2, ?_, hwf2, (abs_of_map_eq hmap2).trans (funext hlook), by omega, hord⟩
      simp [popMinIf, findMin_spec hn, hsr, hrun, bind, Except.bind, pure, Except.pure]
    · intro hr
      obtain ⟨s1, hsr, hwf1, hsz1, _, _, _, hent, hlook⟩ := hfalse hr
      obtain ⟨s2, hrun, hwf2, hmap2, hsz2, hord⟩ := heapify_zero_after (s := s) hwf1 (by omega)
        fun p hp hp0 => by rw [hent p, if_neg hp0]
      refine ⟨s2, ?_, hwf2, (abs_of_map_eq hmap2).trans (funext hlook), by omega, hord⟩
      simp [popMinIf, findMin_spec hn, hsr, hrun, bind, Except.bind, pure, Except.pure]

theorem popMinIf_safe {s : Store P} (h : s.WF) (f : Item → P → Bool × Item × P)
    (hf : ∀ it p, (f it p).2.1.key = it.key) :
    ∃ s' r, popMinIf s f = .ok (s', r) ∧ s'.WF ∧ (s.size = 0 → s' = s ∧ r = none) ∧
      (0 < s.size → ∃ e, peekMin s = .ok (some e) ∧ s.abs e.1.key = some e ∧
        ((f e.1 e.2).1 = true → r = some ((f e.1 e.2).2.1, (f e.1 e.2).2.2) ∧ s'.abs = absRemove s.abs e.1.key ∧
          s'.size = s.size - 1) ∧
        ((f e.1 e.2).1 = false → r = none ∧ s'.abs = absSet s.abs e.1.key ((f e.1 e.2).2.1, (f e.1 e.2).2.2) ∧
          s'.size = s.size)) := by
  obtain ⟨h0, h1⟩ := popMinIf_core h f hf
  rcases Nat.eq_zero_or_pos s.size with hz | hn
  · exact ⟨s, none, h0 hz, h, fun _ => ⟨rfl, rfl⟩, fun hn => by omega⟩
  · obtain ⟨e, hpk, ha, _, ht, hfl⟩ := h1 hn
    cases hr : (f e.1 e.2).1 with
    | true =>
      obtain ⟨s', hrun, hwf, habs, hsz, _⟩ := ht hr
      exact ⟨s', _, hrun, hwf, fun hz => by omega, fun _ => ⟨e, hpk, ha, fun _ => ⟨rfl, habs, hsz⟩,
        fun hc => by rw [hr] at hc; cases hc⟩⟩
    | false =>
      obtain ⟨s', hrun, hwf, habs, hsz, _⟩ := hfl hr
      exact ⟨s', _, hrun, hwf, fun hz => by omega, fun _ => ⟨e, hpk, ha,
        (fun hc => by rw [hr] at hc; cases hc), fun _ => ⟨rfl, habs, hsz⟩⟩⟩

theorem popMaxIf_core {s : Store P} (h : s.WF) (f : Item → P → Bool × Item × P)
    (hf : ∀ it p, (f it p).2.1.key = it.key) :
    (s.size = 0 → popMaxIf s f = .ok (s, none)) ∧
    (0 < s.size → ∃ k e, peekMax s = .ok (s.tick k, some e) ∧ k ≤ 1 ∧ s.abs e.1.key = some e ∧
      (s.MinMaxHeap → s.IsMax e) ∧
      ((f e.1 e.2).1 = true → ∃ s', popMaxIf s f = .ok (s', some ((f e.1 e.2).2.1, (f e.1 e.2).2.2)) ∧ s'.WF ∧
          s'.abs = absRemove s.abs e.1.key ∧ s'.size = s.size - 1 ∧ (s.MinMaxHeap → s'.MinMaxHeap)) ∧
      ((f e.1 e.2).1 = false → ∃ s', popMaxIf s f = .ok (s', none) ∧ s'.WF ∧
          s'.abs = absSet s.abs e.1.key ((f e.1 e.2).2.1, (f e.1 e.2).2.2) ∧ s'.size = s.size ∧
          (s.MinMaxHeap → s'.MinMaxHeap))) := by
  constructor
  · intro h0; simp [popMaxIf, findMax_empty h0, bind, Except.bind, pure, Except.pure]
  · intro hn
    obtain ⟨k, p, e, hpk, hfm, hk, hp, hp2, hep, ha, hmax⟩ := (peekMax_core h).2 hn
    have hwt : (s.tick k).WF := tick_WF.mpr h
    obtain ⟨e', hep', htrue, hfalse⟩ := swapRemoveIf_spec f hwt (pos := p) hp hf
    have : s.entryAt p = some e' := hep'
    rw [hep] at this; cases this
    refine ⟨k, e, hpk, hk, ha, hmax, ?_, ?_⟩
    · intro hr
      obtain ⟨s1, hsr, hwf1, hsz1, _, hent, hlook⟩ := htrue hr
      simp only [tick_size, tick_entryAt, tick_map] at hsz1 hent hlook
      obtain ⟨s2, hrun, hwf2, hmap2, hsz2, hord⟩ := upHeapify_after (s := s) hwf1 p (by omega)
        fun q hq hqp => by rw [hent q (by omega), if_neg hqp]
      refine ⟨s2, ?_, hwf2, (abs_of_map_eq hmap2).trans (funext hlook), by omega, hord⟩
      simp [popMaxIf, hfm, hsr, hrun, bind, Except.bind, pure, Except.pure]
    · intro hr
      obtain ⟨s1, hsr, hwf1, hsz1, _, _, _, hent, hlook⟩ := hfalse hr
      simp only [tick_size, tick_entryAt, tick_map] at hsz1 hent hlook
      obtain ⟨s2, hrun, hwf2, hmap2, hsz2, hord⟩ := upHeapify_after (s := s) hwf1 p (by omega)
        fun q hq hqp => by rw [hent q, if_neg hqp]
      refine ⟨s2, ?_, hwf2, (abs_of_map_eq hmap2).trans (funext hlook), by omega, hord⟩
      simp [popMaxIf, hfm, hsr, hrun, bind, Except.bind, pure, Except.pure]

theorem popMaxIf_safe {s : Store P} (h : s.WF) (f : Item → P → Bool × Item × P)
    (hf : ∀ it p, (f it p).2.1.key = it.key) :
    ∃ s' r, popMaxIf s f = .ok (s', r) ∧ s'.WF ∧ (s.size = 0 → s' = s ∧ r = none) ∧
      (0 < s.size → ∃ k e, peekMax s = .ok (s.tick k, some e) ∧ s.abs e.1.key = some e ∧
        ((f e.1 e.2).1 = true → r = some ((f e.1 e.2).2.1, (f e.1 e.2).2.2) ∧ s'.abs = absRemove s.abs e.1.key ∧
          s'.size = s.size - 1) ∧
        ((f e.1 e.2).1 = false → r = none ∧ s'.abs = absSet s.abs e.1.key ((f e.1 e.2).2.1, (f e.1 e.2).2.2) ∧
          s'.size = s.size)) := by
  obtain ⟨h0, h1⟩ := popMaxIf_core h f hf
  rcases Nat.eq_zero_or_pos s.size with hz | hn
  · exact ⟨s, none, h0 hz, h, fun _ => ⟨rfl, rfl⟩, fun hn => by omega⟩
  · obtain ⟨k, e, hpk, _, ha, _, ht, hfl⟩ := h1 hn
    cases hr : (f e.1 e.2).1 with
    | true =>
      obtain ⟨s', hrun, hwf, habs, hsz, _⟩ := ht hr
      exact ⟨s', _, hrun, hwf, fun hz => by omega, fun _ => ⟨k, e, hpk, ha, fun _ => ⟨rfl, habs, hsz⟩,
        fun hc => by rw [hr] at hc; cases hc⟩⟩
    | false =>
      obtain ⟨s', hrun, hwf, habs, hsz, _⟩ := hfl hr
      exact ⟨s', _, hrun, hwf, fun hz => by omega, fun _ => ⟨k, e, hpk, ha,
        (fun hc => by rw [hr] at hc; cases hc), fun _ => ⟨rfl, habs, hsz⟩⟩⟩

theorem popMinIf_total {s : Store P} (h : s.WF) (f : Item → P → Bool × Item × P)
    (hf : ∀ it p, (f it p).2.1.key = it.key) :
    ∃ s' r, popMinIf s f = .ok (s', r) ∧ s'.WF ∧ (s.MinMaxHeap → s'.MinMaxHeap) := by
  obtain ⟨h0, h1⟩ := popMinIf_core h f hf
  rcases Nat.eq_zero_or_pos s.size with hz | hn
  · exact ⟨s, _, h0 hz, h, id⟩
  · obtain ⟨e, _, _, _, ht, hfl⟩ := h1 hn
    cases hr : (f e.1 e.2).1 with
    | true => obtain ⟨s', hp, hwf, _, _, hord⟩ := ht hr; exact ⟨s', _, hp, hwf, hord⟩
    | false => obtain ⟨s', hp, hwf, _, _, hord⟩ := hfl hr; exact ⟨s', _, hp, hwf, hord⟩

theorem popMaxIf_total {s : Store P} (h : s.WF) (f : Item → P → Bool × Item × P)
    (hf : ∀ it p, (f it p).2.1.key = it.key) :
    ∃ s' r, popMaxIf s f = .ok (s', r) ∧ s'.WF ∧ (s.MinMaxHeap → s'.MinMaxHeap) := by
  obtain ⟨h0, h1⟩ := popMaxIf_core h f hf
  rcases Nat.eq_zero_or_pos s.size with hz | hn
  · exact ⟨s, _, h0 hz, h, id⟩
  · obtain ⟨k, e, _, _, _, _, ht, hfl⟩ := h1 hn
    cases hr : (f e.1 e.2).1 with
    | true => obtain ⟨s', hp, hwf, _, _, hord⟩ := ht hr; exact ⟨s', _, hp, hwf, hord⟩
    | false => obtain ⟨s', hp, hwf, _, _, hord⟩ := hfl hr; exact ⟨s', _, hp, hwf, hord⟩

theorem push_core {s : Store P} (h : s.WF) (it : Item) (p : P) :
    ∃ s', push s it p = .ok (s', (s.abs it.key).map (·.2)) ∧ s'.WF ∧ s'.abs = absPush s.abs it p ∧
      s'.size = (if (s.abs it.key).isSome then s.size else s.size + 1) ∧ (s.MinMaxHeap → s'.MinMaxHeap) := by
  have hlk : ∀ k, IMap.lookup (IMap.insertFull s.map it p).1 k = absPush s.abs it p k :=
    fun k => IMap.lookup_insertFull s.map it p k
  rcases IMap.insertFull_cases s.map it p with ⟨i, e, hf, he, hk, hins⟩ | ⟨hf, hins⟩
  · have hl : s.abs it.key = some e := IMap.lookup_eq_some_iff_find?.2 ⟨i, hf, he⟩
    have hil : i < s.size := by have := lt_size_of_getElem? he; rw [h.map_size] at this; exact this
    obtain ⟨pos, hq, hpl⟩ := h.qp_some hil
    have hh := h.heap_of_qp hq
    obtain ⟨h1, h2, h3⟩ := setEntry_spec (e' := (e.1, p)) h hh he rfl
    obtain ⟨s2, hrun, hwf2, hmap2, hsz2, hord⟩ := upHeapify_after (s := s) (s1 := s.setEntry i (e.1, p)) h1 pos
      (Nat.le_refl _) fun q hq hqp => by rw [h2 q, if_neg hqp]
    refine ⟨s2, ?_, hwf2, ?_, ?_, hord⟩
    · simp only [push, hins]
      rw [hl]
      have hrun' : upHeapify ({ s with map := Array.setIfInBounds s.map i (e.1, p) } : Store P) pos = .ok s2 := hrun
      simp only [getU_ok hq, bind, Except.bind, hrun', pure, Except.pure, Option.map]
    · funext k
      rw [← hlk k, hins]
      show IMap.lookup s2.map k = _
      rw [hmap2]; rfl
    · rw [hl, hsz2]; rfl
  · have hl : s.abs it.key = none := IMap.lookup_eq_none_iff_find?.2 hf
    have hT : ({ s with map := s.map.push (it, p), heap := s.heap.push s.size, qp := s.qp.push s.size } : Store P).TWF
        (s.size + 1) := TWF.congr (wf_pushTail h (e := (it, p)) hf) rfl rfl rfl
    have hlast := heap_pushTail_last h (it, p)
    obtain ⟨s2, pos, hrun, hT2, hmap2, hsz2, _, _⟩ := bubbleUp_tables hT (i := s.size) (idx := s.size) hlast
    refine ⟨{ s2 with size := s2.size + 1 }, ?_, ?_, ?_, ?_, ?_⟩
    · simp only [push, hins]
      rw [hl]
      simp only [hrun, bind, Except.bind, pure, Except.pure, Option.map]
    · exact WF.of_TWF_size (TWF.congr hT2 rfl rfl rfl) (by show s2.size + 1 = _; rw [hsz2])
    · funext k
      rw [← hlk k, hins]
      show IMap.lookup s2.map k = _
      rw [hmap2]
    · rw [hl]; show s2.size + 1 = s.size + 1
      rw [hsz2]
    · intro hm
      obtain ⟨s2', pos', hrun', _, _, _, hord⟩ := bubbleUp_push_spec s.size hT hlast (by
        intro a d had hd
        have := had.lt
        refine rel_congr (s := s) ?_ ?_ (hm a d had hd)
        · exact pr_congr_of_entryAt ((entryAt_pushTail h (it, p) a).trans (if_neg (by omega)))
        · exact pr_congr_of_entryAt ((entryAt_pushTail h (it, p) d).trans (if_neg (by omega))))
      rw [hrun] at hrun'; cases hrun'
      intro a d had hd
      exact hord a d had (by rw [← hsz2]; exact hd)

theorem push_safe {s : Store P} (h : s.WF) (it : Item) (p : P) :
    ∃ s', push s it p = .ok (s', (s.abs it.key).map (·.2)) ∧ s'.WF ∧ s'.abs = absPush s.abs it p ∧
      s'.size = (if (s.abs it.key).isSome then s.size else s.size + 1) := by
  obtain ⟨s', h1, h2, h3, h4, _⟩ := push_core h it p
  exact ⟨s', h1, h2, h3, h4⟩

theorem pushIncrease_core {s : Store P} (h : s.WF) (it : Item) (p : P) :
    ∃ s' r, pushIncrease s it p = .ok (s', r) ∧ s'.WF ∧
      (s.abs it.key = none → r = none ∧ s'.abs = absPush s.abs it p ∧ s'.size = s.size + 1) ∧
      (∀ e, s.abs it.key = some e →
        (e.2 < p → r = some e.2 ∧ s'.abs = absPush s.abs it p ∧ s'.size = s.size) ∧
        (¬ e.2 < p → s' = s.tick ∧ r = some p)) ∧
      (s.MinMaxHeap → s'.MinMaxHeap) := by
  have hg : s.getPriority it.key = (s.abs it.key).map (·.2) := getPriority_eq_lookup ..
  refine pushCond_gen push_core id h it p (· < p) (fun hl => ?_) (fun e hl => ?_) <;>
    · rw [hl] at hg
      simp only [pushIncrease, hg, Option.map, pure, Except.pure]

theorem pushDecrease_core {s : Store P} (h : s.WF) (it : Item) (p : P) :
    ∃ s' r, pushDecrease s it p = .ok (s', r) ∧ s'.WF ∧
      (s.abs it.key = none → r = none ∧ s'.abs = absPush s.abs it p ∧ s'.size = s.size + 1) ∧
      (∀ e, s.abs it.key = some e →
        (p < e.2 → r = some e.2 ∧ s'.abs = absPush s.abs it p ∧ s'.size = s.size) ∧
        (¬ p < e.2 → s' = s.tick ∧ r = some p)) ∧
      (s.MinMaxHeap → s'.MinMaxHeap) := by
  have hg : s.getPriority it.key = (s.abs it.key).map (·.2) := getPriority_eq_lookup ..
  refine pushCond_gen push_core id h it p (p < ·) (fun hl => ?_) (fun e hl => ?_) <;>
    · rw [hl] at hg
      simp only [pushDecrease, hg, Option.map, pure, Except.pure]

theorem pushIncrease_safe {s : Store P} (h : s.WF) (it : Item) (p : P) :
    ∃ s' r, pushIncrease s it p = .ok (s', r) ∧ s'.WF ∧
      (s.abs it.key = none → r = none ∧ s'.abs = absPush s.abs it p ∧ s'.size = s.size + 1) ∧
      (∀ e, s.abs it.key = some e →
        (e.2 < p → r = some e.2 ∧ s'.abs = absPush s.abs it p ∧ s'.size = s.size) ∧
        (¬ e.2 < p → s' = s.tick ∧ r = some p)) := by
  obtain ⟨s', r, h1, h2, h3, h4, _⟩ := pushIncrease_core h it p
  exact ⟨s', r, h1, h2, h3, h4⟩

theorem pushDecrease_safe {s : Store P} (h : s.WF) (it : Item) (p : P) :
    ∃ s' r, pushDecrease s it p = .ok (s', r) ∧ s'.WF ∧
      (s.abs it.key = none → r = none ∧ s'.abs = absPush s.abs it p ∧ s'.size = s.size + 1) ∧
      (∀ e, s.abs it.key = some e →
        (p < e.2 → r = some e.2 ∧ s'.abs = absPush s.abs it p ∧ s'.size = s.size) ∧
        (¬ p < e.2 → s' = s.tick ∧ r = some p)) := by
  obtain ⟨s', r, h1, h2, h3, h4, _⟩ := pushDecrease_core h it p
  exact ⟨s', r, h1, h2, h3, h4⟩

theorem changePriority_core {s : Store P} (h : s.WF) (k : Nat) (p : P) :
    ∃ s', changePriority s k p = .ok (s', (s.abs k).map (·.2)) ∧ s'.WF ∧ s'.size = s.size ∧
      (s.abs k = none → s' = s) ∧ (∀ e, s.abs k = some e → s'.abs = absSet s.abs k (e.1, p)) ∧
      (s.MinMaxHeap → s'.MinMaxHeap) :=
  changePriority_gen upAfter h k p

theorem changePriority_safe {s : Store P} (h : s.WF) (k : Nat) (p : P) :
    ∃ s', changePriority s k p = .ok (s', (s.abs k).map (·.2)) ∧ s'.WF ∧ s'.size = s.size ∧
      (s.abs k = none → s' = s) ∧ (∀ e, s.abs k = some e → s'.abs = absSet s.abs k (e.1, p)) := by
  obtain ⟨s', h1, h2, h3, h4, h5, _⟩ := changePriority_core h k p
  exact ⟨s', h1, h2, h3, h4, h5⟩

theorem changePriorityBy_core {s : Store P} (h : s.WF) (k : Nat) (setter : P → P) :
    ∃ s', changePriorityBy s k setter = .ok (s', (s.abs k).isSome) ∧ s'.WF ∧ s'.size = s.size ∧
      (s.abs k = none → s' = s) ∧ (∀ e, s.abs k = some e → s'.abs = absSet s.abs k (e.1, setter e.2)) ∧
      (s.MinMaxHeap → s'.MinMaxHeap) :=
  changePriorityBy_gen upAfter h k setter

theorem changePriorityBy_safe {s : Store P} (h : s.WF) (k : Nat) (setter : P → P) :
    ∃ s', changePriorityBy s k setter = .ok (s', (s.abs k).isSome) ∧ s'.WF ∧ s'.size = s.size ∧
      (s.abs k = none → s' = s) ∧ (∀ e, s.abs k = some e → s'.abs = absSet s.abs k (e.1, setter e.2)) := by
  obtain ⟨s', h1, h2, h3, h4, h5, _⟩ := changePriorityBy_core h k setter
  exact ⟨s', h1, h2, h3, h4, h5⟩

theorem remove_core {s : Store P} (h : s.WF) (k : Nat) :
    ∃ s', remove s k = .ok (s', s.abs k) ∧ s'.WF ∧ s'.abs = absRemove s.abs k ∧
      s'.size = (if (s.abs k).isSome then s.size - 1 else s.size) ∧ (s.abs k = none → s' = s) ∧
      (s.MinMaxHeap → s'.MinMaxHeap) :=
  remove_gen upAfter (fun s s1 hsz hent hm a d had hd => by
    have := had.lt
    exact rel_frame (pos := s1.size) hm hsz (fun q hq _ => hent q hq) a d had hd (by omega) (by omega)) h k

theorem remove_safe {s : Store P} (h : s.WF) (k : Nat) :
    ∃ s', remove s k = .ok (s', s.abs k) ∧ s'.WF ∧ s'.abs = absRemove s.abs k ∧
      s'.size = (if (s.abs k).isSome then s.size - 1 else s.size) ∧ (s.abs k = none → s' = s) := by
  obtain ⟨s', h1, h2, h3, h4, h5, _⟩ := remove_core h k
  exact ⟨s', h1, h2, h3, h4, h5⟩

/-! ## Bulk operations: everything that ends in `heap_build` yields a min-max heap from `WF` alone -/

theorem ofStore_safe {s : Store P} (h : s.WF) :
    ∃ s', ofStore s = .ok s' ∧ s'.WF ∧ s'.MinMaxHeap ∧ s'.abs = s.abs ∧ s'.size = s.size := by
  obtain ⟨s', hrun, hwf, hmap, hsz, hmm⟩ := heapBuild_spec h
  exact ⟨s', hrun, hwf, hmm, abs_of_map_eq hmap, hsz⟩

theorem retainMut_safe {s : Store P} (h : s.WF) (f : Item → P → Bool × Item × P)
    (hf : ∀ it p, (f it p).2.1.key = it.key) :
    ∃ s', retainMut s f = .ok s' ∧ s'.WF ∧ s'.MinMaxHeap ∧
      s'.abs = (fun k => (s.abs k).bind (IMap.retainStep f)) ∧ s'.map.toList = s.map.toList.filterMap (IMap.retainStep f) ∧
      s'.size = (s.map.toList.filterMap (IMap.retainStep f)).length := by
  have hwf1 := wf_retainMut h hf
  obtain ⟨s', hrun, hwf, hmap, hsz, hmm⟩ := heapBuild_spec hwf1
  refine ⟨s', hrun, hwf, hmm, ?_, by rw [hmap]; exact toList_retainMut s f, ?_⟩
  · funext k
    exact (congrFun (abs_of_map_eq hmap) k).trans (lookup_retainMut h hf k)
  · rw [hsz, size_retainMut, ← Array.length_toList, IMap.toList_retain']

theorem append_safe {s o : Store P} (hs : s.WF) (ho : o.WF) :
    ∃ s' o', append s o = .ok (s', o') ∧ s'.WF ∧ s'.MinMaxHeap ∧ o'.WF ∧ o'.MinMaxHeap ∧ o'.size = 0 ∧
      (∀ k, o'.abs k = none) ∧
      (∀ k, s'.abs k = if o.size > s.size then (o.abs k).or (s.abs k) else (s.abs k).or (o.abs k)) := by
  obtain ⟨s', hrun, hwf, hmap, hsz, hmm⟩ := heapBuild_spec (wf_append_fst hs ho)
  have ho' := wf_append_snd hs ho
  obtain ⟨_, _, _, ho0, _⟩ := append_snd_tables hs ho
  refine ⟨s', (Store.append s o).2, ?_, hwf, hmm, ho', ?_, ho0, fun k => lookup_append_snd hs ho k, ?_⟩
  · simp only [append, hrun, bind, Except.bind, pure, Except.pure]
  · intro a d _ hd; rw [ho0] at hd; omega
  · intro k
    exact (congrFun (abs_of_map_eq hmap) k).trans (lookup_append' hs ho k)

theorem fromVec_safe (v : Array (Item × P)) :
    ∃ s', fromVec v = .ok s' ∧ s'.WF ∧ s'.MinMaxHeap ∧
      (∀ k, s'.abs k = v.toList.find? (fun e => e.1.key == k)) ∧
      s'.size = (v.toList.map (·.1.key)).eraseDups.length := by
  obtain ⟨s', hrun, hwf, hmap, hsz, hmm⟩ := heapBuild_spec (wf_fromVec v)
  refine ⟨s', hrun, hwf, hmm, ?_, by rw [hsz, size_fromVec]⟩
  intro k
  exact (congrFun (abs_of_map_eq hmap) k).trans (lookup_fromVec v k)

theorem fromIter_safe (lo : Nat) (xs : Array (Item × P)) (hlo : lo < capLimit) :
    ∃ s', fromIter lo xs = .ok s' ∧ s'.WF ∧ s'.MinMaxHeap ∧
      (∀ k, s'.abs k = xs.toList.reverse.find? (fun e => e.1.key == k)) ∧
      s'.size = (xs.toList.map (·.1.key)).eraseDups.length := by
  obtain ⟨s', hrun, hwf, hmap, hsz, hmm⟩ := heapBuild_spec (wf_fromIter xs)
  refine ⟨s', by rw [fromIter_of_lt xs hlo]; exact hrun, hwf, hmm, ?_, by rw [hsz, size_fromIter]⟩
  intro k
  exact (congrFun (abs_of_map_eq hmap) k).trans (lookup_fromIter xs k)

/-- the deserializer is total: EVERY input sequence, under EVERY announced length, yields a well-formed min-max heap -/
theorem deserialize_safe (hint : Option Nat) (xs : Array (Item × P)) :
    ∃ s', deserialize hint xs = .ok s' ∧ s'.WF ∧ s'.MinMaxHeap ∧
      s'.abs = xs.foldl Store.absStep (fun _ => none) ∧
      s'.size = (xs.toList.map (·.1.key)).eraseDups.length := by
  obtain ⟨s', hrun, hwf, hmap, hsz, hmm⟩ := heapBuild_spec (wf_visitSeq xs)
  refine ⟨s', by rw [deserialize_eq]; exact hrun, hwf, hmm, ?_, by rw [hsz, size_visitSeq]⟩
  exact (abs_of_map_eq hmap).trans (lookup_visitSeq_fold xs)

theorem pushAll_core (es : List (Item × P)) : ∀ {s : Store P}, s.WF →
    ∃ s', pushAll es s = .ok s' ∧ s'.WF ∧ s'.abs = es.foldl Store.absStep s.abs ∧ (s.MinMaxHeap → s'.MinMaxHeap) := by
  induction es with
  | nil => intro s h; exact ⟨s, rfl, h, rfl, fun hm => hm⟩
  | cons e es ih =>
    intro s h
    obtain ⟨s1, hrun1, hwf1, habs1, _, hord1⟩ := push_core h e.1 e.2
    obtain ⟨s2, hrun2, hwf2, habs2, hord2⟩ := ih hwf1
    refine ⟨s2, ?_, hwf2, ?_, fun hm => hord2 (hord1 hm)⟩
    · simp only [pushAll, hrun1, bind, Except.bind]; exact hrun2
    · rw [habs2, habs1, absPush_eq_absStep, List.foldl_cons]

theorem pushAll_safe {s : Store P} (h : s.WF) (es : List (Item × P)) :
    ∃ s', pushAll es s = .ok s' ∧ s'.WF ∧ s'.abs = es.foldl Store.absStep s.abs := by
  obtain ⟨s', h1, h2, h3, _⟩ := pushAll_core es h
  exact ⟨s', h1, h2, h3⟩

theorem extend_core {s : Store P} (h : s.WF) (lo : Nat) (xs : Array (Item × P)) (hlo : lo < capLimit) :
    ∃ s', extend s lo xs = .ok s' ∧ s'.WF ∧ s'.abs = xs.foldl Store.absStep s.abs ∧ (s.MinMaxHeap → s'.MinMaxHeap) := by
  have hcases : extend s lo xs = heapBuild (s.extend xs) ∨ extend s lo xs = pushAll xs.toList s := by
    rw [extend_of_lt xs hlo]
    cases (if lo ≠ 0 then betterToRebuild s.size lo else false) <;> simp
  rcases hcases with hc | hc <;> rw [hc]
  · obtain ⟨s', hrun, hwf, hmap, hsz, hmm⟩ := heapBuild_spec (wf_extend h xs)
    refine ⟨s', hrun, hwf, ?_, fun _ => hmm⟩
    exact (abs_of_map_eq hmap).trans (lookup_extend s xs)
  · obtain ⟨s', hrun, hwf, habs, hord⟩ := pushAll_core xs.toList h
    refine ⟨s', hrun, hwf, ?_, hord⟩
    rw [habs, Array.foldl_toList]

theorem extend_safe {s : Store P} (h : s.WF) (lo : Nat) (xs : Array (Item × P)) (hlo : lo < capLimit) :
    ∃ s', extend s lo xs = .ok s' ∧ s'.WF ∧ s'.abs = xs.foldl Store.absStep s.abs := by
  obtain ⟨s', h1, h2, h3, _⟩ := extend_core h lo xs hlo
  exact ⟨s', h1, h2, h3⟩

/-! ## The double-ended sorted iterator (`into_sorted_iter`: `next` = `pop_min`, `next_back` = `pop_max`) -/

/-- `e` is held by the abstract state `f` and no held priority is smaller -/
def AbsIsMin (f : Nat → Option (Item × P)) (e : Item × P) : Prop :=
  f e.1.key = some e ∧ ∀ k e', f k = some e' → ¬ e'.2 < e.2

/-- `e` is held by the abstract state `f` and no held priority is greater -/
def AbsIsMax (f : Nat → Option (Item × P)) (e : Item × P) : Prop :=
  f e.1.key = some e ∧ ∀ k e', f k = some e' → ¬ e.2 < e'.2

theorem mem_iff_abs {s : Store P} (h : s.WF) {e : Item × P} : s.Mem e ↔ s.abs e.1.key = some e :=
  mem_iff_lookup h

theorem abs_key {s : Store P} {k : Nat} {e : Item × P} (h : s.abs k = some e) : e.1.key = k := IMap.lookup_key h

theorem isMin_iff_abs {s : Store P} (h : s.WF) {e : Item × P} : s.IsMin e ↔ AbsIsMin s.abs e := by
  unfold Store.IsMin AbsIsMin
  rw [mem_iff_abs h]
  constructor
  · rintro ⟨h1, h2⟩
    refine ⟨h1, fun k e' he' => h2 e' ((mem_iff_abs h).2 ?_)⟩
    rw [abs_key he']; exact he'
  · rintro ⟨h1, h2⟩
    exact ⟨h1, fun e' he' => h2 _ e' ((mem_iff_abs h).1 he')⟩

theorem isMax_iff_abs {s : Store P} (h : s.WF) {e : Item × P} : s.IsMax e ↔ AbsIsMax s.abs e := by
  unfold Store.IsMax AbsIsMax
  rw [mem_iff_abs h]
  constructor
  · rintro ⟨h1, h2⟩
    refine ⟨h1, fun k e' he' => h2 e' ((mem_iff_abs h).2 ?_)⟩
    rw [abs_key he']; exact he'
  · rintro ⟨h1, h2⟩
    exact ⟨h1, fun e' he' => h2 _ e' ((mem_iff_abs h).1 he')⟩

/-- **Abstract run of the double-ended sorted iterator.**  `SortedRun Q f calls outs f'`: started in the abstract state
`f`, the call sequence `calls` (`false` = `next`, `true` = `next_back`) produced the outputs `outs` and left the state
`f'`.  A call returns `none` exactly when nothing is held; otherwise it returns an entry `e` with `Q b f e` (for the
sorted iterator: a minimum for `next`, a maximum for `next_back`, of what is held at that moment) and that key is removed. -/
def SortedRun (Q : Bool → (Nat → Option (Item × P)) → Item × P → Prop) :
    (Nat → Option (Item × P)) → List Bool → List (Option (Item × P)) → (Nat → Option (Item × P)) → Prop
  | f, [], [], f' => f' = f
  | f, _ :: bs, none :: outs, f' => (∀ k, f k = none) ∧ SortedRun Q f bs outs f'
  | f, b :: bs, some e :: outs, f' => Q b f e ∧ SortedRun Q (absRemove f e.1.key) bs outs f'
  | _, _, _, _ => False

/-- the predicate of the unordered run: the entry returned is held -/
def HeldQ : Bool → (Nat → Option (Item × P)) → Item × P → Prop := fun _ f e => f e.1.key = some e

/-- the predicate of the sorted run: `next` returns a minimum, `next_back` a maximum -/
def ExtremeQ : Bool → (Nat → Option (Item × P)) → Item × P → Prop :=
  fun b f e => if b = true then AbsIsMax f e else AbsIsMin f e

theorem ExtremeQ.held {b : Bool} {f : Nat → Option (Item × P)} {e : Item × P} (h : ExtremeQ b f e) : HeldQ b f e := by
  unfold ExtremeQ at h
  split at h
  · exact h.1
  · exact h.1

theorem SortedRun.mono {Q Q' : Bool → (Nat → Option (Item × P)) → Item × P → Prop} (hQ : ∀ b f e, Q b f e → Q' b f e) :
    ∀ {calls : List Bool} {f : Nat → Option (Item × P)} {outs : List (Option (Item × P))} {f' : Nat → Option (Item × P)},
      SortedRun Q f calls outs f' → SortedRun Q' f calls outs f' := by
  intro calls f outs f' h
  fun_induction SortedRun Q f calls outs f' with
  | case1 => exact h
  | case2 f b bs outs f' ih => exact ⟨h.1, ih h.2⟩
  | case3 f b bs e outs f' ih => exact ⟨hQ _ _ _ h.1, ih h.2⟩
  | case4 => exact h.elim

theorem SortedRun.length {Q : Bool → (Nat → Option (Item × P)) → Item × P → Prop} :
    ∀ {calls : List Bool} {f : Nat → Option (Item × P)} {outs : List (Option (Item × P))} {f' : Nat → Option (Item × P)},
      SortedRun Q f calls outs f' → outs.length = calls.length := by
  intro calls f outs f' h
  fun_induction SortedRun Q f calls outs f' with
  | case1 => rfl
  | case2 f b bs outs f' ih => simp [ih h.2]
  | case3 f b bs e outs f' ih => simp [ih h.2]
  | case4 => exact h.elim

/-- every entry returned was held at the start and is not held at the end; the keys not returned are untouched -/
theorem SortedRun.held {Q : Bool → (Nat → Option (Item × P)) → Item × P → Prop} (hQ : ∀ b f e, Q b f e → f e.1.key = some e) :
    ∀ {calls : List Bool} {f : Nat → Option (Item × P)} {outs : List (Option (Item × P))} {f' : Nat → Option (Item × P)},
      SortedRun Q f calls outs f' →
        (∀ e, some e ∈ outs → f e.1.key = some e ∧ f' e.1.key = none) ∧
        (∀ k, (∀ e, some e ∈ outs → e.1.key ≠ k) → f' k = f k) := by
  intro calls f outs f' h
  fun_induction SortedRun Q f calls outs f' with
  | case1 => cases h; exact ⟨nofun, fun k _ => rfl⟩
  | case2 f b bs outs f' ih =>
    obtain ⟨h1, h2⟩ := ih h.2
    exact ⟨fun e he => h1 e (by simpa using he), fun k hk => h2 k fun e he => hk e (List.mem_cons_of_mem _ he)⟩
  | case3 f b bs e0 outs f' ih =>
    obtain ⟨h1, h2⟩ := ih h.2
    have h0 := hQ _ _ _ h.1
    have hne : ∀ e, some e ∈ outs → e.1.key ≠ e0.1.key := by
      intro e he hk
      have := (h1 e he).1
      unfold absRemove at this
      rw [if_pos hk] at this
      cases this
    refine ⟨?_, ?_⟩
    · intro e he
      rcases List.mem_cons.1 he with hc | hc
      · cases hc
        refine ⟨h0, ?_⟩
        rw [h2 _ hne]
        unfold absRemove
        rw [if_pos rfl]
      · have := (h1 e hc).1
        unfold absRemove at this
        split at this
        · cases this
        · exact ⟨this, (h1 e hc).2⟩
    · intro k hk
      rw [h2 k (fun e he => hk e (List.mem_cons_of_mem _ he))]
      unfold absRemove
      rw [if_neg]
      intro hc
      exact hk e0 (List.mem_cons_self ..) hc.symm
  | case4 => exact h.elim

theorem SortedRun.nodup {Q : Bool → (Nat → Option (Item × P)) → Item × P → Prop} (hQ : ∀ b f e, Q b f e → f e.1.key = some e) :
    ∀ {calls : List Bool} {f : Nat → Option (Item × P)} {outs : List (Option (Item × P))} {f' : Nat → Option (Item × P)},
      SortedRun Q f calls outs f' → ((outs.filterMap id).map (·.1.key)).Nodup := by
  intro calls f outs f' h
  fun_induction SortedRun Q f calls outs f' with
  | case1 => simp
  | case2 f b bs outs f' ih => simpa using ih h.2
  | case3 f b bs e0 outs f' ih =>
    have h1 := fun e he => ((SortedRun.held hQ h.2).1 e he).1
    show ((e0 :: outs.filterMap id).map (·.1.key)).Nodup
    rw [List.map_cons, List.nodup_cons]
    refine ⟨?_, ih h.2⟩
    intro hmem
    obtain ⟨e, he, hk⟩ := List.mem_map.1 hmem
    have he' : some e ∈ outs := by
      obtain ⟨o, ho, hoe⟩ := List.mem_filterMap.1 he
      simp only [id_eq] at hoe; subst hoe; exact ho
    have := h1 e he'
    unfold absRemove at this
    rw [if_pos hk] at this
    cases this
  | case4 => exact h.elim

theorem sortedStep_core {s : Store P} (h : s.WF) (b : Bool) :
    (s.size = 0 → (if b = true then popMax s else popMin s) = .ok (s, none)) ∧
    (0 < s.size → ∃ s1 e, (if b = true then popMax s else popMin s) = .ok (s1, some e) ∧ s.abs e.1.key = some e ∧
        s1.WF ∧ s1.abs = absRemove s.abs e.1.key ∧ s1.size = s.size - 1 ∧
        (s.MinMaxHeap → s1.MinMaxHeap ∧ ExtremeQ b s.abs e)) := by
  cases b with
  | false =>
    obtain ⟨s1, r, hrun, hwf, _, h0, h1, hord⟩ := popMin_core h
    refine ⟨fun hz => ?_, fun hn => ?_⟩
    · obtain ⟨rfl, rfl⟩ := h0 hz
      simpa using hrun
    · obtain ⟨e, rfl, ha, habs, hsz⟩ := h1 hn
      refine ⟨s1, e, by simpa using hrun, ha, hwf, habs, hsz, fun hm => ⟨(hord hm).1, ?_⟩⟩
      simpa [ExtremeQ] using (isMin_iff_abs h).1 ((hord hm).2 e rfl)
  | true =>
    obtain ⟨_, s1, r, hrun, _, _, hwf, h0, h1, hord⟩ := popMax_core h
    refine ⟨fun hz => ?_, fun hn => ?_⟩
    · obtain ⟨rfl, rfl⟩ := h0 hz
      simpa using hrun
    · obtain ⟨e, rfl, ha, habs, hsz⟩ := h1 hn
      refine ⟨s1, e, by simpa using hrun, ha, hwf, habs, hsz, fun hm => ⟨(hord hm).1, ?_⟩⟩
      simpa [ExtremeQ] using (isMax_iff_abs h).1 ((hord hm).2 e rfl)

theorem sortedCalls_cons_ok {b : Bool} {bs : List Bool} {s s1 s2 : Store P} {r : Option (Item × P)}
    {rest : List (Option (Item × P))} (h1 : (if b = true then popMax s else popMin s) = .ok (s1, r))
    (h2 : sortedCalls bs s1 = .ok (rest, s2)) : sortedCalls (b :: bs) s = .ok (r :: rest, s2) := by
  cases b
  · simp only [Bool.false_eq_true, if_false] at h1
    simp only [sortedCalls, Bool.false_eq_true, if_false, h1, bind, Except.bind, h2, pure, Except.pure]
  · simp only [if_true] at h1
    simp only [sortedCalls, if_true, h1, bind, Except.bind, h2, pure, Except.pure]

theorem sortedCalls_core (calls : List Bool) : ∀ {s : Store P}, s.WF →
    ∃ outs s', sortedCalls calls s = .ok (outs, s') ∧ s'.WF ∧ outs.length = calls.length ∧
      s'.size = s.size - min s.size calls.length ∧ SortedRun HeldQ s.abs calls outs s'.abs ∧
      (s.MinMaxHeap → s'.MinMaxHeap ∧ SortedRun ExtremeQ s.abs calls outs s'.abs) := by
  induction calls with
  | nil =>
    intro s h
    exact ⟨[], s, rfl, h, rfl, by simp, by simp [SortedRun], fun hm => ⟨hm, by simp [SortedRun]⟩⟩
  | cons b bs ih =>
    intro s h
    obtain ⟨h0, h1⟩ := sortedStep_core h b
    rcases Nat.eq_zero_or_pos s.size with hz | hn
    · obtain ⟨outs, s', hrun, hwf, hlen, hsz, hrunH, hord⟩ := ih h
      refine ⟨none :: outs, s', ?_, hwf, by simp [hlen], by rw [hsz, hz]; simp, ?_, ?_⟩
      · exact sortedCalls_cons_ok (h0 hz) hrun
      · exact ⟨abs_none_of_size_zero h hz, hrunH⟩
      · intro hm
        exact ⟨(hord hm).1, abs_none_of_size_zero h hz, (hord hm).2⟩
    · obtain ⟨s1, e, hrun1, ha, hwf1, habs1, hsz1, hord1⟩ := h1 hn
      obtain ⟨outs, s', hrun, hwf, hlen, hsz, hrunH, hord⟩ := ih hwf1
      refine ⟨some e :: outs, s', ?_, hwf, by simp [hlen], ?_, ?_, ?_⟩
      · exact sortedCalls_cons_ok hrun1 hrun
      · rw [hsz, hsz1, List.length_cons]; omega
      · refine ⟨ha, ?_⟩
        rw [← habs1]; exact hrunH
      · intro hm
        obtain ⟨hm1, hq⟩ := hord1 hm
        refine ⟨(hord hm1).1, hq, ?_⟩
        rw [← habs1]; exact (hord hm1).2

theorem sortedCalls_safe {s : Store P} (h : s.WF) (calls : List Bool) :
    ∃ outs s', sortedCalls calls s = .ok (outs, s') ∧ s'.WF ∧ outs.length = calls.length ∧
      s'.size = s.size - min s.size calls.length ∧ SortedRun HeldQ s.abs calls outs s'.abs ∧
      ((outs.filterMap id).map (·.1.key)).Nodup := by
  obtain ⟨outs, s', h1, h2, h3, h4, h5, _⟩ := sortedCalls_core calls h
  exact ⟨outs, s', h1, h2, h3, h4, h5, SortedRun.nodup (fun _ _ _ hq => hq) h5⟩

theorem drainAsc_core (fuel : Nat) {s : Store P} (h : s.WF) (hf : s.size < fuel) :
    ∃ l, drainAsc fuel s = .ok l ∧ l.length = s.size ∧ (∀ e, e ∈ l ↔ s.Mem e) ∧
      (l.map (·.1.key)).Nodup ∧ (s.MinMaxHeap → l.Pairwise (fun a b => ¬ b.2 < a.2)) := by
  refine drain_gen (pop := popMin) (fun fuel _ _ hp => ?_) (fun fuel _ _ _ _ hp hr => ?_) (fun h => ?_) fuel h hf
  · simp only [drainAsc, hp, bind, Except.bind, pure, Except.pure]
  · simp only [drainAsc, hp, hr, bind, Except.bind, pure, Except.pure]
  · obtain ⟨s', r, hrun, hwf, _, h0, h1, hord⟩ := popMin_core h
    exact ⟨s', r, hrun, hwf, fun hz => (h0 hz).2, h1, fun hm => ⟨(hord hm).1, fun e he => ((hord hm).2 e he).2⟩⟩

theorem drainDesc_core (fuel : Nat) {s : Store P} (h : s.WF) (hf : s.size < fuel) :
    ∃ l, drainDesc fuel s = .ok l ∧ l.length = s.size ∧ (∀ e, e ∈ l ↔ s.Mem e) ∧
      (l.map (·.1.key)).Nodup ∧ (s.MinMaxHeap → l.Pairwise (fun a b => ¬ a.2 < b.2)) := by
  refine drain_gen (pop := popMax) (fun fuel _ _ hp => ?_) (fun fuel _ _ _ _ hp hr => ?_) (fun h => ?_) fuel h hf
  · simp only [drainDesc, hp, bind, Except.bind, pure, Except.pure]
  · simp only [drainDesc, hp, hr, bind, Except.bind, pure, Except.pure]
  · obtain ⟨_, s', r, hrun, _, _, hwf, h0, h1, hord⟩ := popMax_core h
    exact ⟨s', r, hrun, hwf, fun hz => (h0 hz).2, h1, fun hm => ⟨(hord hm).1, fun e he => ((hord hm).2 e he).2⟩⟩

theorem intoAscendingSortedVec_core {s : Store P} (h : s.WF) :
    ∃ l, intoAscendingSortedVec s = .ok l ∧ l.length = s.size ∧ (∀ e, e ∈ l ↔ s.Mem e) ∧
      (l.map (·.1.key)).Nodup ∧ (s.MinMaxHeap → l.Pairwise (fun a b => ¬ b.2 < a.2)) :=
  drainAsc_core (s.size + 1) h (Nat.lt_succ_self _)

theorem intoDescendingSortedVec_core {s : Store P} (h : s.WF) :
    ∃ l, intoDescendingSortedVec s = .ok l ∧ l.length = s.size ∧ (∀ e, e ∈ l ↔ s.Mem e) ∧
      (l.map (·.1.key)).Nodup ∧ (s.MinMaxHeap → l.Pairwise (fun a b => ¬ a.2 < b.2)) :=
  drainDesc_core (s.size + 1) h (Nat.lt_succ_self _)

theorem intoAscendingSortedVec_safe {s : Store P} (h : s.WF) :
    ∃ l, intoAscendingSortedVec s = .ok l ∧ l.length = s.size ∧ (∀ e, e ∈ l ↔ s.Mem e) ∧ (l.map (·.1.key)).Nodup := by
  obtain ⟨l, h1, h2, h3, h4, _⟩ := intoAscendingSortedVec_core h
  exact ⟨l, h1, h2, h3, h4⟩

theorem intoDescendingSortedVec_safe {s : Store P} (h : s.WF) :
    ∃ l, intoDescendingSortedVec s = .ok l ∧ l.length = s.size ∧ (∀ e, e ∈ l ↔ s.Mem e) ∧ (l.map (·.1.key)).Nodup := by
  obtain ⟨l, h1, h2, h3, h4, _⟩ := intoDescendingSortedVec_core h
  exact ⟨l, h1, h2, h3, h4⟩

theorem upHeapify_safe {s : Store P} (h : s.WF) (i : Nat) :
    ∃ s', upHeapify s i = .ok s' ∧ s'.WF ∧ s'.map = s.map ∧ s'.size = s.size := by
  obtain ⟨s', h1, h2, h3, h4, _⟩ := upHeapify_core h i
  exact ⟨s', h1, h2, h3, h4⟩

theorem upHeapify_noop_of_le {s : Store P} (h : s.WF) {i : Nat} (hi : s.size ≤ i) : upHeapify s i = .ok s :=
  upHeapify_noop (Array.getElem?_eq_none (by rw [h.heap_size]; exact hi))

/-! ## Non-vacuity: a well-formed store that is NOT a min-max heap (the state a leaked `iter_mut` guard leaves
behind), on which every operation is nevertheless fault-free -/

theorem ex7_not_heap : ¬ (ex7 : Store Nat).MinMaxHeap := fun hm => by
  have := hm 0 3 (Anc.zero (by decide)) (by decide) 99 10 (by decide) (by decide)
  revert this; decide

example : (ex7 : Store Nat).WF ∧ ¬ (ex7 : Store Nat).MinMaxHeap ∧ 0 < ex7.size := ⟨ex7_WF, ex7_not_heap, by decide⟩

/-- a key-preserving predicate for `pop_min_if` / `pop_max_if` / `retain_mut`, and a key-preserving item write -/
def exPred : Item → Nat → Bool × Item × Nat := fun it p => (p % 20 == 0, ⟨it.key, it.payload + 1⟩, p + 1)
example : ∀ it p, (exPred it p).2.1.key = it.key := fun _ _ => rfl
def exWrite : Item → Item := fun it => ⟨it.key, 77⟩
example : ∀ it, (exWrite it).key = it.key := fun _ => rfl

example : ∃ s' r, popMin ex7 = .ok (s', r) ∧ s'.WF ∧ s'.size = 6 := by
  obtain ⟨s', r, h1, h2, _, _, h3⟩ := popMin_safe ex7_WF
  obtain ⟨_, _, _, _, h4⟩ := h3 (by decide)
  exact ⟨s', r, h1, h2, h4⟩

example : ∃ s' r, popMaxIf ex7 exPred = .ok (s', r) ∧ s'.WF := by
  obtain ⟨s', r, h1, h2, _⟩ := popMaxIf_safe ex7_WF exPred (fun _ _ => rfl)
  exact ⟨s', r, h1, h2⟩

/-- the model on the unordered store: no fault, but (of course) not the extremes: `pop_min` hands out the root (99) and
`pop_max` the larger of positions 1 and 2 (60) -/
example : (popMin ex7).toOption.map (fun r => r.2.map (·.2)) = some (some 99) := by decide +kernel
example : (popMax ex7).toOption.map (fun r => r.2.map (·.2)) = some (some 60) := by decide +kernel
example : (popMaxIf ex7 exPred).toOption.map (fun r => (r.2, r.1.size)) = some (some (⟨2, 1⟩, 61), 6) := by decide +kernel
example : (popMinIf ex7 exPred).toOption.map (fun r => (r.2, r.1.size, r.1.pr 0)) = some (none, 7, some 10) := by
  decide +kernel
example : (push ex7 ⟨9, 0⟩ 5).toOption.map (fun r => (r.2, r.1.size)) = some (none, 8) := by decide +kernel
example : (push ex7 ⟨3, 5⟩ 70).toOption.map (fun r => (r.2, r.1.size, r.1.abs 3)) = some (some 10, 7, some (⟨3, 0⟩, 70)) := by
  decide +kernel
example : (remove ex7 1).toOption.map (fun r => (r.2, r.1.size)) = some (some (⟨1, 0⟩, 50), 6) := by decide +kernel
example : (sortedCalls [false, true, true] ex7).toOption.map (fun r => (r.1.map (fun o => o.map (·.2)), r.2.size)) =
    some ([some 99, some 60, some 50], 4) := by decide +kernel
example : (intoAscendingSortedVec ex7).toOption.map (fun l => l.length) = some 7 := by decide +kernel
example : (peekMinMutWrite ex7 exWrite).toOption.map (fun r => (r.2, r.1.abs 0)) =
    some (some (⟨0, 0⟩, 99), some (⟨0, 77⟩, 99)) := by decide +kernel

end DQ
end PQ
