import PQ.Lemmas.MinMaxDefs
/-!
# Min-max heap: the trickle-down (`heapify_min` / `heapify_max` / `heapify`)

Part 1 (this file): direction-generic order vocabulary (`Le b`, `Lt b`), the selection lemmas
(`candidates`, `minByKey`, `maxByKey`) and the abstract (store-free) combinatorics of one trickle-down step on
a total valuation `v : Nat → P` of the positions.
-/
set_option linter.unusedSectionVars false
namespace PQ
open Arith
variable {P : Type} [LT P] [DecidableLT P] [LE P] [Std.IsLinearPreorder P] [Std.LawfulOrderLT P]

namespace DQ

/-! ## A. Direction-generic order: `b = true` is the order of a min level, `b = false` of a max level -/

/-- `x` is not after `y` in direction `b` (`x ≤ y` for `b = true`, `y ≤ x` for `b = false`) -/
def Le (b : Bool) (x y : P) : Prop := if b then ¬ y < x else ¬ x < y

/-- `x` is strictly before `y` in direction `b` -/
def Lt (b : Bool) (x y : P) : Prop := if b then x < y else y < x

theorem Le.refl (b : Bool) (x : P) : Le b x x := by
  cases b <;> simp only [Le, if_true, if_false, Bool.false_eq_true] <;> grind

theorem Le.trans {b : Bool} {x y z : P} (h1 : Le b x y) (h2 : Le b y z) : Le b x z := by
  cases b <;> simp only [Le, if_true, if_false, Bool.false_eq_true] at * <;> grind

theorem Le.flip {b : Bool} {x y : P} : Le (!b) x y ↔ Le b y x := by
  cases b <;> simp [Le]

theorem Lt.le {b : Bool} {x y : P} (h : Lt b x y) : Le b x y := by
  cases b <;> simp only [Le, Lt, if_true, if_false, Bool.false_eq_true] at * <;> grind

theorem Le.of_not_lt {b : Bool} {x y : P} (h : ¬ Lt b x y) : Le b y x := by
  cases b <;> simp only [Le, Lt, if_true, if_false, Bool.false_eq_true] at * <;> grind

/-- parity of the level as a `Bool`: `true` on min levels -/
def evn (a : Nat) : Bool := decide (level a % 2 = 0)

theorem evn_left (i : Nat) : evn (left i) = !evn i := by
  simp only [evn, level_left]
  rcases Nat.mod_two_eq_zero_or_one (level i) with h | h <;> simp [h] <;> omega

theorem evn_right (i : Nat) : evn (right i) = !evn i := by
  simp only [evn, level_right]
  rcases Nat.mod_two_eq_zero_or_one (level i) with h | h <;> simp [h] <;> omega

@[simp] theorem evn_zero : evn 0 = true := by decide
@[simp] theorem evn_one : evn 1 = false := by decide
@[simp] theorem evn_two : evn 2 = false := by decide

/-! ## B. The selection functions -/

theorem minByKey_foldl (xs : List (Nat × P)) : ∀ acc : Nat × P,
    let r := xs.foldl (fun acc y => if y.2 < acc.2 then y else acc) acc
    (r = acc ∨ r ∈ xs) ∧ ¬ acc.2 < r.2 ∧ ∀ y ∈ xs, ¬ y.2 < r.2 := by
  induction xs with
  | nil => intro acc; simp; grind
  | cons x xs ih =>
    intro acc
    simp only [List.foldl_cons]
    by_cases hx : x.2 < acc.2
    · simp only [hx, if_true]
      obtain ⟨h1, h2, h3⟩ := ih x
      refine ⟨?_, ?_, ?_⟩
      · rcases h1 with h1 | h1
        · right; rw [h1]; exact List.mem_cons_self
        · right; exact List.mem_cons_of_mem _ h1
      · grind
      · intro y hy
        rcases List.mem_cons.mp hy with rfl | hy
        · exact h2
        · exact h3 y hy
    · simp only [hx, if_false]
      obtain ⟨h1, h2, h3⟩ := ih acc
      refine ⟨?_, h2, ?_⟩
      · rcases h1 with h1 | h1
        · left; exact h1
        · right; exact List.mem_cons_of_mem _ h1
      · intro y hy
        rcases List.mem_cons.mp hy with rfl | hy
        · grind
        · exact h3 y hy

theorem maxByKey_foldl (xs : List (Nat × P)) : ∀ acc : Nat × P,
    let r := xs.foldl (fun acc y => if y.2 < acc.2 then acc else y) acc
    (r = acc ∨ r ∈ xs) ∧ ¬ r.2 < acc.2 ∧ ∀ y ∈ xs, ¬ r.2 < y.2 := by
  induction xs with
  | nil => intro acc; simp; grind
  | cons x xs ih =>
    intro acc
    simp only [List.foldl_cons]
    by_cases hx : x.2 < acc.2
    · simp only [hx, if_true]
      obtain ⟨h1, h2, h3⟩ := ih acc
      refine ⟨?_, h2, ?_⟩
      · rcases h1 with h1 | h1
        · left; exact h1
        · right; exact List.mem_cons_of_mem _ h1
      · intro y hy
        rcases List.mem_cons.mp hy with rfl | hy
        · grind
        · exact h3 y hy
    · simp only [hx, if_false]
      obtain ⟨h1, h2, h3⟩ := ih x
      refine ⟨?_, ?_, ?_⟩
      · rcases h1 with h1 | h1
        · right; rw [h1]; exact List.mem_cons_self
        · right; exact List.mem_cons_of_mem _ h1
      · grind
      · intro y hy
        rcases List.mem_cons.mp hy with rfl | hy
        · exact h2
        · exact h3 y hy

/-- `min_by_key` returns a candidate that no candidate is smaller than -/
theorem minByKey_spec {cs : List (Nat × P)} (hne : cs ≠ []) :
    ∃ c, minByKey cs = some c ∧ c ∈ cs ∧ ∀ y ∈ cs, Le true c.2 y.2 := by
  cases cs with
  | nil => exact absurd rfl hne
  | cons x xs =>
    obtain ⟨h1, h2, h3⟩ := minByKey_foldl xs x
    refine ⟨_, rfl, ?_, ?_⟩
    · rcases h1 with h1 | h1
      · rw [h1]; exact List.mem_cons_self
      · exact List.mem_cons_of_mem _ h1
    · intro y hy
      simp only [Le, if_true]
      rcases List.mem_cons.mp hy with rfl | hy
      · exact h2
      · exact h3 y hy

/-- `max_by_key` returns a candidate that no candidate is greater than -/
theorem maxByKey_spec {cs : List (Nat × P)} (hne : cs ≠ []) :
    ∃ c, maxByKey cs = some c ∧ c ∈ cs ∧ ∀ y ∈ cs, Le false c.2 y.2 := by
  cases cs with
  | nil => exact absurd rfl hne
  | cons x xs =>
    obtain ⟨h1, h2, h3⟩ := maxByKey_foldl xs x
    refine ⟨_, rfl, ?_, ?_⟩
    · rcases h1 with h1 | h1
      · rw [h1]; exact List.mem_cons_self
      · exact List.mem_cons_of_mem _ h1
    · intro y hy
      simp only [Le, if_false, Bool.false_eq_true]
      rcases List.mem_cons.mp hy with rfl | hy
      · exact h2
      · exact h3 y hy

/-- the children and grandchildren of `m` -/
def IsCand (m q : Nat) : Prop :=
  q = left m ∨ q = right m ∨ q = left (left m) ∨ q = right (left m) ∨ q = left (right m) ∨ q = right (right m)

theorem candidates_go_spec {s : Store P} (h : s.WF) : ∀ L : List Nat,
    ∃ cs, candidates.go s L = .ok cs ∧
      (∀ q x, (q, x) ∈ cs → q ∈ L ∧ q < s.size ∧ s.pr q = some x) ∧
      (L.Pairwise (· < ·) → ∀ q, q ∈ L → q < s.size → ∃ x, (q, x) ∈ cs) := by
  intro L
  induction L with
  | nil => exact ⟨[], rfl, by simp, by simp⟩
  | cons c L ih =>
    obtain ⟨cs, hgo, h1, h2⟩ := ih
    cases hc : s.heap[c]? with
    | none =>
      refine ⟨[], by simp [candidates.go, hc, pure, Except.pure], by simp, ?_⟩
      intro hpw q hq hqs
      have hcs : s.size ≤ c := by
        have := h.heap_size
        simp only [Array.getElem?_eq_none_iff] at hc; omega
      rcases List.mem_cons.mp hq with rfl | hq
      · omega
      · have := (List.pairwise_cons.mp hpw).1 q hq; omega
    | some idx =>
      have hidx : idx < s.size := Store.TWF.heap_lt h hc
      obtain ⟨e, he⟩ := Store.TWF.map_some h hidx
      have hcs : c < s.size := by have := lt_size_of_getElem? hc; rw [h.heap_size] at this; exact this
      have hpr : s.pr c = some e.2 := by simp [Store.pr, hc, he]
      refine ⟨(c, e.2) :: cs, ?_, ?_, ?_⟩
      · simp [candidates.go, hc, IMap.getIndex, he, unwrapO, hgo, bind, Except.bind, pure, Except.pure]
      · intro q x hq
        rcases List.mem_cons.mp hq with hq | hq
        · cases hq; exact ⟨List.mem_cons_self, hcs, hpr⟩
        · obtain ⟨a, b, c⟩ := h1 q x hq
          exact ⟨List.mem_cons_of_mem _ a, b, c⟩
      · intro hpw q hq hqs
        rcases List.mem_cons.mp hq with rfl | hq
        · exact ⟨e.2, List.mem_cons_self⟩
        · obtain ⟨x, hx⟩ := h2 (List.pairwise_cons.mp hpw).2 q hq hqs
          exact ⟨x, List.mem_cons_of_mem _ hx⟩

/-- `candidates` never faults on a well-formed store and lists exactly the children and grandchildren of `m` below
`size`, each with its priority -/
theorem candidates_spec {s : Store P} (h : s.WF) (m : Nat) :
    ∃ cs, candidates s m = .ok cs ∧
      (∀ q x, (q, x) ∈ cs → IsCand m q ∧ q < s.size ∧ s.pr q = some x) ∧
      (∀ q, IsCand m q → q < s.size → ∃ x, (q, x) ∈ cs) := by
  obtain ⟨cs, hgo, h1, h2⟩ := candidates_go_spec h
    [left m, right m, left (left m), right (left m), left (right m), right (right m)]
  refine ⟨cs, hgo, ?_, ?_⟩
  · intro q x hq
    obtain ⟨a, b, c⟩ := h1 q x hq
    refine ⟨?_, b, c⟩
    simpa [IsCand] using a
  · intro q hq hqs
    refine h2 ?_ q (by simpa [IsCand] using hq) hqs
    simp [left, right]; omega

/-! ## C. Abstract combinatorics of one trickle-down step, on a total valuation `v` of the positions -/

/-- ancestor `a` and descendant `d` are in min-max order under the valuation `v` -/
def VRel (v : Nat → P) (a d : Nat) : Prop := Le (evn a) (v a) (v d)

/-- every pair (from `lo` on, below `n`) whose ancestor is not `m` is in order -/
def VPre (v : Nat → P) (n lo m : Nat) : Prop :=
  ∀ a d, Anc a d → d < n → lo ≤ a → a ≠ m → VRel v a d

/-- every pair (from `lo` on, below `n`) is in order -/
def VFrom (v : Nat → P) (n lo : Nat) : Prop :=
  ∀ a d, Anc a d → d < n → lo ≤ a → VRel v a d

theorem IsCand.gt {m q : Nat} (h : IsCand m q) : m < q := by
  simp only [IsCand, left, right] at h; omega

/-- a value that is before all children and grandchildren of `m` is before the whole subtree below `m` -/
theorem dom {v : Nat → P} {n lo m : Nat} {x : P} (hpre : VPre v n lo m) (hlo : lo ≤ m)
    (hsel : ∀ q, IsCand m q → q < n → Le (evn m) x (v q)) :
    ∀ d, Anc m d → d < n → Le (evn m) x (v d) := by
  intro d had hd
  have key : ∀ g, IsCand m g → evn g = evn m → Anc g d → Le (evn m) x (v d) := by
    intro g hg he hgd
    have h1 := hsel g hg (Nat.lt_trans hgd.lt hd)
    have h2 := hpre g d hgd hd (by have := hg.gt; omega) (by have := hg.gt; omega)
    unfold VRel at h2; rw [he] at h2
    exact h1.trans h2
  rcases had.cases_top with rfl | rfl | h | h
  · exact hsel _ (Or.inl rfl) hd
  · exact hsel _ (Or.inr (Or.inl rfl)) hd
  · rcases h.cases_top with rfl | rfl | h' | h'
    · exact hsel _ (Or.inr (Or.inr (Or.inl rfl))) hd
    · exact hsel _ (Or.inr (Or.inr (Or.inr (Or.inl rfl)))) hd
    · exact key _ (Or.inr (Or.inr (Or.inl rfl))) (by simp [evn_left]) h'
    · exact key _ (Or.inr (Or.inr (Or.inr (Or.inl rfl)))) (by simp [evn_left, evn_right]) h'
  · rcases h.cases_top with rfl | rfl | h' | h'
    · exact hsel _ (Or.inr (Or.inr (Or.inr (Or.inr (Or.inl rfl))))) hd
    · exact hsel _ (Or.inr (Or.inr (Or.inr (Or.inr (Or.inr rfl))))) hd
    · exact key _ (Or.inr (Or.inr (Or.inr (Or.inr (Or.inl rfl))))) (by simp [evn_left, evn_right]) h'
    · exact key _ (Or.inr (Or.inr (Or.inr (Or.inr (Or.inr rfl))))) (by simp [evn_right]) h'

/-- the loop stops at `m` because `m` is already before all its children and grandchildren -/
theorem from_stop {v : Nat → P} {n lo m : Nat} (hpre : VPre v n lo m) (hlo : lo ≤ m)
    (hsel : ∀ q, IsCand m q → q < n → Le (evn m) (v m) (v q)) : VFrom v n lo := by
  intro a d had hd hloa
  by_cases ham : a = m
  · subst ham; exact dom hpre hlo hsel d had hd
  · exact hpre a d had hd hloa ham

/-- `m` has no child below `n` -/
theorem from_leaf {v : Nat → P} {n lo m : Nat} (hpre : VPre v n lo m) (hleaf : n ≤ left m) : VFrom v n lo := by
  intro a d had hd hloa
  by_cases ham : a = m
  · subst ham
    have : left a ≤ d := by
      rcases had.cases_top with rfl | rfl | h | h
      · omega
      · have := left_lt_right a; omega
      · have := h.lt; omega
      · have := h.lt; have := left_lt_right a; omega
    omega
  · exact hpre a d had hd hloa ham

/-- the selected candidate `c` is a child of `m` and strictly before `m`: after the exchange everything is in order -/
theorem from_child {v v' : Nat → P} {n lo m c : Nat} (hpre : VPre v n lo m) (hlo : lo ≤ m)
    (hc : c = left m ∨ c = right m) (hcn : c < n)
    (hsel : ∀ q, IsCand m q → q < n → Le (evn m) (v c) (v q)) (hlt : Lt (evn m) (v c) (v m))
    (hm' : v' m = v c) (hc' : v' c = v m) (ho : ∀ q, q ≠ m → q ≠ c → v' q = v q) : VFrom v' n lo := by
  have hmc : Anc m c := by rcases hc with rfl | rfl; exact Anc.of_left m; exact Anc.of_right m
  have hpc : parent c = m := by rcases hc with rfl | rfl <;> simp
  have hec : evn c = !evn m := by rcases hc with rfl | rfl; exact evn_left m; exact evn_right m
  intro a d had hd hloa
  unfold VRel
  by_cases ham : a = m
  · subst ham
    rw [hm']
    by_cases hdc : d = c
    · subst hdc; rw [hc']; exact hlt.le
    · rw [ho d (Ne.symm had.ne) hdc]
      exact dom hpre hlo hsel d had hd
  · by_cases hac : a = c
    · subst hac
      have h1 := had.lt; have h2 := hmc.lt
      rw [hc', ho d (by omega) (by omega), hec, Le.flip]
      have := hpre a d had hd hloa ham
      unfold VRel at this; rw [hec, Le.flip] at this
      exact this.trans hlt.le
    · rw [ho a ham hac]
      by_cases hdm : d = m
      · subst hdm; rw [hm']; exact hpre a c (had.trans hmc) hcn hloa ham
      · by_cases hdc : d = c
        · subst hdc; rw [hc']
          rcases had.cases_child with h | h
          · exact absurd (h.trans hpc) ham
          · rw [hpc] at h; exact hpre a m h (Nat.lt_trans hmc.lt hcn) hloa ham
        · rw [ho d hdm hdc]; exact hpre a d had hd hloa ham

/-- the selected candidate `c` is a grandchild of `m` (through `p`) and strictly before `m`: after the exchange with `m`
and the conditional exchange with `p`, only pairs with ancestor `c` can be out of order -/
theorem pre_grand {v v' : Nat → P} {n lo m p c : Nat} (hpre : VPre v n lo m) (hlo : lo ≤ m)
    (hp : p = left m ∨ p = right m) (hc : c = left p ∨ c = right p) (hcn : c < n)
    (hsel : ∀ q, IsCand m q → q < n → Le (evn m) (v c) (v q)) (hlt : Lt (evn m) (v c) (v m))
    (hm' : v' m = v c) (ho : ∀ q, q ≠ m → q ≠ p → q ≠ c → v' q = v q)
    (hcase : (v' c = v m ∧ v' p = v p ∧ Le (evn m) (v m) (v p)) ∨
             (v' c = v p ∧ v' p = v m ∧ Le (evn m) (v p) (v m))) :
    VPre v' n lo c := by
  have hmp : Anc m p := by rcases hp with rfl | rfl; exact Anc.of_left m; exact Anc.of_right m
  have hpc : Anc p c := by rcases hc with rfl | rfl; exact Anc.of_left p; exact Anc.of_right p
  have hmc : Anc m c := hmp.trans hpc
  have hpp : parent p = m := by rcases hp with rfl | rfl <;> simp
  have hpc' : parent c = p := by rcases hc with rfl | rfl <;> simp
  have hep : evn p = !evn m := by rcases hp with rfl | rfl; exact evn_left m; exact evn_right m
  have hpn : p < n := Nat.lt_trans hpc.lt hcn
  have hmn : m < n := Nat.lt_trans hmp.lt hpn
  have hcp : IsCand m p := by rcases hp with rfl | rfl; exact Or.inl rfl; exact Or.inr (Or.inl rfl)
  have hcc : IsCand m c := by
    rcases hp with rfl | rfl <;> rcases hc with rfl | rfl <;> simp [IsCand]
  have hcp' : Le (evn m) (v c) (v p) := hsel p hcp hpn
  have hcm' : Le (evn m) (v c) (v m) := hlt.le
  have hM : Le (evn m) (v p) (v' p) ∧ Le (evn m) (v' c) (v' p) := by
    rcases hcase with ⟨h1, h2, h3⟩ | ⟨h1, h2, h3⟩
    · rw [h1, h2]; exact ⟨Le.refl _ _, h3⟩
    · rw [h1, h2]; exact ⟨h3, h3⟩
  have hinc : v' c = v m ∨ v' c = v p := by
    rcases hcase with ⟨h1, _, _⟩ | ⟨h1, _, _⟩
    · exact Or.inl h1
    · exact Or.inr h1
  have hinp : v' p = v m ∨ v' p = v p := by
    rcases hcase with ⟨_, h2, _⟩ | ⟨_, h2, _⟩
    · exact Or.inr h2
    · exact Or.inl h2
  have l1 := hmp.lt; have l2 := hpc.lt
  intro a d had hd hloa hac
  unfold VRel
  by_cases ham : a = m
  · subst ham
    rw [hm']
    by_cases hdp : d = p
    · subst hdp; rcases hinp with h | h <;> rw [h] <;> assumption
    · by_cases hdc : d = c
      · subst hdc; rcases hinc with h | h <;> rw [h] <;> assumption
      · rw [ho d (Ne.symm had.ne) hdp hdc]
        exact dom hpre hlo hsel d had hd
  · by_cases hap : a = p
    · subst hap
      rw [hep, Le.flip]
      by_cases hdc : d = c
      · subst hdc; exact hM.2
      · have := had.lt
        rw [ho d (by omega) (by omega) hdc]
        have h1 := hpre a d had hd hloa ham
        unfold VRel at h1; rw [hep, Le.flip] at h1
        exact h1.trans hM.1
    · rw [ho a ham hap hac]
      have rels : Anc a m → VRel v a m ∧ VRel v a p ∧ VRel v a c := fun h =>
        ⟨hpre a m h hmn hloa ham, hpre a p (h.trans hmp) hpn hloa ham, hpre a c (h.trans hmc) hcn hloa ham⟩
      by_cases hdm : d = m
      · subst hdm; rw [hm']; exact (rels had).2.2
      · by_cases hdp : d = p
        · subst hdp
          have ham' : Anc a m := by
            rcases had.cases_child with h | h
            · exact absurd (h.trans hpp) ham
            · rwa [hpp] at h
          rcases hinp with h | h <;> rw [h]
          · exact (rels ham').1
          · exact (rels ham').2.1
        · by_cases hdc : d = c
          · subst hdc
            have ham' : Anc a m := by
              rcases had.cases_child with h | h
              · exact absurd (h.trans hpc') hap
              · rw [hpc'] at h
                rcases h.cases_child with h' | h'
                · exact absurd (h'.trans hpp) ham
                · rwa [hpp] at h'
            rcases hinc with h | h <;> rw [h]
            · exact (rels ham').1
            · exact (rels ham').2.1
          · rw [ho d hdm hdp hdc]; exact hpre a d had hd hloa ham

end DQ
end PQ
