import PQ.Lemmas.MinMaxDown1
/-!
# Min-max heap trickle-down, part 2: the loops of the model (`heapifyMinLoop`, `heapifyMaxLoop`) and `heapify`
-/
set_option linter.unusedSimpArgs false
set_option linter.unusedSectionVars false
namespace PQ
open Arith
variable {P : Type} [LT P] [DecidableLT P] [LE P] [Std.IsLinearPreorder P] [Std.LawfulOrderLT P]

namespace Store

/-- total valuation of the positions (default `x0` outside the heap) -/
def prD (s : Store P) (x0 : P) (q : Nat) : P := (s.pr q).getD x0

theorem prD_of_pr {s : Store P} {x0 x : P} {q : Nat} (h : s.pr q = some x) : s.prD x0 q = x := by
  simp [prD, h]

theorem TWF.pr_eq_prD {s : Store P} {n q : Nat} (h : s.TWF n) (x0 : P) (hq : q < n) : s.pr q = some (s.prD x0 q) := by
  obtain ⟨x, hx⟩ := h.pr_some hq
  rw [prD_of_pr hx]; exact hx

@[simp] theorem tick_prD (s : Store P) (k : Nat) (x0 : P) : (s.tick k).prD x0 = s.prD x0 := rfl

theorem tick_WF {s : Store P} {k : Nat} : (s.tick k).WF ↔ s.WF := tick_TWF

end Store

namespace DQ
open Store

/-- what one iteration of the trickle-down loop at `m` does, given the selected candidate `c` (direction `b`):
stop, exchange with a child and stop, or exchange with a grandchild (and possibly its parent) and continue at `c` -/
def StepOut (b : Bool) (res : R (Store P)) (next : Store P → Nat → R (Store P)) (s : Store P) (m c : Nat) (xc xm : P) : Prop :=
  (¬ Lt b xc xm ∧ ∃ k, res = .ok (s.tick k)) ∨
  (Lt b xc xm ∧ c ≤ right m ∧ ∃ s1, res = .ok s1 ∧ s1.WF ∧ s1.map = s.map ∧ s1.size = s.size ∧
      ∀ q, s1.heap[q]? = s.heap[swapPos c m q]?) ∨
  (Lt b xc xm ∧ right m < c ∧ ∃ xp s2, s.pr (parent c) = some xp ∧ res = next s2 c ∧ s2.WF ∧ s2.map = s.map ∧
      s2.size = s.size ∧
      ((¬ Lt b xp xm ∧ ∀ q, s2.heap[q]? = s.heap[swapPos c m q]?) ∨
       (Lt b xp xm ∧ ∀ q, s2.heap[q]? = s.heap[swapPos c m (swapPos c (parent c) q)]?)))

theorem IsCand.parent_of_gt {m c : Nat} (h : IsCand m c) (hc : right m < c) :
    (parent c = left m ∨ parent c = right m) ∧ (c = left (parent c) ∨ c = right (parent c)) := by
  simp only [IsCand, left, right, parent] at *; omega

theorem IsCand.child_of_le {m c : Nat} (h : IsCand m c) (hc : c ≤ right m) : c = left m ∨ c = right m := by
  simp only [IsCand, left, right] at *; omega

section Trickle
variable {loop : Nat → Store P → Nat → R (Store P)} {pick : List (Nat × P) → Option (Nat × P)} {lt : P → P → Prop}
  [∀ x y, Decidable (lt x y)] {d1 d2 d3 d4 : Nat} (hloop : TrickleEq loop pick lt d1 d2 d3 d4)
include hloop

theorem trickle_leaf {s : Store P} {m : Nat} (fuel : Nat) (hn : 2 ≤ s.size) (hm : ¬ left m < s.size) :
    loop (fuel + 1) s m = .ok s := by
  have h1 : s.size ≠ 0 := by omega
  have h2 : s.size - 1 ≠ 0 := by omega
  have h3 : ¬ m ≤ parent (s.size - 1) := fun h => hm ((left_lt_iff hn).mpr h)
  rw [hloop fuel]
  simp [decC, parentC, h1, h2, h3, bind, Except.bind, pure, Except.pure]

theorem trickle_step {b : Bool} (hpick : ∀ {cs : List (Nat × P)}, cs ≠ [] → ∃ c, pick cs = some c ∧ c ∈ cs ∧ ∀ y ∈ cs, Le b c.2 y.2)
    (hlt' : ∀ x y, lt x y ↔ Lt b x y) {s : Store P} {m : Nat} (fuel : Nat) (h : s.WF) (hm : left m < s.size) :
    ∃ c xc xm, IsCand m c ∧ c < s.size ∧ s.pr c = some xc ∧ s.pr m = some xm ∧
      (∀ q y, IsCand m q → q < s.size → s.pr q = some y → Le b xc y) ∧
      StepOut b (loop (fuel + 1) s m) (loop fuel) s m c xc xm := by
  have hn : 2 ≤ s.size := by simp only [left] at hm; omega
  have hmn : m < s.size := lt_of_left_lt hm
  have h1 : s.size ≠ 0 := by omega
  have h2 : s.size - 1 ≠ 0 := by omega
  have h3 : m ≤ parent (s.size - 1) := (left_lt_iff hn).mp hm
  obtain ⟨cs, hcs, hcs1, hcs2⟩ := candidates_spec h m
  have hne : cs ≠ [] := by
    obtain ⟨x, hx⟩ := hcs2 (left m) (Or.inl rfl) hm
    intro e; rw [e] at hx; cases hx
  obtain ⟨⟨c, xc⟩, hmin, hmem, hle⟩ := hpick hne
  obtain ⟨hcand, hcn, hprc⟩ := hcs1 c xc hmem
  obtain ⟨xm, hprm⟩ := TWF.pr_some h hmn
  refine ⟨c, xc, xm, hcand, hcn, hprc, hprm, ?_, ?_⟩
  · intro q y hq hqn hy
    obtain ⟨y', hy'⟩ := hcs2 q hq hqn
    have := (hcs1 q y' hy').2.2
    rw [hy] at this; cases this
    exact hle _ hy'
  · have hpc : s.prioAt c = .ok xc := prioAt_eq_ok_iff.mpr hprc
    have hpm : s.prioAt m = .ok xm := prioAt_eq_ok_iff.mpr hprm
    -- the store after the two rounds of ticking
    have htt : (s.tick (cs.length - 1)).tick = s.tick (cs.length - 1 + 1) := tick_tick _ _ _
    generalize hk : cs.length - 1 + 1 = k at htt
    by_cases hlt : lt xc xm
    · have hc0 : c ≠ 0 := by have := hcand.gt; omega
      have hwf0 : (s.tick k).TWF (s.tick k).size := tick_TWF.mpr h
      obtain ⟨s1, hsw, h1wf, h1map, h1size, _, h1heap⟩ := swap_spec hwf0 (a := c) (b := m) hcn hmn
      have h1wf' : s1.WF := by unfold Store.WF; rw [h1size]; exact h1wf
      by_cases hgt : right m < c
      · -- grandchild
        right; right
        obtain ⟨hp, hcp⟩ := hcand.parent_of_gt hgt
        have hpn : parent c < s.size := Nat.lt_trans (parent_lt (by omega)) hcn
        obtain ⟨xp, hprp⟩ := TWF.pr_some h hpn
        have hpr1 : ∀ q, s1.pr q = s.pr (swapPos c m q) := fun q => by
          rw [swap_pr h1map h1heap q]; rfl
        have hpne : parent c ≠ c := by have := parent_lt (Nat.pos_of_ne_zero hc0); omega
        have hpnm : parent c ≠ m := by rcases hp with e | e <;> rw [e] <;> simp only [left, right] <;> omega
        have h1c : s1.prioAt c = .ok xm := by
          apply prioAt_eq_ok_iff.mpr; rw [hpr1, swapPos_left]; exact hprm
        have h1p : s1.prioAt (parent c) = .ok xp := by
          apply prioAt_eq_ok_iff.mpr; rw [hpr1, swapPos_of_ne hpne hpnm]; exact hprp
        by_cases hlt2 : lt xp xm
        · have hwf1 : (s1.tick).TWF (s1.tick).size := tick_TWF.mpr h1wf'
          obtain ⟨s2, hsw2, h2wf, h2map, h2size, _, h2heap⟩ :=
            swap_spec hwf1 (a := c) (b := parent c) (by simpa [h1size] using hcn) (by simpa [h1size] using hpn)
          refine ⟨(hlt' _ _).1 hlt, hgt, xp, s2, hprp, ?_, ?_, ?_, ?_, Or.inr ⟨(hlt' _ _).1 hlt2, ?_⟩⟩
          · rw [hloop fuel]; simp [decC, parentC, h1, h2, h3, hcs, hmin, unwrapO, hpc, hpm, htt, hlt, hsw, hgt, hc0,
              h1c, h1p, hlt2, hsw2, bind, Except.bind, pure, Except.pure]
          · unfold Store.WF; rw [h2size]; exact h2wf
          · rw [h2map]; exact h1map
          · rw [h2size]; simpa using h1size
          · intro q; rw [h2heap q]; exact h1heap _
        · refine ⟨(hlt' _ _).1 hlt, hgt, xp, s1.tick, hprp, ?_, tick_WF.mpr h1wf', h1map, h1size,
            Or.inl ⟨mt (hlt' _ _).2 hlt2, h1heap⟩⟩
          rw [hloop fuel]; simp [decC, parentC, h1, h2, h3, hcs, hmin, unwrapO, hpc, hpm, htt, hlt, hsw, hgt, hc0,
            h1c, h1p, hlt2, bind, Except.bind, pure, Except.pure]
      · right; left
        refine ⟨(hlt' _ _).1 hlt, by omega, s1, ?_, h1wf', h1map, h1size, h1heap⟩
        rw [hloop fuel]; simp [decC, parentC, h1, h2, h3, hcs, hmin, unwrapO, hpc, hpm, htt, hlt, hsw, hgt,
          bind, Except.bind, pure, Except.pure]
    · left
      refine ⟨mt (hlt' _ _).2 hlt, k, ?_⟩
      rw [hloop fuel]; simp [decC, parentC, h1, h2, h3, hcs, hmin, unwrapO, hpc, hpm, htt, hlt,
        bind, Except.bind, pure, Except.pure]

end Trickle

/-- the two loops as one function of the direction -/
def hLoop (b : Bool) (fuel : Nat) (s : Store P) (i : Nat) : R (Store P) :=
  if b then heapifyMinLoop fuel s i else heapifyMaxLoop fuel s i

theorem hLoop_leaf (b : Bool) {s : Store P} {m : Nat} (fuel : Nat) (hn : 2 ≤ s.size) (hm : ¬ left m < s.size) :
    hLoop b (fuel + 1) s m = .ok s := by
  cases b
  · exact trickle_leaf trickleEq_max fuel hn hm
  · exact trickle_leaf trickleEq_min fuel hn hm

theorem hLoop_step (b : Bool) {s : Store P} {m : Nat} (fuel : Nat) (h : s.WF) (hm : left m < s.size) :
    ∃ c xc xm, IsCand m c ∧ c < s.size ∧ s.pr c = some xc ∧ s.pr m = some xm ∧
      (∀ q y, IsCand m q → q < s.size → s.pr q = some y → Le b xc y) ∧
      StepOut b (hLoop b (fuel + 1) s m) (hLoop b fuel) s m c xc xm := by
  cases b
  · exact trickle_step trickleEq_max maxByKey_spec (fun _ _ => Iff.rfl) fuel h hm
  · exact trickle_step trickleEq_min minByKey_spec (fun _ _ => Iff.rfl) fuel h hm

theorem swap_prD {s s' : Store P} {a b : Nat} (x0 : P) (hm : s'.map = s.map)
    (hh : ∀ q, s'.heap[q]? = s.heap[swapPos a b q]?) (q : Nat) : s'.prD x0 q = s.prD x0 (swapPos a b q) := by
  unfold Store.prD; rw [swap_pr hm hh q]

theorem swap2_prD {s s' : Store P} {a b c d : Nat} (x0 : P) (hm : s'.map = s.map)
    (hh : ∀ q, s'.heap[q]? = s.heap[swapPos a b (swapPos c d q)]?) (q : Nat) :
    s'.prD x0 q = s.prD x0 (swapPos a b (swapPos c d q)) := by
  unfold Store.prD Store.pr; rw [hh q, hm]

/-- **the trickle-down loop** in direction `b` started at a position `m` of the matching level parity: if every pair
whose ancestor is not `m` is in order, the loop terminates without fault and puts every pair in order; it only touches
`m` and positions below `m`. -/
theorem hLoop_spec (b : Bool) (x0 : P) (fuel : Nat) : ∀ (s : Store P) (lo m : Nat), s.WF → 2 ≤ s.size → m < s.size →
    lo ≤ m → s.size - m ≤ fuel → evn m = b → VPre (s.prD x0) s.size lo m →
    ∃ s', hLoop b fuel s m = .ok s' ∧ s'.WF ∧ s'.map = s.map ∧ s'.size = s.size ∧ VFrom (s'.prD x0) s.size lo ∧
      (∀ q, q ≠ m → ¬ Anc m q → s'.heap[q]? = s.heap[q]?) := by
  induction fuel with
  | zero => intro s lo m _ _ hm _ hf; omega
  | succ fuel ih =>
    intro s lo m h hn hmn hlo hf hb hpre
    by_cases hl : left m < s.size
    · obtain ⟨c, xc, xm, hcand, hcn, hprc, hprm, hsel0, hout⟩ := hLoop_step b fuel h hl
      have hvc : s.prD x0 c = xc := prD_of_pr hprc
      have hvm : s.prD x0 m = xm := prD_of_pr hprm
      have hsel : ∀ q, IsCand m q → q < s.size → Le (evn m) (s.prD x0 c) (s.prD x0 q) := by
        intro q hq hqn
        rw [hb, hvc]
        exact hsel0 q _ hq hqn (TWF.pr_eq_prD h x0 hqn)
      have hmc : m < c := hcand.gt
      have hcm : c ≠ m := by omega
      rcases hout with ⟨hnlt, k, hres⟩ | ⟨hlt, hle, s1, hres, h1wf, h1map, h1size, h1heap⟩ |
          ⟨hlt, hgt, xp, s2, hprp, hres, h2wf, h2map, h2size, hcase⟩
      · -- stop
        refine ⟨s.tick k, hres, tick_WF.mpr h, rfl, rfl, ?_, fun _ _ _ => rfl⟩
        rw [tick_prD]
        apply from_stop hpre hlo
        intro q hq hqn
        have := hsel q hq hqn
        rw [hvc] at this
        rw [hvm]
        exact (Le.of_not_lt (hb ▸ hnlt)).trans this
      · -- child
        have hv' := swap_prD x0 h1map h1heap
        have hc := hcand.child_of_le hle
        refine ⟨s1, hres, h1wf, h1map, h1size, ?_, ?_⟩
        · apply from_child (v := s.prD x0) (c := c) hpre hlo hc hcn hsel
          · rw [hb, hvc, hvm]; exact hlt
          · rw [hv', swapPos_right]
          · rw [hv', swapPos_left]
          · intro q h1 h2; rw [hv', swapPos_of_ne h2 h1]
        · intro q h1 h2
          have hamc : Anc m c := by rcases hc with rfl | rfl; exact Anc.of_left m; exact Anc.of_right m
          have h3 : q ≠ c := fun e => h2 (e ▸ hamc)
          rw [h1heap q, swapPos_of_ne h3 h1]
      · -- grandchild
        obtain ⟨hp, hcp⟩ := hcand.parent_of_gt hgt
        have hvp : s.prD x0 (parent c) = xp := prD_of_pr hprp
        have hamp : Anc m (parent c) := by
          rcases hp with e | e <;> rw [e]
          · exact Anc.of_left m
          · exact Anc.of_right m
        have hapc : Anc (parent c) c := Anc.parent (by omega)
        have hamc : Anc m c := hamp.trans hapc
        have hpm : parent c ≠ m := Ne.symm hamp.ne
        have hpc : parent c ≠ c := hapc.ne
        have hec : evn c = b := by
          rw [← hb]
          rcases hcp with e | e <;> rw [e] <;> rcases hp with e' | e' <;> rw [e'] <;> simp [evn_left, evn_right]
        have hpre2 : VPre (s2.prD x0) s2.size lo c := by
          rw [h2size]
          rcases hcase with ⟨hnlt2, h2heap⟩ | ⟨hlt2, h2heap⟩
          · have hv' := swap_prD x0 h2map h2heap
            apply pre_grand (v := s.prD x0) (p := parent c) hpre hlo hp hcp hcn hsel
            · rw [hb, hvc, hvm]; exact hlt
            · rw [hv', swapPos_right]
            · intro q h1 h2 h3; rw [hv', swapPos_of_ne h3 h1]
            · left
              refine ⟨?_, ?_, ?_⟩
              · rw [hv', swapPos_left]
              · rw [hv', swapPos_of_ne hpc hpm]
              · rw [hb, hvm, hvp]; exact Le.of_not_lt hnlt2
          · have hv' := swap2_prD x0 h2map h2heap
            apply pre_grand (v := s.prD x0) (p := parent c) hpre hlo hp hcp hcn hsel
            · rw [hb, hvc, hvm]; exact hlt
            · rw [hv', swapPos_of_ne (Ne.symm hcm) (Ne.symm hpm), swapPos_right]
            · intro q h1 h2 h3; rw [hv', swapPos_of_ne h3 h2, swapPos_of_ne h3 h1]
            · right
              refine ⟨?_, ?_, ?_⟩
              · rw [hv', swapPos_left, swapPos_of_ne hpc hpm]
              · rw [hv', swapPos_right, swapPos_left]
              · rw [hb, hvm, hvp]; exact hlt2.le
        obtain ⟨s', hrun, hwf', hmap', hsize', hfrom, hframe⟩ :=
          ih s2 lo c h2wf (by omega) (by omega) (by omega) (by omega) hec hpre2
        refine ⟨s', by rw [hres]; exact hrun, hwf', by rw [hmap', h2map], by rw [hsize', h2size],
          by rw [← h2size]; exact hfrom, ?_⟩
        intro q h1 h2
        have h3 : q ≠ c := fun e => h2 (e ▸ hamc)
        have h4 : q ≠ parent c := fun e => h2 (e ▸ hamp)
        have h5 : ¬ Anc c q := fun e => h2 (hamc.trans e)
        rw [hframe q h3 h5]
        rcases hcase with ⟨_, h2heap⟩ | ⟨_, h2heap⟩
        · rw [h2heap q, swapPos_of_ne h3 h1]
        · rw [h2heap q, swapPos_of_ne h3 h4, swapPos_of_ne h3 h1]
    · exact ⟨s, hLoop_leaf b fuel hn hl, h, rfl, rfl, from_leaf hpre (by omega), fun _ _ _ => rfl⟩

theorem rel_iff_vrel {s : Store P} {n a d : Nat} (h : s.TWF n) (x0 : P) (ha : a < n) (hd : d < n) :
    s.Rel a d ↔ VRel (s.prD x0) a d := by
  have ea := h.pr_eq_prD x0 ha
  have ed := h.pr_eq_prD x0 hd
  unfold Store.Rel VRel Le evn
  constructor
  · intro hr
    have := hr _ _ ea ed
    by_cases hl : level a % 2 = 0 <;> simp_all
  · intro hv x y hx hy
    rw [ea] at hx; rw [ed] at hy; cases hx; cases hy
    by_cases hl : level a % 2 = 0 <;> simp_all

theorem heapify_eq_hLoop {s : Store P} (i : Nat) (hn : 2 ≤ s.size) : heapify s i = hLoop (evn i) s.size s i := by
  have : ¬ s.size ≤ 1 := by omega
  unfold heapify hLoop evn
  by_cases hl : level i % 2 = 0 <;> simp [this, hl]

/-- `heapify` at a position outside the heap does nothing (used after removing the last element) -/
theorem heapify_noop {s : Store P} {i : Nat} (hi : s.size ≤ i) : heapify s i = .ok s := by
  by_cases hn : s.size ≤ 1
  · simp [heapify, hn, pure, Except.pure]
  · have hn2 : 2 ≤ s.size := by omega
    have hl : ¬ left i < s.size := by have := left_gt i; omega
    rw [heapify_eq_hLoop i hn2]
    obtain ⟨f, hf⟩ : ∃ f, s.size = f + 1 := ⟨s.size - 1, by omega⟩
    rw [hf]; rw [hf] at hn2 hl
    exact hLoop_leaf _ f (by omega) (by omega)

/-- **sift-down restores the order at and below `i`.**  If every ancestor/descendant pair (with ancestor `≥ lo`)
whose ancestor is not `i` is in min-max order, `heapify s i` runs without fault, keeps the tables well-formed, keeps
the map and the size, establishes the order for all pairs with ancestor `≥ lo`, and changes the heap table only at `i`
and below `i`. -/
theorem heapify_spec {s : Store P} {lo i : Nat} (h : s.WF) (hi : i < s.size) (hlo : lo ≤ i)
    (hpre : ∀ a d, Anc a d → d < s.size → lo ≤ a → a ≠ i → s.Rel a d) :
    ∃ s', heapify s i = .ok s' ∧ s'.WF ∧ s'.map = s.map ∧ s'.size = s.size ∧ s'.MinMaxFrom lo ∧
      (∀ p, p ≠ i → ¬ Anc i p → s'.heap[p]? = s.heap[p]?) := by
  by_cases hn : s.size ≤ 1
  · refine ⟨s, by simp [heapify, hn, pure, Except.pure], h, rfl, rfl, ?_, fun _ _ _ => rfl⟩
    intro a d had hd
    have := had.pos; omega
  · have hn2 : 2 ≤ s.size := by omega
    obtain ⟨x0, _⟩ := TWF.pr_some h hi
    have hvpre : VPre (s.prD x0) s.size lo i := by
      intro a d had hd hloa hai
      exact (rel_iff_vrel h x0 (Nat.lt_trans had.lt hd) hd).mp (hpre a d had hd hloa hai)
    obtain ⟨s', hrun, hwf', hmap', hsize', hfrom, hframe⟩ :=
      hLoop_spec (evn i) x0 s.size s lo i h hn2 hi hlo (by omega) rfl hvpre
    refine ⟨s', by rw [heapify_eq_hLoop i hn2]; exact hrun, hwf', hmap', hsize', ?_, hframe⟩
    intro a d had hd hloa
    rw [hsize'] at hd
    have hwf'' : s'.TWF s.size := by have := hwf'; unfold Store.WF at this; rwa [hsize'] at this
    exact (rel_iff_vrel hwf'' x0 (Nat.lt_trans had.lt hd) hd).mpr (hfrom a d had hd hloa)

/-- the loop never faults on a well-formed store, whatever the priorities are (no order hypothesis) -/
theorem hLoop_safe (b : Bool) (fuel : Nat) : ∀ (s : Store P) (m : Nat), s.WF → 2 ≤ s.size → m < s.size →
    s.size - m ≤ fuel →
    ∃ s', hLoop b fuel s m = .ok s' ∧ s'.WF ∧ s'.map = s.map ∧ s'.size = s.size ∧
      (∀ q, q ≠ m → ¬ Anc m q → s'.heap[q]? = s.heap[q]?) := by
  induction fuel with
  | zero => intro s m _ _ hm hf; omega
  | succ fuel ih =>
    intro s m h hn hmn hf
    by_cases hl : left m < s.size
    · obtain ⟨c, xc, xm, hcand, hcn, _, _, _, hout⟩ := hLoop_step b fuel h hl
      have hmc : m < c := hcand.gt
      rcases hout with ⟨_, k, hres⟩ | ⟨_, hle, s1, hres, h1wf, h1map, h1size, h1heap⟩ |
          ⟨_, hgt, xp, s2, _, hres, h2wf, h2map, h2size, hcase⟩
      · exact ⟨s.tick k, hres, tick_WF.mpr h, rfl, rfl, fun _ _ _ => rfl⟩
      · refine ⟨s1, hres, h1wf, h1map, h1size, ?_⟩
        intro q h1 h2
        have hc := hcand.child_of_le hle
        have hamc : Anc m c := by rcases hc with rfl | rfl; exact Anc.of_left m; exact Anc.of_right m
        have h3 : q ≠ c := fun e => h2 (e ▸ hamc)
        rw [h1heap q, swapPos_of_ne h3 h1]
      · obtain ⟨hp, hcp⟩ := hcand.parent_of_gt hgt
        have hamp : Anc m (parent c) := by
          rcases hp with e | e <;> rw [e]
          · exact Anc.of_left m
          · exact Anc.of_right m
        have hamc : Anc m c := hamp.trans (Anc.parent (by omega))
        obtain ⟨s', hrun, hwf', hmap', hsize', hframe⟩ := ih s2 c h2wf (by omega) (by omega) (by omega)
        refine ⟨s', by rw [hres]; exact hrun, hwf', by rw [hmap', h2map], by rw [hsize', h2size], ?_⟩
        intro q h1 h2
        have h3 : q ≠ c := fun e => h2 (e ▸ hamc)
        have h4 : q ≠ parent c := fun e => h2 (e ▸ hamp)
        have h5 : ¬ Anc c q := fun e => h2 (hamc.trans e)
        rw [hframe q h3 h5]
        rcases hcase with ⟨_, h2heap⟩ | ⟨_, h2heap⟩
        · rw [h2heap q, swapPos_of_ne h3 h1]
        · rw [h2heap q, swapPos_of_ne h3 h4, swapPos_of_ne h3 h1]
    · exact ⟨s, hLoop_leaf b fuel hn hl, h, rfl, rfl, fun _ _ _ => rfl⟩

/-- `heapify` never faults on a well-formed store (any position, any priorities), keeps the tables well-formed, the
map and the size, and touches the heap table only at `i` and below -/
theorem heapify_safe {s : Store P} (h : s.WF) (i : Nat) :
    ∃ s', heapify s i = .ok s' ∧ s'.WF ∧ s'.map = s.map ∧ s'.size = s.size ∧
      (∀ p, p ≠ i → ¬ Anc i p → s'.heap[p]? = s.heap[p]?) := by
  by_cases hi : s.size ≤ i
  · exact ⟨s, heapify_noop hi, h, rfl, rfl, fun _ _ _ => rfl⟩
  · by_cases hn : s.size ≤ 1
    · exact ⟨s, by simp [heapify, hn, pure, Except.pure], h, rfl, rfl, fun _ _ _ => rfl⟩
    · rw [heapify_eq_hLoop i (by omega)]
      exact hLoop_safe (evn i) s.size s i h (by omega) (by omega) (by omega)

theorem heapify_map {s s' : Store P} {i : Nat} (h : s.WF) (hr : heapify s i = .ok s') : s'.map = s.map := by
  obtain ⟨s'', h1, _, h2, _⟩ := heapify_safe h i
  rw [hr] at h1; cases h1; exact h2

theorem heapify_size {s s' : Store P} {i : Nat} (h : s.WF) (hr : heapify s i = .ok s') : s'.size = s.size := by
  obtain ⟨s'', h1, _, _, h2, _⟩ := heapify_safe h i
  rw [hr] at h1; cases h1; exact h2

theorem heapify_WF {s s' : Store P} {i : Nat} (h : s.WF) (hr : heapify s i = .ok s') : s'.WF := by
  obtain ⟨s'', h1, h2, _⟩ := heapify_safe h i
  rw [hr] at h1; cases h1; exact h2

end DQ
end PQ
