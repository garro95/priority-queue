import PQ.Lemmas.SrcEquivPanicPQ
set_option linter.unusedSimpArgs false
set_option linter.unusedSectionVars false
/-! # Unwinding tie: `DoublePriorityQueue` — `heapify_min` / `heapify_max`, `heapify`, `up_heapify`, `heap_build`,
`find_max` and the public operations against the fused twins `Crash.DQ.*F` -/
namespace PQ.SrcEquivF
open PQ PQ.Src PQ.SrcGen PQ.SrcF PQ.Crash PQ.SrcEquiv
variable {P : Type} [LT P] [DecidableLT P]

section
variable (fuse : Nat) (dropFuse : Bool) (plain : Stmt → St P → R (St P × Flow P)) (callf : CallF P)
  (recF : Stmt → St P → CF P (St P × Flow P)) (callfF : CallFF P) (byRef : FnId → Bool) (st : St P)
theorem esF_firstMinBy (v : Var) (siteP siteU : Nat) (cands : List NExpr) :
    execStepF fuse dropFuse plain callf recF callfF byRef (.firstMinBy v siteP siteU cands) st =
      (liftF (evalNs st cands) >>= fun cs => liftF (candList st.s siteP cs) >>= fun l =>
        match l with
        | [] => liftF (unwrapO (none : Option (Nat × P)) siteU >>= fun _ => pure (st, Flow.normal))
        | x :: xs => SrcF.minFoldF fuse st xs st.s x >>= fun r => pure ((st.setS r.1).setN v r.2.1, Flow.normal)) := rfl
theorem esF_lastMaxBy (v : Var) (siteP siteU : Nat) (cands : List NExpr) :
    execStepF fuse dropFuse plain callf recF callfF byRef (.lastMaxBy v siteP siteU cands) st =
      (liftF (evalNs st cands) >>= fun cs => liftF (candList st.s siteP cs) >>= fun l =>
        match l with
        | [] => liftF (unwrapO (none : Option (Nat × P)) siteU >>= fun _ => pure (st, Flow.normal))
        | x :: xs => SrcF.maxFoldF fuse st xs st.s x >>= fun r => pure ((st.setS r.1).setN v r.2.1, Flow.normal)) := rfl
theorem esF_lastMaxByPos (v : Var) (siteU : Nat) (cands : List NExpr) :
    execStepF fuse dropFuse plain callf recF callfF byRef (.lastMaxByPos v siteU cands) st =
      (liftF (evalNs st cands) >>= fun cs => liftF (keysByPrioAt callf st.s cs) >>= fun sl =>
        match sl.2 with
        | [] => liftF (unwrapO (none : Option (Nat × P)) siteU >>= fun _ => pure (st, Flow.normal))
        | x :: xs => SrcF.maxFoldF fuse st xs sl.1 x >>= fun r => pure ((st.setS r.1).setN v r.2.1, Flow.normal)) := rfl
end

/-- the folds of the fused interpreter are the folds of the crash model (no guard: the crash store is the store as it is) -/
theorem toCR_minFoldF_bind {β : Type} (proj : St P → β) (fuse : Nat) (st : St P) :
    ∀ (l : List (Nat × P)) (s : Store P) (acc : Nat × P) (k : Store P × (Nat × P) → CF P (St P × Flow P)),
    toCR fill0 proj (SrcF.minFoldF fuse st l s acc >>= k)
      = Crash.DQ.minFoldF fuse l s acc >>= fun r => toCR fill0 proj (k r) := by
  intro l
  induction l with
  | nil => intro s acc k; rfl
  | cons y ys ih =>
    intro s acc k
    rw [SrcF.minFoldF, Crash.DQ.minFoldF, bind_assoc, toCR_fill0_cmpAt_bind, bind_assoc, cmpF_bind]
    simp only [St.setS]
    by_cases hfz : s.ticks + 1 = fuse
    · simp only [hfz, ↓reduceIte]
    · simp only [hfz, ↓reduceIte]
      exact ih _ _ _

theorem toCR_maxFoldF_bind {β : Type} (proj : St P → β) (fuse : Nat) (st : St P) :
    ∀ (l : List (Nat × P)) (s : Store P) (acc : Nat × P) (k : Store P × (Nat × P) → CF P (St P × Flow P)),
    toCR fill0 proj (SrcF.maxFoldF fuse st l s acc >>= k)
      = Crash.DQ.maxFoldF fuse l s acc >>= fun r => toCR fill0 proj (k r) := by
  intro l
  induction l with
  | nil => intro s acc k; rfl
  | cons y ys ih =>
    intro s acc k
    rw [SrcF.maxFoldF, Crash.DQ.maxFoldF, bind_assoc, toCR_fill0_cmpAt_bind, bind_assoc, cmpF_bind]
    simp only [St.setS]
    by_cases hfz : s.ticks + 1 = fuse
    · simp only [hfz, ↓reduceIte]
    · simp only [hfz, ↓reduceIte]
      exact ih _ _ _

theorem frame0_maxFoldF_bind (fuse : Nat) (st : St P) :
    ∀ (l : List (Nat × P)) (s : Store P) (acc : Nat × P) (k : Store P × (Nat × P) → CF P (St P × Flow P)),
    frame0 (SrcF.maxFoldF fuse st l s acc >>= k)
      = Crash.DQ.maxFoldF fuse l s acc >>= fun r => frame0 (k r) := by
  intro l
  induction l with
  | nil => intro s acc k; rfl
  | cons y ys ih =>
    intro s acc k
    rw [SrcF.maxFoldF, Crash.DQ.maxFoldF, bind_assoc, frame0_cmpAt_bind, bind_assoc, cmpF_bind]
    simp only [St.setS]
    by_cases hfz : s.ticks + 1 = fuse
    · simp only [hfz, ↓reduceIte]
    · simp only [hfz, ↓reduceIte]
      exact ih _ _ _

/-- composition when the sub-computation ends `normal` or `brk` (a loop body) -/
theorem toCR_bindB_of {β γ : Type} (fill : St P → R (Store P)) (projB : St P → β) (proj : St P → γ)
    (x : CF P (St P × Flow P)) (y : CR P (β × Bool))
    (hxy : toCR fill projB x = (fun b => (b.1, if b.2 then Flow.normal else Flow.brk)) <$> y)
    (k : St P × Flow P → CF P (St P × Flow P)) (K : β × Bool → CR P (γ × Flow P))
    (hk1 : ∀ st', x = .ok (st', .normal) → toCR fill proj (k (st', .normal)) = K (projB st', true))
    (hk2 : ∀ st', x = .ok (st', .brk) → toCR fill proj (k (st', .brk)) = K (projB st', false)) :
    toCR fill proj (x >>= k) = y >>= K := by
  cases x with
  | ok r =>
    obtain ⟨st', fl⟩ := r
    cases y with
    | error e => simp [toCR, Functor.map, Except.map] at hxy
    | ok b =>
      obtain ⟨b1, b2⟩ := b
      simp only [toCR, Functor.map, Except.map, Except.ok.injEq, Prod.mk.injEq] at hxy
      obtain ⟨h1, h2⟩ := hxy
      subst h1
      cases b2 with
      | true => simp only [↓reduceIte] at h2; subst h2; exact hk1 st' rfl
      | false => simp only [Bool.false_eq_true, ↓reduceIte] at h2; subst h2; exact hk2 st' rfl
  | error e =>
    cases e with
    | fault f =>
      cases y with
      | ok b => simp [toCR, Functor.map, Except.map] at hxy
      | error ey =>
        simp only [toCR, Functor.map, Except.map, Except.error.injEq] at hxy
        subst hxy; rfl
    | panic stp =>
      simp only [toCR] at hxy
      show (match fill stp with
        | .ok s' => (.error (.crashed s') : CR P (γ × Flow P))
        | .error f => .error (.fault f)) = y >>= K
      cases hf : fill stp with
      | ok s' =>
        rw [hf] at hxy
        cases y with
        | ok b => simp [Functor.map, Except.map] at hxy
        | error ey =>
          simp only [Functor.map, Except.map, Except.error.injEq] at hxy
          subst hxy; rfl
      | error f =>
        rw [hf] at hxy
        cases y with
        | ok b => simp [Functor.map, Except.map] at hxy
        | error ey =>
          simp only [Functor.map, Except.map, Except.error.injEq] at hxy
          subst hxy; rfl

/-! ## `DoublePriorityQueue::heapify_min` / `heapify_max` -/

/-- one iteration of the loop of `heapify_min` / `heapify_max` in the crash model's terms: `byKey` selects among the
candidates, `sw` says which way the two comparisons go, `u` and `p` are the sites of the `unwrap` and of the parent -/
def dDownF (fuse : Nat) (byKey : Store P → List (Nat × P) → CR P (Store P × Option (Nat × P))) (sw : Bool) (u p : Nat)
    (s : Store P) (i : Nat) : CR P ((Store P × Nat) × Bool) := do
  let cs ← liftR (DQ.candidates s i)
  let (s, c) ← byKey s cs
  let c ← liftR (unwrapO c u)
  let c := c.1
  let pc ← liftR (s.prioAt c)
  let pm ← liftR (s.prioAt i)
  let (s, lt) ← cmpF fuse s (if sw then pm else pc) (if sw then pc else pm)
  if lt then do
    let s ← liftR (s.swap c i)
    if c > Arith.right i then do
      let q ← liftR (DQ.parentC c p)
      let pc ← liftR (s.prioAt c)
      let pp ← liftR (s.prioAt q)
      let (s, lt) ← cmpF fuse s (if sw then pc else pp) (if sw then pp else pc)
      let s ← if lt then liftR (s.swap c q) else pure s
      pure ((s, c), true)
    else pure ((s, c), false)
  else pure ((s, c), false)

abbrev dDownMinF (fuse : Nat) : Store P → Nat → CR P ((Store P × Nat) × Bool) :=
  dDownF fuse (Crash.DQ.minByKeyF fuse) false 304 305
abbrev dDownMaxF (fuse : Nat) : Store P → Nat → CR P ((Store P × Nat) × Bool) :=
  dDownF fuse (Crash.DQ.maxByKeyF fuse) true 308 309

/-- `L` is the fuel loop with condition `C` and iteration `D`: the shape of `heapifyMinLoopF` and of `heapifyMaxLoopF` -/
def IsDownLoop (C : Store P → Nat → R Bool) (D : Store P → Nat → CR P ((Store P × Nat) × Bool))
    (L : Nat → Store P → Nat → CR P (Store P)) : Prop :=
  (∀ s i, L 0 s i = .error (.fault .fuel)) ∧ ∀ f s i, L (f + 1) s i = liftR (C s i) >>= fun b => if b then
    D s i >>= fun r => if r.2 then L f r.1.1 r.1.2 else pure r.1.1 else pure s

section downLoop
variable {C : Store P → Nat → R Bool} {D : Store P → Nat → CR P ((Store P × Nat) × Bool)}
  {L : Nat → Store P → Nat → CR P (Store P)}

/-- the `while` of `heapify_min` / `heapify_max`, from its condition and its body -/
theorem dqHeapify_loopF (fuse : Nat) {cnd : BExpr} {body : Stmt} (hL : IsDownLoop C D L)
    (hcond : ∀ (callf : CallF P) (st : St P),
      evalBF fuse callf st cnd = liftF ((fun b => (st.s, b)) <$> C st.s (st.n 0)))
    (hbody : ∀ g (recF : Stmt → St P → CF P (St P × Flow P)) (byRef : FnId → Bool) (st : St P),
      toCR fill0 proj0 (execStepF fuse false (exec prog (g + 2)) (callWith (exec prog (g + 1)) prog) recF
          (callWithF (execF prog unwind fuse false (g + 1)) (exec prog (g + 1)) prog unwind) byRef body st)
        = (fun b => (b.1, if b.2 then Flow.normal else Flow.brk)) <$> D st.s (st.n 0)) (f : Nat) :
    ∀ (k : Nat) (st : St P), f ≤ k → NoFuelC (L f st.s (st.n 0)) →
    toCR fill0 (fun st' => st'.s) (execF prog unwind fuse false (k + 2) (.while cnd body) st)
      = (fun s' => (s', Flow.normal)) <$> L f st.s (st.n 0) := by
  induction f with
  | zero => intro k st _ hne; exact absurd (hL.1 _ _) hne
  | succ f ih =>
    intro k st hk hne
    obtain ⟨k, rfl⟩ : ∃ k', k = k' + 1 := ⟨k - 1, by omega⟩
    rw [execF, esF_while, hcond, hL.2] at *
    cases hcnd : C st.s (st.n 0) with
    | error e => rfl
    | ok b =>
      cases b with
      | false => rfl
      | true =>
        rw [hcnd] at hne
        simp only [map_eq_pure_bind, ok_bind, pure_bind, ↓reduceIte, liftF_ok, okF_bind, liftR_ok, okC_bind, St.setS] at hne ⊢
        have hb := hbody (k + 1) (execF prog unwind fuse false (k + 1 + 1)) (fun f => (unwind f).2) st
        rw [bind_assoc]
        refine toCR_bindB_of fill0 proj0 _ _ _ hb _ _ ?_ ?_
        · intro st2 hx
          simp only [pure_bind, ↓reduceIte]
          refine ih k st2 (by omega) ?_
          rw [hx] at hb
          cases hy : D st.s (st.n 0) with
          | error e => rw [hy] at hb; cases hb
          | ok b =>
            rw [hy] at hb hne
            obtain ⟨b1, b2⟩ := b
            simp only [toCR, Functor.map, Except.map, Except.ok.injEq, Prod.mk.injEq] at hb
            obtain ⟨h1, h2⟩ := hb
            cases b2 with
            | false => simp at h2
            | true =>
              subst h1
              simpa only [NoFuelC, okC_bind, proj0, ↓reduceIte] using hne
        · intro st2 hx
          simp only [pure_bind, Bool.false_eq_true, ↓reduceIte]
          rfl


theorem downLoop_noFuel (hL : IsDownLoop C D L) (hCn : ∀ s i, NoFuel (C s i))
    (hCp : ∀ s i, Post (C s i) (fun b => b = true → i + 1 < s.size)) (hDn : ∀ s i, NoFuelC (D s i))
    (hDp : ∀ s i, PostC (D s i) (fun r => r.1.1.size = s.size ∧ (r.2 = true → r.1.2 > i))) (f : Nat) :
    ∀ (s : Store P) (i : Nat), 1 ≤ f → s.size ≤ f + i → NoFuelC (L f s i) := by
  induction f with
  | zero => intro s i h; omega
  | succ f ih =>
    intro s i _ hsz
    rw [hL.2]
    refine NoFuelC.bind (NoFuelC.liftR (hCn s i)) fun b hb => NoFuelC.ite (fun hbt => ?_) (fun _ => NoFuelC.pure _)
    have hlt := hCp s i b (by cases hx : C s i <;> simp_all [liftR]) hbt
    refine NoFuelC.bind (hDn s i) fun r hr => NoFuelC.ite (fun hr2 => ?_) (fun _ => NoFuelC.pure _)
    have hp := hDp s i r hr
    refine ih _ _ (by omega) ?_
    have := hp.2 hr2
    omega

theorem downLoop_post (hL : IsDownLoop C D L) (Q : Store P → Store P → Prop) (hQ : ∀ s, Q s s)
    (hQt : ∀ s s1 s2, Q s s1 → Q s1 s2 → Q s s2) (hD : ∀ s i, PostC (D s i) (fun r => Q s r.1.1)) (f : Nat) :
    ∀ (s : Store P) (i : Nat), PostC (L f s i) (Q s) := by
  induction f with
  | zero => intro s i r hr; rw [hL.1] at hr; cases hr
  | succ f ih =>
    intro s i
    rw [hL.2]
    refine PostC.bind (PostC.triv _) fun b _ => PostC.ite (fun _ => ?_) (fun _ => PostC.pure (hQ s))
    refine PostC.bind (hD s i) fun r hr => PostC.ite (fun _ => ?_) (fun _ => PostC.pure hr)
    intro s' hs'
    exact hQt _ _ _ hr (ih _ _ s' hs')
end downLoop

/-- `M` folds with one fused comparison per element and `K` is its `…_by_key`: the shape of `minFoldF` / `minByKeyF` and of
`maxFoldF` / `maxByKeyF` -/
def IsFoldF (fuse : Nat) (M : List (Nat × P) → Store P → Nat × P → CR P (Store P × (Nat × P)))
    (K : Store P → List (Nat × P) → CR P (Store P × Option (Nat × P))) : Prop :=
  (∀ s acc, M [] s acc = pure (s, acc)) ∧
  (∃ sel : Bool → Nat × P → Nat × P → Nat × P, ∀ y ys s acc,
    M (y :: ys) s acc = cmpF fuse s y.2 acc.2 >>= fun r => M ys r.1 (sel r.2 y acc)) ∧
  (∀ s, K s [] = pure (s, none)) ∧ ∀ s x xs, K s (x :: xs) = M xs s x >>= fun r => pure (r.1, some r.2)

theorem minFoldF_isFoldF (fuse : Nat) : IsFoldF (P := P) fuse (Crash.DQ.minFoldF fuse) (Crash.DQ.minByKeyF fuse) :=
  ⟨fun _ _ => rfl, ⟨fun lt y acc => if lt then y else acc, fun _ _ _ _ => rfl⟩, fun _ => rfl, fun _ _ _ => rfl⟩
theorem maxFoldF_isFoldF (fuse : Nat) : IsFoldF (P := P) fuse (Crash.DQ.maxFoldF fuse) (Crash.DQ.maxByKeyF fuse) :=
  ⟨fun _ _ => rfl, ⟨fun lt y acc => if lt then acc else y, fun _ _ _ _ => rfl⟩, fun _ => rfl, fun _ _ _ => rfl⟩

section folds
variable {fuse : Nat} {M : List (Nat × P) → Store P → Nat × P → CR P (Store P × (Nat × P))}
  {K : Store P → List (Nat × P) → CR P (Store P × Option (Nat × P))}

theorem byKeyF_noFuel (h : IsFoldF fuse M K) (s : Store P) (l : List (Nat × P)) : NoFuelC (K s l) := by
  obtain ⟨h0, ⟨sel, hc⟩, hk0, hkc⟩ := h
  have hfold : ∀ (l : List (Nat × P)) (s : Store P) (acc : Nat × P), NoFuelC (M l s acc) := by
    intro l
    induction l with
    | nil => intro s acc; rw [h0]; exact NoFuelC.pure _
    | cons y ys ih => intro s acc; rw [hc]; exact NoFuelC.cmpF_bind (ih _ _)
  cases l with
  | nil => rw [hk0]; exact NoFuelC.pure _
  | cons x xs => rw [hkc]; exact NoFuelC.bind (hfold xs s x) fun r hr => NoFuelC.pure _

theorem byKeyF_post (h : IsFoldF fuse M K) (Q : Store P → Store P → Prop) (hQ : ∀ s, Q s s)
    (hQt : ∀ s s1, Q s s1 → Q s s1.tick) (s : Store P) (l : List (Nat × P)) : PostC (K s l) (fun r => Q s r.1) := by
  obtain ⟨h0, ⟨sel, hc⟩, hk0, hkc⟩ := h
  have hfold : ∀ (l : List (Nat × P)) (s1 : Store P) (acc : Nat × P), Q s s1 → PostC (M l s1 acc) (fun r => Q s r.1) := by
    intro l
    induction l with
    | nil => intro s1 acc h1; rw [h0]; exact PostC.pure h1
    | cons y ys ih => intro s1 acc h1; rw [hc]; exact PostC.cmpF_bind (ih _ _ (hQt _ _ h1))
  cases l with
  | nil => rw [hk0]; exact PostC.pure (hQ s)
  | cons x xs => rw [hkc]; exact PostC.bind (hfold xs s x (hQ s)) fun r hr => PostC.pure hr
end folds

theorem minByKeyF_post (fuse : Nat) (s : Store P) (l : List (Nat × P)) :
    PostC (Crash.DQ.minByKeyF fuse s l) (fun r => r.1.size = s.size) :=
  byKeyF_post (minFoldF_isFoldF fuse) (fun s s' => s'.size = s.size) (fun _ => rfl) (fun _ _ h => h) s l
theorem maxByKeyF_post (fuse : Nat) (s : Store P) (l : List (Nat × P)) :
    PostC (Crash.DQ.maxByKeyF fuse s l) (fun r => r.1.size = s.size) :=
  byKeyF_post (maxFoldF_isFoldF fuse) (fun s s' => s'.size = s.size) (fun _ => rfl) (fun _ _ h => h) s l
theorem minByKeyF_noFuel (fuse : Nat) (s : Store P) (l : List (Nat × P)) : NoFuelC (Crash.DQ.minByKeyF fuse s l) :=
  byKeyF_noFuel (minFoldF_isFoldF fuse) s l
theorem maxByKeyF_noFuel (fuse : Nat) (s : Store P) (l : List (Nat × P)) : NoFuelC (Crash.DQ.maxByKeyF fuse s l) :=
  byKeyF_noFuel (maxFoldF_isFoldF fuse) s l

section dDown
variable {byKey : Store P → List (Nat × P) → CR P (Store P × Option (Nat × P))}

theorem dDownF_noFuel (fuse : Nat) (sw : Bool) (u p : Nat) (hk : ∀ s l, NoFuelC (byKey s l)) (s : Store P) (i : Nat) :
    NoFuelC (dDownF fuse byKey sw u p s i) := by
  unfold dDownF DQ.candidates
  refine NoFuelC.bind (NoFuelC.liftR (candidates_go_noFuel _ _)) fun cs _ => ?_
  refine NoFuelC.bind (hk _ _) fun r _ => ?_
  refine NoFuelC.bind (NoFuelC.liftR (NoFuel.unwrapO _ _)) fun c _ => ?_
  refine NoFuelC.bind (NoFuelC.liftR (NoFuel.prioAt _ _)) fun _ _ => ?_
  refine NoFuelC.bind (NoFuelC.liftR (NoFuel.prioAt _ _)) fun _ _ => NoFuelC.cmpF_bind ?_
  refine NoFuelC.ite (fun _ => ?_) (fun _ => NoFuelC.pure _)
  refine NoFuelC.bind (NoFuelC.liftR (NoFuel.swap _ _ _)) fun _ _ => NoFuelC.ite (fun _ => ?_) (fun _ => NoFuelC.pure _)
  refine NoFuelC.bind (NoFuelC.liftR (NoFuel.parentC _ _)) fun _ _ => ?_
  refine NoFuelC.bind (NoFuelC.liftR (NoFuel.prioAt _ _)) fun _ _ => ?_
  refine NoFuelC.bind (NoFuelC.liftR (NoFuel.prioAt _ _)) fun _ _ => NoFuelC.cmpF_bind ?_
  dsimp only
  exact NoFuelC.ite (fun _ => NoFuelC.bind (NoFuelC.liftR (NoFuel.swap _ _ _)) fun _ _ => NoFuelC.pure _)
    (fun _ => NoFuelC.bind (NoFuelC.pure _) fun _ _ => NoFuelC.pure _)

theorem dDownF_post (fuse : Nat) (sw : Bool) (u p : Nat) (hk : ∀ s l, PostC (byKey s l) (fun r => r.1.size = s.size))
    (s : Store P) (i : Nat) :
    PostC (dDownF fuse byKey sw u p s i) (fun r => r.1.1.size = s.size ∧ (r.2 = true → r.1.2 > i)) := by
  unfold dDownF
  refine PostC.bind (PostC.triv _) fun cs _ => PostC.bind (hk s cs) fun r hr => ?_
  refine PostC.bind (PostC.triv _) fun c _ => PostC.bind (PostC.triv _) fun pc _ =>
    PostC.bind (PostC.triv _) fun pm _ => PostC.cmpF_bind ?_
  refine PostC.ite (fun _ => ?_) (fun _ => PostC.pure ⟨by simpa using hr, by simp⟩)
  refine PostC.bind (PostC.liftR (swap_post _ _ _)) fun s1 h1 => PostC.ite (fun hgt => ?_)
    (fun _ => PostC.pure ⟨by simp only [size_tick] at h1; rw [h1, hr], by simp⟩)
  refine PostC.bind (PostC.triv _) fun p _ => PostC.bind (PostC.triv _) fun _ _ => PostC.bind (PostC.triv _) fun _ _ =>
    PostC.cmpF_bind ?_
  have hgt' : c.1 > i := by simp only [Arith.right] at hgt; omega
  simp only [size_tick] at h1
  dsimp only
  refine PostC.ite (fun _ => PostC.bind (PostC.liftR (swap_post _ _ _)) fun s2 h2 => PostC.pure ⟨?_, fun _ => hgt'⟩)
    (fun _ => PostC.bind (PostC.pure (Q := fun (s2 : Store P) => s2.size = s.size) ?_) fun s2 h2 =>
      PostC.pure ⟨h2, fun _ => hgt'⟩)
  · simp only [size_tick] at h2
    rw [h2, h1, hr]
  · simp only [size_tick]; rw [h1, hr]
end dDown

theorem heapifyMinLoopF_isDownLoop (fuse : Nat) :
    IsDownLoop (P := P) dCondMin (dDownMinF fuse) (Crash.DQ.heapifyMinLoopF fuse) := by
  refine ⟨fun _ _ => rfl, fun f s i => ?_⟩
  simp only [Crash.DQ.heapifyMinLoopF, dCondMin, dDownF, Bool.false_eq_true, ↓reduceIte, bind_assoc, pure_bind, decide_eq_true_eq, liftR_bind, liftR_pure,
    iteC_bind]
  repeat' first
    | rfl
    | (refine bindC_congr_ok fun _ _ => ?_)
    | split
    | (simp only [bind_assoc, pure_bind, iteC_bind, ↓reduceIte, Bool.false_eq_true]; done)
    | (simp_all; done)

theorem heapifyMaxLoopF_isDownLoop (fuse : Nat) :
    IsDownLoop (P := P) dCondMax (dDownMaxF fuse) (Crash.DQ.heapifyMaxLoopF fuse) := by
  refine ⟨fun _ _ => rfl, fun f s i => ?_⟩
  simp only [Crash.DQ.heapifyMaxLoopF, dCondMax, dDownF, Bool.false_eq_true, ↓reduceIte, bind_assoc, pure_bind, decide_eq_true_eq, liftR_bind, liftR_pure,
    iteC_bind]
  repeat' first
    | rfl
    | (refine bindC_congr_ok fun _ _ => ?_)
    | split
    | (simp only [bind_assoc, pure_bind, iteC_bind, ↓reduceIte, Bool.false_eq_true]; done)
    | (simp_all; done)

theorem dqHeapifyMin_loop_bodyF (fuse g : Nat) (recF : Stmt → St P → CF P (St P × Flow P)) (byRef : FnId → Bool) (st : St P) :
    toCR fill0 proj0 (execStepF fuse false (exec prog (g + 2)) (callWith (exec prog (g + 1)) prog) recF
        (callWithF (execF prog unwind fuse false (g + 1)) (exec prog (g + 1)) prog unwind) byRef dqHeapifyMin_loop1_body st)
      = (fun b => (b.1, if b.2 then Flow.normal else Flow.brk)) <$> dDownMinF fuse st.s (st.n 0) := by
  rw [dqHeapifyMin_loop1_body]
  srcF_eval [esF_firstMinBy, call_storePrioAt, candList_eq]
  rw [toCR_liftF_bind]
  simp only [dDownF, DQ.candidates, bind_assoc, map_eq_pure_bind]
  refine liftR_bind_congr_ok fun l hl => ?_
  cases l with
  | nil =>
    simp only [Crash.DQ.minByKeyF, bind_assoc, pure_bind]
    simp only [unwrapO]
    simp only [toCR_liftF_bind, liftR_error, errorC_bind]
  | cons x xs =>
    simp only [Crash.DQ.minByKeyF, bind_assoc, pure_bind, toCR_minFoldF_bind]
    refine bindC_congr_ok fun r hr => ?_
    srcF_eval [call_storePrioAt]
    simp only [toCR_fill0_fromCall_bind, callF_storeSwap, toCR_liftF_bind, toCR_fill0_cmpAt_bind, toCR_ite, toCR_pure,
      toCR_error_fault, cmpF_bind, liftR_bind, liftR_pure, liftR_ok, liftR_error, liftR_ite, map_eq_pure_bind, bind_assoc,
      pure_bind, iteC_bind, errorC_bind, okC_bind, upd, ↓reduceIte, Nat.reduceEqDiff, decide_eq_true_eq, Bool.false_eq_true,
      unwrapO_some, DQ.parentC, proj0]

theorem dqHeapifyMax_loop_bodyF (fuse g : Nat) (recF : Stmt → St P → CF P (St P × Flow P)) (byRef : FnId → Bool) (st : St P) :
    toCR fill0 proj0 (execStepF fuse false (exec prog (g + 2)) (callWith (exec prog (g + 1)) prog) recF
        (callWithF (execF prog unwind fuse false (g + 1)) (exec prog (g + 1)) prog unwind) byRef dqHeapifyMax_loop1_body st)
      = (fun b => (b.1, if b.2 then Flow.normal else Flow.brk)) <$> dDownMaxF fuse st.s (st.n 0) := by
  rw [dqHeapifyMax_loop1_body]
  srcF_eval [esF_lastMaxBy, call_storePrioAt, candList_eq]
  rw [toCR_liftF_bind]
  simp only [dDownF, DQ.candidates, bind_assoc, map_eq_pure_bind]
  refine liftR_bind_congr_ok fun l hl => ?_
  cases l with
  | nil =>
    simp only [Crash.DQ.maxByKeyF, bind_assoc, pure_bind]
    simp only [unwrapO]
    simp only [toCR_liftF_bind, liftR_error, errorC_bind]
  | cons x xs =>
    simp only [Crash.DQ.maxByKeyF, bind_assoc, pure_bind, toCR_maxFoldF_bind]
    refine bindC_congr_ok fun r hr => ?_
    srcF_eval [call_storePrioAt]
    simp only [toCR_fill0_fromCall_bind, callF_storeSwap, toCR_liftF_bind, toCR_fill0_cmpAt_bind, toCR_ite, toCR_pure,
      toCR_error_fault, cmpF_bind, liftR_bind, liftR_pure, liftR_ok, liftR_error, liftR_ite, map_eq_pure_bind, bind_assoc,
      pure_bind, iteC_bind, errorC_bind, okC_bind, upd, ↓reduceIte, Nat.reduceEqDiff, decide_eq_true_eq, Bool.false_eq_true,
      unwrapO_some, DQ.parentC, proj0]

theorem dqHeapifyMin_loop_condF (fuse : Nat) (callf : CallF P) (st : St P) :
    evalBF fuse callf st dqHeapifyMin_loop1_cond = liftF ((fun b => (st.s, b)) <$> dCondMin st.s (st.n 0)) := by
  rw [← dqHeapifyMin_loop_cond callf st]
  exact evalBF_noCmp fuse callf _ st (by decide)

theorem dqHeapifyMax_loop_condF (fuse : Nat) (callf : CallF P) (st : St P) :
    evalBF fuse callf st dqHeapifyMax_loop1_cond = liftF ((fun b => (st.s, b)) <$> dCondMax st.s (st.n 0)) := by
  rw [← dqHeapifyMax_loop_cond callf st]
  exact evalBF_noCmp fuse callf _ st (by decide)

theorem heapifyMinLoopF_noFuel (fuse : Nat) (f : Nat) (s : Store P) (i : Nat) (h1 : 1 ≤ f) (h2 : s.size ≤ f + i) :
    NoFuelC (Crash.DQ.heapifyMinLoopF fuse f s i) :=
  downLoop_noFuel (heapifyMinLoopF_isDownLoop fuse) dCondMin_noFuel dCondMin_post
    (dDownF_noFuel fuse _ _ _ (minByKeyF_noFuel fuse)) (dDownF_post fuse _ _ _ (minByKeyF_post fuse)) f s i h1 h2

/-- `DoublePriorityQueue::heapify_min` under a panicking comparison = the loop `Crash.DQ.heapifyMinLoopF` -/
theorem dqHeapifyMinF (fuse : Nat) (s : Store P) (i : Nat) (fuel : Nat) (hs : 1 ≤ s.size) (h : fuel ≥ s.size + 2) :
    runF prog unwind fuse false fuel .dqHeapifyMin s [i]
      = (fun s' => (s', Val.unit)) <$> Crash.DQ.heapifyMinLoopF fuse s.size s i := by
  obtain ⟨k, rfl⟩ := exists_eq_add 2 h (by decide)
  rw [runF_frame0 prog unwind fuse false (k + 1) .dqHeapifyMin _ s _ _ _ rfl rfl]
  refine frame0_of_toCR _ _ ?_
  exact dqHeapify_loopF fuse (heapifyMinLoopF_isDownLoop fuse) (dqHeapifyMin_loop_condF fuse)
    (dqHeapifyMin_loop_bodyF fuse) s.size k _ (by omega) (heapifyMinLoopF_noFuel fuse s.size s i hs (by omega))

theorem heapifyMaxLoopF_noFuel (fuse : Nat) (f : Nat) (s : Store P) (i : Nat) (h1 : 1 ≤ f) (h2 : s.size ≤ f + i) :
    NoFuelC (Crash.DQ.heapifyMaxLoopF fuse f s i) :=
  downLoop_noFuel (heapifyMaxLoopF_isDownLoop fuse) dCondMax_noFuel dCondMax_post
    (dDownF_noFuel fuse _ _ _ (maxByKeyF_noFuel fuse)) (dDownF_post fuse _ _ _ (maxByKeyF_post fuse)) f s i h1 h2

/-- `DoublePriorityQueue::heapify_max` under a panicking comparison = the loop `Crash.DQ.heapifyMaxLoopF` -/
theorem dqHeapifyMaxF (fuse : Nat) (s : Store P) (i : Nat) (fuel : Nat) (hs : 1 ≤ s.size) (h : fuel ≥ s.size + 2) :
    runF prog unwind fuse false fuel .dqHeapifyMax s [i]
      = (fun s' => (s', Val.unit)) <$> Crash.DQ.heapifyMaxLoopF fuse s.size s i := by
  obtain ⟨k, rfl⟩ := exists_eq_add 2 h (by decide)
  rw [runF_frame0 prog unwind fuse false (k + 1) .dqHeapifyMax _ s _ _ _ rfl rfl]
  refine frame0_of_toCR _ _ ?_
  exact dqHeapify_loopF fuse (heapifyMaxLoopF_isDownLoop fuse) (dqHeapifyMax_loop_condF fuse)
    (dqHeapifyMax_loop_bodyF fuse) s.size k _ (by omega) (heapifyMaxLoopF_noFuel fuse s.size s i hs (by omega))

/-! ## `heapify`, `up_heapify`, `heap_build`, `find_max` -/

theorem call_dqHeapifyMinF (fuse : Nat) (s : Store P) (i n : Nat) (hs : 1 ≤ s.size) (h : n ≥ s.size + 2) :
    toCRcall (callWithF (execF prog unwind fuse false n) (exec prog n) prog unwind .dqHeapifyMin s [i] [] [])
      = (fun s' => (s', Val.unit)) <$> Crash.DQ.heapifyMinLoopF fuse s.size s i := by
  rw [← runF_eq]; exact dqHeapifyMinF fuse s i n hs h

theorem call_dqHeapifyMaxF (fuse : Nat) (s : Store P) (i n : Nat) (hs : 1 ≤ s.size) (h : n ≥ s.size + 2) :
    toCRcall (callWithF (execF prog unwind fuse false n) (exec prog n) prog unwind .dqHeapifyMax s [i] [] [])
      = (fun s' => (s', Val.unit)) <$> Crash.DQ.heapifyMaxLoopF fuse s.size s i := by
  rw [← runF_eq]; exact dqHeapifyMaxF fuse s i n hs h

/-- `DoublePriorityQueue::heapify` under a panicking comparison = `Crash.DQ.heapifyF` -/
theorem dqHeapifyF (fuse : Nat) (s : Store P) (i : Nat) (fuel : Nat) (h : fuel ≥ s.size + 3) :
    runF prog unwind fuse false fuel .dqHeapify s [i] = (fun s' => (s', Val.unit)) <$> Crash.DQ.heapifyF fuse s i := by
  obtain ⟨k, rfl⟩ := exists_eq_add 1 h (by decide)
  rw [runF_frame0 prog unwind fuse false k .dqHeapify _ s _ _ _ rfl rfl]
  unfold Crash.DQ.heapifyF
  rw [execF, dqHeapify_body]
  by_cases hsz : s.size ≤ 1
  · srcF_eval [hsz]
    rfl
  · srcF_eval [hsz]
    srcF_cr [call_dqHeapifyMinF fuse s i k (by omega) (by omega), call_dqHeapifyMaxF fuse s i k (by omega) (by omega), hsz]

theorem call_dqHeapifyF (fuse : Nat) (s : Store P) (i n : Nat) (h : n ≥ s.size + 3) :
    toCRcall (callWithF (execF prog unwind fuse false n) (exec prog n) prog unwind .dqHeapify s [i] [] [])
      = (fun s' => (s', Val.unit)) <$> Crash.DQ.heapifyF fuse s i := by
  rw [← runF_eq]; exact dqHeapifyF fuse s i n h

theorem call_dqBubbleUpF (fuse : Nat) (s : Store P) (pos mp n : Nat) (h : n ≥ pos + 3) :
    toCRcall (callWithF (execF prog unwind fuse false n) (exec prog n) prog unwind .dqBubbleUp s [pos, mp] [] [])
      = (fun r => (r.1, Val.nat r.2)) <$> Crash.DQ.bubbleUpF fuse s pos mp := by
  rw [← runF_eq]; exact dqBubbleUpF fuse s pos mp n h

theorem dq_heapifyMinLoopF_post_size (fuse : Nat) (f : Nat) (s : Store P) (i : Nat) :
    PostC (Crash.DQ.heapifyMinLoopF fuse f s i) (fun s' => s'.size = s.size) :=
  downLoop_post (heapifyMinLoopF_isDownLoop fuse) (fun s s' => s'.size = s.size) (fun _ => rfl)
    (fun _ _ _ h1 h2 => h2.trans h1) (fun s i r hr => (dDownF_post fuse _ _ _ (minByKeyF_post fuse) s i r hr).1) f s i

theorem dq_heapifyMaxLoopF_post_size (fuse : Nat) (f : Nat) (s : Store P) (i : Nat) :
    PostC (Crash.DQ.heapifyMaxLoopF fuse f s i) (fun s' => s'.size = s.size) :=
  downLoop_post (heapifyMaxLoopF_isDownLoop fuse) (fun s s' => s'.size = s.size) (fun _ => rfl)
    (fun _ _ _ h1 h2 => h2.trans h1) (fun s i r hr => (dDownF_post fuse _ _ _ (maxByKeyF_post fuse) s i r hr).1) f s i

theorem dq_heapifyF_post_size (fuse : Nat) (s : Store P) (i : Nat) :
    PostC (Crash.DQ.heapifyF fuse s i) (fun s' => s'.size = s.size) := by
  unfold Crash.DQ.heapifyF
  exact PostC.ite (fun _ => PostC.pure rfl) fun _ =>
    PostC.ite (fun _ => dq_heapifyMinLoopF_post_size _ _ _ _) (fun _ => dq_heapifyMaxLoopF_post_size _ _ _ _)

theorem bubbleUpMinLoopF_post_size (fuse mp : Nat) (f : Nat) : ∀ (s : Store P) (pos : Nat) (prio : P),
    PostC (Crash.DQ.bubbleUpMinLoopF fuse mp f s pos prio) (fun r => r.1.size = s.size) := by
  induction f with
  | zero => intro s pos prio r hr; cases hr
  | succ f ih =>
    intro s pos prio
    rw [Crash.DQ.bubbleUpMinLoopF]
    refine PostC.ite (fun _ => ?_) (fun _ => PostC.pure rfl)
    refine PostC.bind (PostC.triv _) fun pp _ => PostC.cmpHoleF_bind ?_
    refine PostC.ite (fun _ => ?_) (fun _ => PostC.pure rfl)
    refine PostC.bind (PostC.triv _) fun _ _ => PostC.bind (PostC.triv _) fun _ _ => PostC.bind (PostC.triv _) fun _ _ => ?_
    intro r hr
    rw [ih _ _ _ r hr]; rfl

theorem bubbleUpMaxLoopF_post_size (fuse mp : Nat) (f : Nat) : ∀ (s : Store P) (pos : Nat) (prio : P),
    PostC (Crash.DQ.bubbleUpMaxLoopF fuse mp f s pos prio) (fun r => r.1.size = s.size) := by
  induction f with
  | zero => intro s pos prio r hr; cases hr
  | succ f ih =>
    intro s pos prio
    rw [Crash.DQ.bubbleUpMaxLoopF]
    refine PostC.ite (fun _ => ?_) (fun _ => PostC.pure rfl)
    refine PostC.bind (PostC.triv _) fun pp _ => PostC.cmpHoleF_bind ?_
    refine PostC.ite (fun _ => ?_) (fun _ => PostC.pure rfl)
    refine PostC.bind (PostC.triv _) fun _ _ => PostC.bind (PostC.triv _) fun _ _ => PostC.bind (PostC.triv _) fun _ _ => ?_
    intro r hr
    rw [ih _ _ _ r hr]; rfl

theorem bubbleUpMinF_post_size (fuse : Nat) (s : Store P) (pos mp : Nat) :
    PostC (Crash.DQ.bubbleUpMinF fuse s pos mp) (fun r => r.1.size = s.size) := by
  unfold Crash.DQ.bubbleUpMinF
  exact PostC.bind (PostC.triv _) fun e _ => bubbleUpMinLoopF_post_size _ _ _ _ _ _

theorem bubbleUpMaxF_post_size (fuse : Nat) (s : Store P) (pos mp : Nat) :
    PostC (Crash.DQ.bubbleUpMaxF fuse s pos mp) (fun r => r.1.size = s.size) := by
  unfold Crash.DQ.bubbleUpMaxF
  exact PostC.bind (PostC.triv _) fun e _ => bubbleUpMaxLoopF_post_size _ _ _ _ _ _

theorem dq_bubbleUpF_post_size (fuse : Nat) (s : Store P) (pos mp : Nat) :
    PostC (Crash.DQ.bubbleUpF fuse s pos mp) (fun r => r.1.size = s.size) := by
  unfold Crash.DQ.bubbleUpF
  refine PostC.bind (PostC.triv _) fun e _ => ?_
  dsimp only
  have tail : ∀ (x : Store P × Nat), x.1.size = s.size →
      PostC (do
        let heap ← liftR (setU x.1.heap x.2 mp 316)
        let qp ← liftR (setU x.1.qp mp x.2 317)
        pure (({ x.1 with heap := heap, qp := qp } : Store P), x.2) : CR P (Store P × Nat))
        (fun r => r.1.size = s.size) :=
    fun x hx => PostC.bind (PostC.triv _) fun _ _ => PostC.bind (PostC.triv _) fun _ _ => PostC.pure hx
  refine PostC.ite (fun _ => ?_)
    (fun _ => PostC.bind (PostC.pure (Q := fun (x : Store P × Nat) => x.1.size = s.size) rfl) fun x hx => tail x hx)
  refine PostC.bind (PostC.triv _) fun pp _ => PostC.bind (PostC.triv _) fun pi _ => PostC.cmpHoleF_bind ?_
  dsimp only
  split
  · exact PostC.bind (PostC.triv _) fun _ _ => PostC.bind (PostC.triv _) fun _ _ =>
      PostC.bind (bubbleUpMaxF_post_size _ _ _ _) fun x hx => tail x (by simpa using hx)
  · exact PostC.bind (bubbleUpMinF_post_size _ _ _ _) fun x hx => tail x (by simpa using hx)
  · exact PostC.bind (bubbleUpMaxF_post_size _ _ _ _) fun x hx => tail x (by simpa using hx)
  · exact PostC.bind (PostC.triv _) fun _ _ => PostC.bind (PostC.triv _) fun _ _ =>
      PostC.bind (bubbleUpMinF_post_size _ _ _ _) fun x hx => tail x (by simpa using hx)

/-- `DoublePriorityQueue::up_heapify` under a panicking comparison = `Crash.DQ.upHeapifyF` -/
theorem dqUpHeapifyF (fuse : Nat) (s : Store P) (i : Nat) (fuel : Nat) (h : fuel ≥ s.size + min i s.heap.size + 4) :
    runF prog unwind fuse false fuel .dqUpHeapify s [i] = (fun s' => (s', Val.unit)) <$> Crash.DQ.upHeapifyF fuse s i := by
  obtain ⟨k, rfl⟩ := exists_eq_add 1 h (by decide)
  rw [runF_frame0 prog unwind fuse false k .dqUpHeapify _ s _ _ _ rfl rfl]
  unfold Crash.DQ.upHeapifyF
  rw [execF, dqUpHeapify_body]
  srcF_eval
  cases hget : s.heap[i]? with
  | none => srcF_eval; rfl
  | some tmp =>
    have hi : i < s.heap.size := getElem?_some_lt hget
    srcF_eval
    srcF_cr
    rw [call_dqBubbleUpF _ _ _ _ _ (by omega)]
    srcF_cr
    refine bindC_congr_ok fun r hr => ?_
    have hsz := dq_bubbleUpF_post_size fuse s i tmp r hr
    srcF_eval
    srcF_cr
    by_cases hne : i = r.2
    · simp only [hne, ne_eq, not_true_eq_false, ↓reduceIte, decide_false, Bool.false_eq_true, pure_bind]
      rw [call_dqHeapifyF _ _ _ _ (by simp only at hsz; omega)]
      srcF_cr
    · simp only [hne, ne_eq, not_false_eq_true, ↓reduceIte, decide_true]
      rw [call_dqHeapifyF _ _ _ _ (by simp only at hsz; omega)]
      srcF_cr
      refine bindC_congr_ok fun s2 hs2 => ?_
      have hsz2 := dq_heapifyF_post_size fuse r.1 i s2 hs2
      rw [call_dqHeapifyF _ _ _ _ (by simp only at hsz hsz2; omega)]
      srcF_cr

theorem call_dqUpHeapifyF (fuse : Nat) (s : Store P) (i n : Nat) (h : n ≥ s.size + min i s.heap.size + 4) :
    toCRcall (callWithF (execF prog unwind fuse false n) (exec prog n) prog unwind .dqUpHeapify s [i] [] [])
      = (fun s' => (s', Val.unit)) <$> Crash.DQ.upHeapifyF fuse s i := by
  rw [← runF_eq]; exact dqUpHeapifyF fuse s i n h

/-- `DoublePriorityQueue::heap_build` under a panicking comparison = `Crash.DQ.heapBuildF` -/
theorem dqHeapBuildF (fuse : Nat) (s : Store P) (fuel : Nat) (h : fuel ≥ s.size + 4) :
    runF prog unwind fuse false fuel .dqHeapBuild s [] = (fun s' => (s', Val.unit)) <$> Crash.DQ.heapBuildF fuse s := by
  obtain ⟨k, rfl⟩ := exists_eq_add 1 h (by decide)
  rw [runF_frame0 prog unwind fuse false k .dqHeapBuild _ s _ _ _ rfl rfl]
  unfold Crash.DQ.heapBuildF
  rw [execF, dqHeapBuild_body]
  by_cases hsz : s.size = 0
  · srcF_eval [hsz]
    rfl
  · srcF_eval [hsz, DQ.parentC]
    srcF_cr [hsz]
    show _ = (fun s' => (s', Val.unit)) <$> _
    refine frame0_of_toCR (P := P) _ _ (heapBuild_forF (P := P) s.size _ (Crash.DQ.heapifyF fuse)
      (Crash.DQ.heapBuildLoopF fuse) (dq_heapifyF_post_size fuse) ?_ (fun _ => rfl) (fun _ _ => rfl) _ _ rfl)
    intro j st hn
    srcF_eval
    srcF_cr
    rw [call_dqHeapifyF _ _ _ _ (by omega)]
    srcF_cr

/-! ## `find_max`, `peek_max`, `peek_max_mut` -/

theorem size_cases3 (n : Nat) : n = 0 ∨ n = 1 ∨ n = 2 ∨ ∃ m, n = m + 3 := by
  by_cases h0 : n = 0
  · exact Or.inl h0
  by_cases h1 : n = 1
  · exact Or.inr (Or.inl h1)
  by_cases h2 : n = 2
  · exact Or.inr (Or.inr (Or.inl h2))
  exact Or.inr (Or.inr (Or.inr ⟨n - 3, by omega⟩))

theorem findMaxF_many (fuse : Nat) (s : Store P) (n : Nat) (hn : s.size = n + 3) :
    Crash.DQ.findMaxF fuse s = (liftR (s.prioAt 1) >>= fun p1 => liftR (s.prioAt 2) >>= fun p2 =>
      cmpF fuse s p2 p1 >>= fun r => pure (r.1, some (if r.2 then 1 else 2))) := by
  unfold Crash.DQ.findMaxF; rw [hn]; rfl

/-- `DoublePriorityQueue::find_max` under a panicking comparison = `Crash.DQ.findMaxF` (`&self`: the store is unchanged) -/
theorem dqFindMaxF (fuse : Nat) (s : Store P) (fuel : Nat) (h : fuel ≥ 2) :
    runF prog unwind fuse false fuel .dqFindMax s [] = (fun r => (r.1, Val.optNat r.2)) <$> Crash.DQ.findMaxF fuse s := by
  obtain ⟨k, rfl⟩ := Nat.exists_eq_add_of_le' h
  rw [runF_frame0 prog unwind fuse false (k + 1) .dqFindMax _ s _ _ _ rfl rfl]
  rw [execF, dqFindMax_body]
  obtain h0 | h1 | h2 | ⟨n, hn⟩ := size_cases3 s.size
  · unfold Crash.DQ.findMaxF
    srcF_eval [h0]
    rfl
  · unfold Crash.DQ.findMaxF
    srcF_eval [h1]
    rfl
  · unfold Crash.DQ.findMaxF
    srcF_eval [h2]
    rfl
  · rw [findMaxF_many fuse s n hn]
    srcF_eval [hn, esF_lastMaxByPos, keysByPrioAt, call_storePrioAt]
    srcF_cr
    refine liftR_bind_congr_ok fun p1 _ => liftR_bind_congr_ok fun p2 _ => ?_
    simp only [SrcF.maxFoldF, bind_assoc, pure_bind, St.setS]
    srcF_cr
    split
    · rfl
    · split <;> rfl

theorem call_dqFindMaxF (fuse : Nat) (s : Store P) (n : Nat) (h : n ≥ 2) :
    toCRcall (callWithF (execF prog unwind fuse false n) (exec prog n) prog unwind .dqFindMax s [] [] [])
      = (fun r => (r.1, Val.optNat r.2)) <$> Crash.DQ.findMaxF fuse s := by
  rw [← runF_eq]; exact dqFindMaxF fuse s n h

/-! ## the public operations of `DoublePriorityQueue` -/

theorem findMaxF_post (fuse : Nat) (s : Store P) :
    PostC (Crash.DQ.findMaxF fuse s) (fun r => r.1.size = s.size ∧ ∀ i, r.2 = some i → i ≤ 2) := by
  unfold Crash.DQ.findMaxF
  split
  · exact PostC.pure ⟨rfl, fun i hi => by cases hi⟩
  · exact PostC.pure ⟨rfl, fun i hi => by cases hi; omega⟩
  · exact PostC.pure ⟨rfl, fun i hi => by cases hi; omega⟩
  · refine PostC.bind (PostC.triv _) fun _ _ => PostC.bind (PostC.triv _) fun _ _ => PostC.cmpF_bind
      (PostC.pure ⟨rfl, fun i hi => ?_⟩)
    simp only [Option.some.injEq] at hi
    split at hi <;> omega

/-- `DoublePriorityQueue::peek_max` under a panicking comparison = `Crash.DQ.peekMaxF` -/
theorem dqPeekMaxF (fuse : Nat) (s : Store P) (fuel : Nat) (h : fuel ≥ 3) :
    runF prog unwind fuse false fuel .dqPeekMax s [] = (fun r => (r.1, Val.optEntry r.2)) <$> Crash.DQ.peekMaxF fuse s := by
  obtain ⟨k, rfl⟩ := Nat.exists_eq_add_of_le' h
  rw [runF_frame0 prog unwind fuse false (k + 2) .dqPeekMax _ s _ _ _ rfl rfl]
  unfold Crash.DQ.peekMaxF
  rw [execF, dqPeekMax_body]
  srcF_eval
  srcF_cr
  rw [call_dqFindMaxF _ _ _ (by omega)]
  srcF_cr
  refine bindC_congr_ok fun fm _ => ?_
  obtain ⟨s1, res⟩ := fm
  cases res with
  | none => srcF_eval; srcF_cr
  | some i => srcF_eval; srcF_cr [DQ.entryAt]

/-- `DoublePriorityQueue::peek_max_mut` followed by the caller's write, under a panicking comparison =
`Crash.DQ.peekMaxMutWriteF` (a panic in `find_max`: the write never happens) -/
theorem dqPeekMaxMutF (fuse : Nat) (s : Store P) (w : Item → Item) (fuel : Nat) (h : fuel ≥ 3) :
    applyWrite w <$> runF prog unwind fuse false fuel .dqPeekMaxMut s [] = Crash.DQ.peekMaxMutWriteF fuse s w := by
  obtain ⟨k, rfl⟩ := Nat.exists_eq_add_of_le' h
  rw [runF_frame0 prog unwind fuse false (k + 2) .dqPeekMaxMut _ s _ _ _ rfl rfl]
  unfold Crash.DQ.peekMaxMutWriteF
  rw [execF, dqPeekMaxMut_body]
  srcF_eval
  srcF_cr
  rw [call_dqFindMaxF _ _ _ (by omega)]
  srcF_cr
  refine bindC_congr_ok fun fm _ => ?_
  obtain ⟨s1, res⟩ := fm
  cases res with
  | none => srcF_eval; srcF_cr [applyWrite]
  | some pos =>
    srcF_eval
    srcF_cr [applyWrite]
    refine liftR_bind_congr_ok fun i _ => ?_
    cases s1.map.getIndex i <;> rfl

/-- `DoublePriorityQueue::pop_min` under a panicking comparison = `Crash.DQ.popMinF` -/
theorem dqPopMinF (fuse : Nat) (s : Store P) (fuel : Nat) (h : fuel ≥ s.size + 4) :
    runF prog unwind fuse false fuel .dqPopMin s [] = (fun r => (r.1, Val.optEntry r.2)) <$> Crash.DQ.popMinF fuse s := by
  obtain ⟨k, rfl⟩ := exists_eq_add 2 h (by decide)
  rw [runF_frame0 prog unwind fuse false (k + 1) .dqPopMin _ s _ _ _ rfl rfl]
  unfold Crash.DQ.popMinF
  rw [execF, dqPopMin_body]
  srcF_eval
  srcF_cr [call_dqFindMin]
  cases hf : DQ.findMin s with
  | none => srcF_eval; srcF_cr
  | some i =>
    srcF_eval
    srcF_cr [call_storeSwapRemove]
    refine liftR_bind_congr_ok fun r hr => ?_
    have hsz := swapRemove_post_size s i r hr
    rw [call_dqHeapifyF _ _ _ _ (by simp only at hsz; omega)]
    srcF_cr

/-- `DoublePriorityQueue::pop_max` under a panicking comparison = `Crash.DQ.popMaxF` -/
theorem dqPopMaxF (fuse : Nat) (s : Store P) (fuel : Nat) (h : fuel ≥ s.size + 4) :
    runF prog unwind fuse false fuel .dqPopMax s [] = (fun r => (r.1, Val.optEntry r.2)) <$> Crash.DQ.popMaxF fuse s := by
  obtain ⟨k, rfl⟩ := exists_eq_add 3 h (by decide)
  rw [runF_frame0 prog unwind fuse false (k + 2) .dqPopMax _ s _ _ _ rfl rfl]
  unfold Crash.DQ.popMaxF
  rw [execF, dqPopMax_body]
  srcF_eval
  srcF_cr
  rw [call_dqFindMaxF _ _ _ (by omega)]
  srcF_cr
  refine bindC_congr_ok fun fm hfm => ?_
  have hs1 := (findMaxF_post fuse s fm hfm).1
  obtain ⟨s1, res⟩ := fm
  cases res with
  | none => srcF_eval; srcF_cr
  | some i =>
    srcF_eval
    srcF_cr [call_storeSwapRemove]
    refine liftR_bind_congr_ok fun r hr => ?_
    have hsz := swapRemove_post_size s1 i r hr
    rw [call_dqHeapifyF _ _ _ _ (by simp only at hsz hs1; omega)]
    srcF_cr

/-- `DoublePriorityQueue::remove` under a panicking comparison = `Crash.DQ.removeF` -/
theorem dqRemoveF (fuse : Nat) (s : Store P) (k : Nat) (fuel : Nat) (h : fuel ≥ 2 * s.size + 5) :
    runF prog unwind fuse false fuel .dqRemove s [k]
      = (fun r => (r.1, Val.optEntry r.2)) <$> Crash.DQ.removeF fuse s k := by
  obtain ⟨n, rfl⟩ := exists_eq_add 2 h (by decide)
  rw [runF_frame0 prog unwind fuse false (n + 1) .dqRemove _ s _ _ _ rfl rfl]
  unfold Crash.DQ.removeF
  rw [execF, dqRemove_body]
  srcF_eval
  srcF_cr [call_storeRemove]
  refine liftR_bind_congr_ok fun r hr => ?_
  have hsz := remove_post_size s k r hr
  obtain ⟨s', res⟩ := r
  cases res with
  | none => srcF_cr
  | some x =>
    obtain ⟨it, p, pos⟩ := x
    have hsz' := hsz _ rfl
    simp only at hsz'
    srcF_cr
    by_cases hlt : pos < s'.size
    · simp only [hlt, ↓reduceIte, decide_true]
      rw [call_dqUpHeapifyF _ _ _ _ (by omega)]
      srcF_cr
    · simp only [hlt, ↓reduceIte, decide_false]

/-- `DoublePriorityQueue::change_priority` under a panicking comparison = `Crash.DQ.changePriorityF` -/
theorem dqChangePriorityF (fuse : Nat) (s : Store P) (k : Nat) (p : P) (fuel : Nat) (h : fuel ≥ s.size + s.heap.size + 6) :
    runF prog unwind fuse false fuel .dqChangePriority s [k] [p]
      = (fun r => (r.1, Val.optP r.2)) <$> Crash.DQ.changePriorityF fuse s k p := by
  obtain ⟨n, rfl⟩ := exists_eq_add 2 h (by decide)
  rw [runF_frame0 prog unwind fuse false (n + 1) .dqChangePriority _ s _ _ _ rfl rfl]
  unfold Crash.DQ.changePriorityF
  rw [execF, dqChangePriority_body]
  srcF_eval
  srcF_cr [call_storeChangePriority]
  refine liftR_bind_congr_ok fun r hr => ?_
  obtain ⟨hsz, hhp⟩ := changePriority_post s k p r hr
  obtain ⟨s', res⟩ := r
  cases res with
  | none => srcF_cr
  | some x =>
    obtain ⟨old, pos⟩ := x
    simp only at hsz hhp
    srcF_cr
    rw [call_dqUpHeapifyF _ _ _ _ (by rw [hsz, hhp]; omega)]
    srcF_cr

/-- `DoublePriorityQueue::change_priority_by` under a panicking comparison = `Crash.DQ.changePriorityByF` -/
theorem dqChangePriorityByF (fuse : Nat) (s : Store P) (k : Nat) (g : P → P) (fuel : Nat)
    (h : fuel ≥ s.size + s.heap.size + 6) :
    runF prog unwind fuse false fuel .dqChangePriorityBy s [k] [] [Val.setter g]
      = (fun r => (r.1, Val.bool r.2)) <$> Crash.DQ.changePriorityByF fuse s k g := by
  obtain ⟨n, rfl⟩ := exists_eq_add 2 h (by decide)
  rw [runF_frame0 prog unwind fuse false (n + 1) .dqChangePriorityBy _ s _ _ _ rfl rfl]
  unfold Crash.DQ.changePriorityByF
  rw [execF, dqChangePriorityBy_body]
  srcF_eval
  srcF_cr [call_storeChangePriorityBy]
  refine liftR_bind_congr_ok fun r hr => ?_
  obtain ⟨hsz, hhp⟩ := changePriorityBy_post s k g r hr
  obtain ⟨s', res⟩ := r
  cases res with
  | none => srcF_cr
  | some pos =>
    simp only at hsz hhp
    srcF_cr
    rw [call_dqUpHeapifyF _ _ _ _ (by rw [hsz, hhp]; omega)]
    srcF_cr

/-- `DoublePriorityQueue::push` of an item that is not in the queue, when the `fuse`-th comparison panics = `Crash.DQ.pushF`:
in particular the store that survives a panic already counts the new element (`size += 1` precedes the sift-up) and the
guard has put it where the hole was -/
theorem dqPushF_new (fuse : Nat) (s : Store P) (it : Item) (p : P) (hnew : IMap.find? s.map it.key = none)
    (fuel : Nat) (h : fuel ≥ s.size + 5) :
    runF prog unwind fuse false fuel .dqPush s [] [p] [Val.item it]
      = (fun r => (r.1, Val.optP r.2)) <$> Crash.DQ.pushF fuse s it p := by
  obtain ⟨k, rfl⟩ := exists_eq_add 1 h (by decide)
  rw [runF_frame0 prog unwind fuse false k .dqPush _ s _ _ _ rfl rfl]
  unfold Crash.DQ.pushF
  rw [IMap.insertFull_of_find?_none hnew, execF, dqPush_body]
  srcF_eval [hnew, Option.isSome_none]
  srcF_cr
  rw [call_dqBubbleUpF _ _ _ _ _ (by omega)]
  simp only [map_eq_pure_bind, bind_assoc, pure_bind]
  refine bindC_congr_ok fun r _ => ?_
  srcF_eval
  srcF_cr

/-- `DoublePriorityQueue::push` (new or present item) under a panicking comparison = `Crash.DQ.pushF` -/
theorem dqPushF (fuse : Nat) (s : Store P) (it : Item) (p : P) (fuel : Nat) (h : fuel ≥ s.size + s.heap.size + 6) :
    runF prog unwind fuse false fuel .dqPush s [] [p] [Val.item it]
      = (fun r => (r.1, Val.optP r.2)) <$> Crash.DQ.pushF fuse s it p := by
  cases hf : IMap.find? s.map it.key with
  | none => exact dqPushF_new fuse s it p hf fuel (by omega)
  | some i =>
    obtain ⟨k, rfl⟩ := exists_eq_add 1 h (by decide)
    rw [runF_frame0 prog unwind fuse false k .dqPush _ s _ _ _ rfl rfl]
    unfold Crash.DQ.pushF
    obtain ⟨e, he, _⟩ := IMap.find?_getElem? hf
    rw [IMap.insertFull_of_find?_some hf he]
    rw [execF, dqPush_body]
    srcF_eval [hf, he]
    simp only [Option.isSome_some, ↓reduceIte]
    srcF_cr
    refine liftR_bind_congr_ok fun pos hpos => ?_
    rw [call_dqUpHeapifyF _ _ _ _ (by simp only; omega)]
    srcF_cr

theorem call_dqPushF (fuse : Nat) (s : Store P) (it : Item) (p : P) (n : Nat) (h : n ≥ s.size + s.heap.size + 6) :
    toCRcall (callWithF (execF prog unwind fuse false n) (exec prog n) prog unwind .dqPush s [] [p] [Val.item it])
      = (fun r => (r.1, Val.optP r.2)) <$> Crash.DQ.pushF fuse s it p := by
  rw [← runF_eq]; exact dqPushF fuse s it p n h

/-- `DoublePriorityQueue::push_increase` under a panicking comparison = `Crash.DQ.pushIncreaseF` (a panic of the pre-comparison
leaves the store untouched) -/
theorem dqPushIncreaseF (fuse : Nat) (s : Store P) (it : Item) (p : P) (fuel : Nat) (h : fuel ≥ s.size + s.heap.size + 7) :
    runF prog unwind fuse false fuel .dqPushIncrease s [] [p] [Val.item it]
      = (fun r => (r.1, Val.optP r.2)) <$> Crash.DQ.pushIncreaseF fuse s it p := by
  obtain ⟨n, rfl⟩ := exists_eq_add 1 h (by decide)
  rw [runF_frame0 prog unwind fuse false n .dqPushIncrease _ s _ _ _ rfl rfl]
  unfold Crash.DQ.pushIncreaseF
  rw [execF, dqPushIncrease_body]
  srcF_eval
  cases hq : s.getPriority it.key with
  | none =>
    srcF_eval
    srcF_cr
    rw [call_dqPushF _ _ _ _ _ (by omega)]
    srcF_cr
  | some q =>
    srcF_eval
    srcF_cr
    by_cases hfz : s.ticks + 1 = fuse
    · simp only [hfz, ↓reduceIte]
    · simp only [hfz, ↓reduceIte]
      by_cases hlt : q < p
      · simp only [hlt, ↓reduceIte, decide_true]
        rw [call_dqPushF _ _ _ _ _ (by simp only [size_tick, heap_tick]; omega)]
        srcF_cr
      · simp only [hlt, ↓reduceIte, decide_false]
/-- `DoublePriorityQueue::push_decrease` under a panicking comparison = `Crash.DQ.pushDecreaseF` (a panic of the pre-comparison
leaves the store untouched) -/
theorem dqPushDecreaseF (fuse : Nat) (s : Store P) (it : Item) (p : P) (fuel : Nat) (h : fuel ≥ s.size + s.heap.size + 7) :
    runF prog unwind fuse false fuel .dqPushDecrease s [] [p] [Val.item it]
      = (fun r => (r.1, Val.optP r.2)) <$> Crash.DQ.pushDecreaseF fuse s it p := by
  obtain ⟨n, rfl⟩ := exists_eq_add 1 h (by decide)
  rw [runF_frame0 prog unwind fuse false n .dqPushDecrease _ s _ _ _ rfl rfl]
  unfold Crash.DQ.pushDecreaseF
  rw [execF, dqPushDecrease_body]
  srcF_eval
  cases hq : s.getPriority it.key with
  | none =>
    srcF_eval
    srcF_cr
    rw [call_dqPushF _ _ _ _ _ (by omega)]
    srcF_cr
  | some q =>
    srcF_eval
    srcF_cr
    by_cases hfz : s.ticks + 1 = fuse
    · simp only [hfz, ↓reduceIte]
    · simp only [hfz, ↓reduceIte]
      by_cases hlt : p < q
      · simp only [hlt, ↓reduceIte, decide_true]
        rw [call_dqPushF _ _ _ _ _ (by simp only [size_tick, heap_tick]; omega)]
        srcF_cr
      · simp only [hlt, ↓reduceIte, decide_false]

/-- `DoublePriorityQueue::pop_min_if` under a panicking comparison = `Crash.DQ.popMinIfF` -/
theorem dqPopMinIfF (fuse : Nat) (s : Store P) (f : Item → P → Bool × Item × P) (fuel : Nat) (h : fuel ≥ s.size + 5) :
    runF prog unwind fuse false fuel .dqPopMinIf s [] [] [Val.pred f]
      = (fun r => (r.1, Val.optEntry r.2)) <$> Crash.DQ.popMinIfF fuse s f := by
  obtain ⟨k, rfl⟩ := exists_eq_add 3 h (by decide)
  rw [runF_frame0 prog unwind fuse false (k + 2) .dqPopMinIf _ s _ _ _ rfl rfl]
  unfold Crash.DQ.popMinIfF
  rw [execF, dqPopMinIf_body]
  srcF_eval
  srcF_cr [call_dqFindMin]
  cases hf : DQ.findMin s with
  | none => srcF_eval; srcF_cr
  | some i =>
    srcF_eval
    srcF_cr [call_storeSwapRemoveIf]
    refine liftR_bind_congr_ok fun r hr => ?_
    have hsz := swapRemoveIf_post_size s i f r hr
    rw [call_dqHeapifyF _ _ _ _ (by simp only at hsz; omega)]
    srcF_cr

/-- `DoublePriorityQueue::pop_max_if` under a panicking comparison = `Crash.DQ.popMaxIfF` (a panic in `find_max`: the
predicate is not called) -/
theorem dqPopMaxIfF (fuse : Nat) (s : Store P) (f : Item → P → Bool × Item × P) (fuel : Nat) (h : fuel ≥ s.size + 8) :
    runF prog unwind fuse false fuel .dqPopMaxIf s [] [] [Val.pred f]
      = (fun r => (r.1, Val.optEntry r.2)) <$> Crash.DQ.popMaxIfF fuse s f := by
  obtain ⟨k, rfl⟩ := exists_eq_add 3 h (by decide)
  rw [runF_frame0 prog unwind fuse false (k + 2) .dqPopMaxIf _ s _ _ _ rfl rfl]
  unfold Crash.DQ.popMaxIfF
  rw [execF, dqPopMaxIf_body]
  srcF_eval
  srcF_cr
  rw [call_dqFindMaxF _ _ _ (by omega)]
  srcF_cr
  refine bindC_congr_ok fun fm hfm => ?_
  obtain ⟨hs1, hi2⟩ := findMaxF_post fuse s fm hfm
  obtain ⟨s1, res⟩ := fm
  cases res with
  | none => srcF_eval; srcF_cr
  | some i =>
    have := hi2 i rfl
    srcF_eval
    srcF_cr [call_storeSwapRemoveIf]
    refine liftR_bind_congr_ok fun r hr => ?_
    have hsz := swapRemoveIf_post_size s1 i f r hr
    rw [call_dqUpHeapifyF _ _ _ _ (by simp only at hsz hs1; omega)]
    srcF_cr
end PQ.SrcEquivF
