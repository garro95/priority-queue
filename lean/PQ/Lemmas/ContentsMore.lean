import PQ.Lemmas.Contents
/-!
# The stored item value, at full strength: a state-dependent "does not rewrite the item of `k`" (prefix `c12m_`)

`cont_preservesItem k op` (file `Contents.lean`) is a property of the operation alone and therefore forbids more
histories than property C12 does:

* for `iter_mut` it demands a program without ANY payload write, although a payload write through a reference yielded
  for ANOTHER element does not touch the item stored for `k` (and a priority write to `k` itself does not either);
* for `append(other)` it demands that `other` does not hold `k`, although the receiver's entry — item included — is kept
  on a clash unless `other` is strictly longer (only then are the two stores swapped and `other`'s item wins).

Which slot holds `k` and whether `other` is longer than the receiver are facts about the STATE: the relaxed predicate
`c12m_preservesItem k q op` depends on the current queue `q`.

* `c12m_iterMutKeeps k q prog` — every write of the program that goes through a reference yielded (`c12m_iterOuts q prog`,
  file `Contents.lean`: what the calls return on `q`; the iterator machine never reads the entries) for a slot holding
  key `k` leaves the item of that entry as it is (it may change its priority); writes to all other slots are free.
* `c12m_preservesItem k q op` — `iter_mut`: `c12m_iterMutKeeps`; `append o`: `o.size ≤ q.s.size ∨ o.abs k = none`;
  every other operation: `cont_preservesItem k op`.  `c12m_preservesItem_of_cont`: it is implied by `cont_preservesItem`.
* `c12m_step_item_persists` — one step; `c12m_preservedThroughout k q ops` — the predicate along the run (recursive);
  `c12m_run_item_persists` — histories.
* `c12m_preservesItemB`, `c12m_preservedThroughoutB`, `c12m_presentThroughoutB` — Boolean checkers (sound, not complete:
  closures are not inspected) that let `decide` establish the hypotheses on concrete histories.
-/
set_option linter.unusedSectionVars false
namespace PQ
open Store

section Defs
variable {P : Type}

/-- the slot a call of the iterator yielded, if it yielded one -/
def c12m_slotOf : IOut → Option Nat
  | .slot (some i) => some i
  | _ => none

theorem c12m_slotOf_eq_some {o : IOut} {j : Nat} : c12m_slotOf o = some j ↔ o = .slot (some j) := by
  cases o with
  | slot oi =>
    cases oi with
    | none => simp [c12m_slotOf]
    | some i => simp [c12m_slotOf]
  | len k => simp [c12m_slotOf]
  | hint lo hi => simp [c12m_slotOf]
  | unsupported => simp [c12m_slotOf]

/-- every write of the program that goes through a reference yielded for a slot whose entry has key `k` leaves the item
of that entry as it is (no payload write, or one that writes the payload already there); nothing is asked of the writes
through references to other slots, nor of priority writes -/
def c12m_iterMutKeeps (k : Nat) (q : Q P) (prog : List (ICall × IMWrite P)) : Prop :=
  ∀ ocw ∈ (c12m_iterOuts q prog).zip prog, ∀ j ∈ c12m_slotOf ocw.1, ∀ e ∈ q.s.map[j]?,
    e.1.key = k → (ocw.2.2.cont_apply e).1 = e.1

instance (k : Nat) (q : Q P) (prog : List (ICall × IMWrite P)) : Decidable (c12m_iterMutKeeps k q prog) := by
  unfold c12m_iterMutKeeps; infer_instance

/-- **`op`, executed on `q`, does not rewrite the item stored under key `k`** — the state-dependent relaxation of
`cont_preservesItem`: an `iter_mut` program may write whatever it likes through references to OTHER elements (and may
change the priority of `k`); an `append`ed queue may hold `k` when it is not longer than the receiver -/
def c12m_preservesItem (k : Nat) (q : Q P) : Op P → Prop
  | .iterMut _ prog => c12m_iterMutKeeps k q prog
  | .append o => o.size ≤ q.s.size ∨ o.abs k = none
  | op => cont_preservesItem k op

/-- the item part of a written entry depends on the item part of the entry only -/
theorem c12m_apply_fst (w : IMWrite P) {e e' : Item × P} (h : e.1 = e'.1) :
    (w.cont_apply e).1 = (w.cont_apply e').1 := by
  unfold IMWrite.cont_apply
  cases w.payload <;> simp [h]

/-- the state-independent predicate implies the state-dependent one, on every queue -/
theorem c12m_preservesItem_of_cont {k : Nat} (q : Q P) {op : Op P} (h : cont_preservesItem k op) :
    c12m_preservesItem k q op := by
  cases op <;> try exact h
  case iterMut leak prog =>
    intro ocw hin j _ e _ _
    exact cont_apply_item (h ocw.2 (List.of_mem_zip hin).2) e
  case append o => exact .inr h

end Defs

variable {P : Type} [LT P] [DecidableLT P] [LE P] [Std.IsLinearPreorder P] [Std.LawfulOrderLT P]

/-- `iter_mut` whose writes to the slot of `k` leave the item alone keeps the stored item of `k` — whatever it writes
through the references to the other elements -/
theorem c12m_step_iterMut_item {q q' : Q P} {leak : Bool} {prog : List (ICall × IMWrite P)} {o : Out P} {k : Nat}
    (hq : q.s.WF) (hp : c12m_iterMutKeeps k q prog) (hs : step q (.iterMut leak prog) = .ok (q', o)) {it0 : Item}
    (h0 : storedItem q k = some it0) : storedItem q' k = some it0 := by
  obtain ⟨kind, s⟩ := q
  obtain ⟨s', e1, _⟩ := cont_step_iterMut (kind := kind) hq leak prog
  rw [e1] at hs
  cases hs
  obtain ⟨p0, ha⟩ := cont_storedItem_eq_some.1 h0
  have ha' : IMap.lookup s.map k = some (it0, p0) := ha
  obtain ⟨j, hj, hje⟩ := IMap.lookup_eq_some_iff_find?.1 ha'
  have hk0 : it0.key = k := IMap.lookup_key ha'
  have h1 := cont_step_iterMut_abs hq e1 hj
  refine cont_storedItem_eq_some.2 ⟨(cont_writesAt j (c12m_iterOuts ⟨kind, s⟩ prog) prog (it0, p0)).2, ?_⟩
  show s'.abs k = _
  rw [h1]
  show (s.abs k).map _ = _
  rw [ha]
  simp only [Option.map_some, Option.some.injEq]
  -- each write through slot `j` returns the item `it0` it found, so their composition does
  have := cont_writesAt_inv (fun e => e.1 = it0) j (c12m_iterOuts ⟨kind, s⟩ prog) prog (it0, p0)
    (fun ocw hin hoj e he => (c12m_apply_fst ocw.2.2 (e' := (it0, p0)) he).trans
      (hp ocw hin j (c12m_slotOf_eq_some.2 hoj) (it0, p0) hje hk0)) rfl
  exact Prod.ext this rfl

/-- `append` of a queue that is not longer than the receiver, or does not hold `k`, keeps the stored item of `k` -/
theorem c12m_step_append_item {q q' : Q P} {oth : Store P} {o : Out P} {k : Nat} (hq : q.s.WF) (hl : oth.WF)
    (hp : oth.size ≤ q.s.size ∨ oth.abs k = none) (hs : step q (.append oth) = .ok (q', o)) {it0 : Item}
    (h0 : storedItem q k = some it0) : storedItem q' k = some it0 := by
  obtain ⟨p0, ha⟩ := cont_storedItem_eq_some.1 h0
  refine cont_storedItem_eq_some.2 ⟨p0, ?_⟩
  rw [cont_step_append_abs hq hl hs, ha]
  rcases hp with hp | hp
  · rw [if_neg (by omega)]; rfl
  · rw [hp]; split <;> simp

/-- **one step**: a legal operation that, on the current queue, does not rewrite the item of `k` and does not remove
`k` keeps the stored item -/
theorem c12m_step_item_persists {q q' : Q P} {op : Op P} {o : Out P} {k : Nat} (hq : q.s.WF) (hl : op.Legal)
    (hp : c12m_preservesItem k q op) (hs : step q op = .ok (q', o)) (hk : (q'.s.abs k).isSome = true) {it0 : Item}
    (h0 : storedItem q k = some it0) : storedItem q' k = some it0 := by
  cases op
  case iterMut leak prog => exact c12m_step_iterMut_item hq hp hs h0
  case append oth => exact c12m_step_append_item hq hl hp hs h0
  all_goals exact cont_step_item_persists hq hl hp hs hk h0

/-- the relaxed predicate holds along the run of `ops` from `q`: each operation preserves the item of `k` on the queue
it is executed on -/
def c12m_preservedThroughout (k : Nat) : Q P → List (Op P) → Prop
  | _, [] => True
  | q, op :: ops => c12m_preservesItem k q op ∧ ∀ q1 o, step q op = .ok (q1, o) → c12m_preservedThroughout k q1 ops

/-- the prefix form of `c12m_preservedThroughout` (the shape of `cont_presentThroughout`) -/
theorem c12m_preservedThroughout_iff {k : Nat} (ops : List (Op P)) : ∀ (q : Q P),
    c12m_preservedThroughout k q ops ↔
      ∀ n q1 outs op, run q (ops.take n) = .ok (q1, outs) → ops[n]? = some op → c12m_preservesItem k q1 op := by
  induction ops with
  | nil => intro q; exact ⟨fun _ n q1 outs op _ hn => (by cases hn), fun _ => trivial⟩
  | cons op ops ih =>
    intro q
    constructor
    · rintro ⟨h1, h2⟩ n q1 outs op' hr hn
      cases n with
      | zero => cases hr; cases hn; exact h1
      | succ n =>
        obtain ⟨q2, o, os, e1, e2, _⟩ := cont_run_cons_inv hr
        exact (ih q2).1 (h2 q2 o e1) n q1 os op' e2 hn
    · intro h
      refine ⟨h 0 q [] op (cont_run_nil q) rfl, fun q1 o e1 => (ih q1).2 (fun n q2 outs op' hr hn => ?_)⟩
      exact h (n + 1) q2 (o :: outs) op' (cont_run_cons e1 hr) hn

/-- a history of operations that satisfy `cont_preservesItem` satisfies `c12m_preservesItem` along every run -/
theorem c12m_preservedThroughout_of_cont {k : Nat} (ops : List (Op P)) : ∀ (q : Q P),
    (∀ op ∈ ops, cont_preservesItem k op) → c12m_preservedThroughout k q ops := by
  induction ops with
  | nil => intro q _; trivial
  | cons op ops ih =>
    intro q h
    exact ⟨c12m_preservesItem_of_cont q (h op List.mem_cons_self),
      fun q1 _ _ => ih q1 (fun op' hop => h op' (List.mem_cons_of_mem _ hop))⟩

/-- **histories**: if every operation, on the queue it is executed on, does not rewrite the item of `k`, and `k` is
stored after every prefix, the stored item at the end is the one at the start -/
theorem c12m_run_item_persists {k : Nat} {it0 : Item} (ops : List (Op P)) : ∀ {q q' : Q P} {outs : List (Out P)},
    q.s.WF → (∀ op ∈ ops, op.Legal) → c12m_preservedThroughout k q ops → cont_presentThroughout k q ops →
    storedItem q k = some it0 → run q ops = .ok (q', outs) → storedItem q' k = some it0 := by
  intro q q' outs hq hl hp hpres h0 hr
  refine cont_run_induction (C := fun q ops q' _ => c12m_preservedThroughout k q ops → cont_presentThroughout k q ops →
    storedItem q k = some it0 → storedItem q' k = some it0) (fun _ _ _ h0 => h0)
    (fun hq hl1 h1 _ _ ih hp hpres h0 => ?_) ops hq hl hr hp hpres h0
  refine ih (hp.2 _ _ h1) (fun n q2 outs' hr2 => ?_) ?_
  · exact hpres (n + 1) q2 (_ :: outs') (cont_run_cons h1 hr2)
  · exact c12m_step_item_persists hq hl1 hp.1 h1 (hpres 1 _ [_] (cont_run_cons h1 (cont_run_nil _))) h0

/-- … in particular when every operation satisfies the state-independent `cont_preservesItem` -/
theorem cont_run_item_persists {k : Nat} {it0 : Item} (ops : List (Op P)) {q q' : Q P} {outs : List (Out P)}
    (hq : q.s.WF) (hl : ∀ op ∈ ops, op.Legal ∧ cont_preservesItem k op) (hpres : cont_presentThroughout k q ops)
    (h0 : storedItem q k = some it0) (hr : run q ops = .ok (q', outs)) : storedItem q' k = some it0 :=
  c12m_run_item_persists ops hq (fun op hop => (hl op hop).1)
    (c12m_preservedThroughout_of_cont ops q (fun op hop => (hl op hop).2)) hpres h0 hr

/-! ## Boolean checkers for concrete histories (sound; closures are not inspected) -/

/-- a sufficient Boolean test for `c12m_preservesItem` (operations whose condition quantifies over a closure's
behaviour are answered `false`, except `get_mut` on another key; so are the constructors that replace the whole queue) -/
def c12m_preservesItemB (k : Nat) (q : Q P) : Op P → Bool
  | .iterMut _ prog => decide (c12m_iterMutKeeps k q prog)
  | .append o => decide (o.size ≤ q.s.size) || (o.abs k).isNone
  | .getMut k' _ => k' != k
  | .peekFrontMut _ | .peekBackMut _ | .popFrontIf _ | .popBackIf _ | .retainMut _ => false
  | .fromVec _ | .fromIter _ _ | .deserialize _ _ => false
  | _ => true

theorem c12m_preservesItem_of_B {k : Nat} {q : Q P} {op : Op P} (h : c12m_preservesItemB k q op = true) :
    c12m_preservesItem k q op := by
  cases op
  case iterMut leak prog => exact (of_decide_eq_true h : c12m_iterMutKeeps k q prog)
  case append o =>
    simp only [c12m_preservesItemB, Bool.or_eq_true, decide_eq_true_eq, Option.isNone_iff_eq_none] at h
    exact h
  case getMut k' w =>
    intro hk
    simp [c12m_preservesItemB, hk] at h
  all_goals first | trivial | cases h

def c12m_preservedThroughoutB (k : Nat) : Q P → List (Op P) → Bool
  | _, [] => true
  | q, op :: ops => c12m_preservesItemB k q op &&
      (match step q op with
       | .ok r => c12m_preservedThroughoutB k r.1 ops
       | .error _ => true)

theorem c12m_preservedThroughout_of_B {k : Nat} (ops : List (Op P)) : ∀ {q : Q P},
    c12m_preservedThroughoutB k q ops = true → c12m_preservedThroughout k q ops := by
  induction ops with
  | nil => intro q _; trivial
  | cons op ops ih =>
    intro q h
    simp only [c12m_preservedThroughoutB, Bool.and_eq_true] at h
    refine ⟨c12m_preservesItem_of_B h.1, fun q1 o e1 => ih ?_⟩
    have h2 := h.2
    rw [e1] at h2
    exact h2

/-- Boolean form of `cont_presentThroughout` -/
def c12m_presentThroughoutB (k : Nat) : Q P → List (Op P) → Bool
  | q, [] => (q.s.abs k).isSome
  | q, op :: ops => (q.s.abs k).isSome &&
      (match step q op with
       | .ok r => c12m_presentThroughoutB k r.1 ops
       | .error _ => true)

theorem c12m_presentThroughout_of_B {k : Nat} (ops : List (Op P)) : ∀ {q : Q P},
    c12m_presentThroughoutB k q ops = true → cont_presentThroughout k q ops := by
  induction ops with
  | nil =>
    intro q h n q1 outs hr
    rw [List.take_nil, cont_run_nil] at hr
    cases hr; exact h
  | cons op ops ih =>
    intro q h n q1 outs hr
    simp only [c12m_presentThroughoutB, Bool.and_eq_true] at h
    cases n with
    | zero =>
      rw [List.take_zero, cont_run_nil] at hr
      cases hr; exact h.1
    | succ n =>
      rw [List.take_succ_cons] at hr
      obtain ⟨q2, o, os, e1, e2, _⟩ := cont_run_cons_inv hr
      have h2 := h.2
      rw [e1] at h2
      exact ih h2 n q1 os e2

end PQ
