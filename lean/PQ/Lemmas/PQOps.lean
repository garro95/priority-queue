import PQ.Lemmas.PQSafe
/-!
# `PriorityQueue`: operation-level refinement under the invariant `MaxQ.Inv = WF ∧ MaxHeap`

Every public operation re-establishes `Inv`; `peek`/`pop` address a maximum.  For `push`, `change_priority`,
`change_priority_by`, `remove` and `peek_mut` that is the `*_core` theorem of `PQ/Lemmas/PQSafe.lean` itself (apply its last
clause to `Inv.2`); the theorems here restate the others with `Inv` in the conclusion, in the case-split form their users
want (the operations that end in `heap_build` need only `WF` of their arguments).
-/
namespace PQ
open Arith
variable {P : Type} [LT P] [DecidableLT P] [LE P] [Std.IsLinearPreorder P] [Std.LawfulOrderLT P]

namespace MaxQ
open Store

theorem heapBuild_maxHeap {s : Store P} (h : s.WF) : ∀ s', heapBuild s = .ok s' → s'.MaxHeap := by
  intro s' hs
  obtain ⟨s'', h1, _, _, _, hm⟩ := heapBuild_spec h
  rw [h1] at hs; cases hs; exact hm

theorem pop_spec {s : Store P} (h : Inv s) :
    (s.size = 0 → pop s = .ok (s, none)) ∧
    (0 < s.size → ∃ s' e, pop s = .ok (s', some e) ∧ peek s = some e ∧ s.IsMax e ∧ Inv s' ∧
      s'.abs = absRemove s.abs e.1.key ∧ s'.size = s.size - 1) := by
  refine ⟨pop_zero, fun hn => ?_⟩
  obtain ⟨s', r, he, hwf, hpk, _, h1, hord⟩ := pop_core h.1
  obtain ⟨e, rfl, _, habs, hsz⟩ := h1 hn
  exact ⟨s', e, he, hpk, (hord h.2).2 e rfl, ⟨hwf, (hord h.2).1⟩, habs, hsz⟩

/-- **`pop_if`** with a key-preserving predicate: the predicate is applied to exactly the maximum `peek` shows; if it
answers *true* the (possibly rewritten) entry is returned and removed, otherwise `None` is returned and the
(possibly rewritten) entry stays; the invariant holds afterwards in both cases -/
theorem popIf_spec {s : Store P} (h : Inv s) (f : Item → P → Bool × Item × P)
    (hf : ∀ it p, (f it p).2.1.key = it.key) :
    (s.size = 0 → popIf s f = .ok (s, none)) ∧
    (0 < s.size → ∃ e, peek s = some e ∧ s.IsMax e ∧
      ((f e.1 e.2).1 = true → ∃ s', popIf s f = .ok (s', some ((f e.1 e.2).2.1, (f e.1 e.2).2.2)) ∧ Inv s' ∧
          s'.abs = absRemove s.abs e.1.key ∧ s'.size = s.size - 1) ∧
      ((f e.1 e.2).1 = false → ∃ s', popIf s f = .ok (s', none) ∧ Inv s' ∧
          s'.abs = absSet s.abs e.1.key ((f e.1 e.2).2.1, (f e.1 e.2).2.2) ∧ s'.size = s.size)) := by
  refine ⟨popIf_zero f, fun hn => ?_⟩
  obtain ⟨s', r, he, hwf, _, h1, hord⟩ := popIf_core h.1 f hf
  obtain ⟨e, hpk, ht, hfl⟩ := h1 hn
  refine ⟨e, hpk, isMax_root h hpk, fun hr => ?_, fun hr => ?_⟩
  · obtain ⟨rfl, habs, hsz⟩ := ht hr
    exact ⟨s', he, ⟨hwf, hord h.2⟩, habs, hsz⟩
  · obtain ⟨rfl, habs, hsz⟩ := hfl hr
    exact ⟨s', he, ⟨hwf, hord h.2⟩, habs, hsz⟩

/-- **`push_increase`**: absent ⇒ as `push`, returns `None`; present with a strictly greater offered priority ⇒ as
`push`, returns the old priority; otherwise the state is unchanged up to the ghost counter and the OFFERED priority
is returned -/
theorem pushIncrease_spec {s : Store P} (h : Inv s) (it : Item) (p : P) :
    (s.abs it.key = none → ∃ s', pushIncrease s it p = .ok (s', none) ∧ Inv s' ∧ s'.abs = absPush s.abs it p ∧
        s'.size = s.size + 1) ∧
    (∀ e, s.abs it.key = some e → e.2 < p → ∃ s', pushIncrease s it p = .ok (s', some e.2) ∧ Inv s' ∧
        s'.abs = absPush s.abs it p ∧ s'.size = s.size) ∧
    (∀ e, s.abs it.key = some e → ¬ e.2 < p → pushIncrease s it p = .ok (s.tick, some p) ∧ Inv s.tick ∧
        Store.Same s.tick s) := by
  obtain ⟨s', r, he, hwf, h0, h1, hord⟩ := pushIncrease_core h.1 it p
  refine ⟨fun ha => ?_, fun e ha hlt => ?_, fun e ha hlt => ?_⟩
  · obtain ⟨rfl, habs, hsz⟩ := h0 ha
    exact ⟨s', he, ⟨hwf, hord h.2⟩, habs, hsz⟩
  · obtain ⟨rfl, habs, hsz⟩ := (h1 e ha).1 hlt
    exact ⟨s', he, ⟨hwf, hord h.2⟩, habs, hsz⟩
  · obtain ⟨rfl, rfl⟩ := (h1 e ha).2 hlt
    exact ⟨he, h.tick 1, rfl, rfl, rfl, rfl⟩

/-- **`push_decrease`**: mirror image -/
theorem pushDecrease_spec {s : Store P} (h : Inv s) (it : Item) (p : P) :
    (s.abs it.key = none → ∃ s', pushDecrease s it p = .ok (s', none) ∧ Inv s' ∧ s'.abs = absPush s.abs it p ∧
        s'.size = s.size + 1) ∧
    (∀ e, s.abs it.key = some e → p < e.2 → ∃ s', pushDecrease s it p = .ok (s', some e.2) ∧ Inv s' ∧
        s'.abs = absPush s.abs it p ∧ s'.size = s.size) ∧
    (∀ e, s.abs it.key = some e → ¬ p < e.2 → pushDecrease s it p = .ok (s.tick, some p) ∧ Inv s.tick ∧
        Store.Same s.tick s) := by
  obtain ⟨s', r, he, hwf, h0, h1, hord⟩ := pushDecrease_core h.1 it p
  refine ⟨fun ha => ?_, fun e ha hlt => ?_, fun e ha hlt => ?_⟩
  · obtain ⟨rfl, habs, hsz⟩ := h0 ha
    exact ⟨s', he, ⟨hwf, hord h.2⟩, habs, hsz⟩
  · obtain ⟨rfl, habs, hsz⟩ := (h1 e ha).1 hlt
    exact ⟨s', he, ⟨hwf, hord h.2⟩, habs, hsz⟩
  · obtain ⟨rfl, rfl⟩ := (h1 e ha).2 hlt
    exact ⟨he, h.tick 1, rfl, rfl, rfl, rfl⟩

/-- **`retain_mut`**: only `WF` is needed of the input (the closure may have destroyed the order anyway) -/
theorem retainMut_spec {s : Store P} (h : s.WF) (f : Item → P → Bool × Item × P)
    (hf : ∀ it p, (f it p).2.1.key = it.key) :
    ∃ s', retainMut s f = .ok s' ∧ Inv s' ∧ ∀ k, s'.abs k = (s.abs k).bind (IMap.retainStep f) := by
  obtain ⟨s', hp, hwf, habs, _⟩ := retainMut_safe h f hf
  exact ⟨s', hp, ⟨hwf, heapBuild_maxHeap (wf_retainMut h hf) s' hp⟩, habs⟩

theorem append_spec {s o : Store P} (hs : s.WF) (ho : o.WF) :
    ∃ s' o', append s o = .ok (s', o') ∧ Inv s' ∧ Inv o' ∧ o'.map = #[] ∧ o'.size = 0 ∧ o'.heap = #[] ∧ o'.qp = #[] ∧
      ∀ k, s'.abs k = if o.size > s.size then (o.abs k).or (s.abs k) else (s.abs k).or (o.abs k) := by
  obtain ⟨s', o', hp, hwf, howf, t1, t2, t3, t4, habs⟩ := append_safe hs ho
  refine ⟨s', o', hp, ⟨hwf, ?_⟩, ⟨howf, fun p hp hps => by omega⟩, t1, t4, t2, t3, habs⟩
  obtain ⟨s'', h1, _, _, _, hm⟩ := heapBuild_spec (wf_append_fst hs ho)
  rw [append_eval, h1] at hp
  cases hp; exact hm

theorem fromVec_spec (v : Array (Item × P)) :
    ∃ s', fromVec v = .ok s' ∧ Inv s' ∧ ∀ k, s'.abs k = v.toList.find? (fun e => e.1.key == k) := by
  obtain ⟨s', hp, hwf, habs⟩ := fromVec_safe v
  exact ⟨s', hp, ⟨hwf, heapBuild_maxHeap (wf_fromVec v) s' hp⟩, habs⟩

theorem fromIter_spec (lo : Nat) (xs : Array (Item × P)) (hlo : lo < capLimit) :
    ∃ s', fromIter lo xs = .ok s' ∧ Inv s' ∧ ∀ k, s'.abs k = xs.toList.reverse.find? (fun e => e.1.key == k) := by
  obtain ⟨s', hp, hwf, habs⟩ := fromIter_safe lo xs hlo
  exact ⟨s', hp, ⟨hwf, heapBuild_maxHeap (wf_fromIter xs) s' (by rw [← fromIter_of_lt xs hlo]; exact hp)⟩, habs⟩

theorem ofStore_spec {s : Store P} (h : s.WF) :
    ∃ s', ofStore s = .ok s' ∧ Inv s' ∧ s'.map = s.map ∧ s'.size = s.size := by
  obtain ⟨s', hp, hwf, hm, hsz⟩ := ofStore_safe h
  exact ⟨s', hp, ⟨hwf, heapBuild_maxHeap h s' hp⟩, hm, hsz⟩

/-- **`Deserialize`** is total: EVERY pair sequence, under EVERY announced length, yields a queue satisfying the invariant -/
theorem deserialize_spec (hint : Option Nat) (xs : Array (Item × P)) :
    ∃ s', deserialize hint xs = .ok s' ∧ Inv s' ∧ s'.abs = xs.foldl Store.absStep (fun _ => none) ∧
      ∀ k, s'.abs k =
        match xs.toList.reverse.find? (fun e => e.1.key == k) with
        | none => none
        | some b => some (((xs.toList.find? (fun e => e.1.key == k)).map (·.1)).getD b.1, b.2) := by
  obtain ⟨s', hp, hwf, habs, habs'⟩ := deserialize_safe hint xs
  exact ⟨s', hp, ⟨hwf, heapBuild_maxHeap (wf_visitSeq xs) s' (by rw [← deserialize_eq hint xs]; exact hp)⟩, habs, habs'⟩

/-- the per-element strategy -/
theorem pushAll_spec (l : List (Item × P)) {s : Store P} (h : Inv s) :
    ∃ s', pushAll l s = .ok s' ∧ Inv s' ∧ s'.abs = l.foldl Store.absStep s.abs := by
  obtain ⟨s', hp, hwf, habs, hord⟩ := pushAll_core l h.1
  exact ⟨s', hp, ⟨hwf, hord h.2⟩, habs⟩

/-- **`Extend::extend`**, for EVERY `lo` below the capacity limit: both strategies give the same contents, payloads included -/
theorem extend_spec {s : Store P} (h : Inv s) (lo : Nat) (xs : Array (Item × P)) (hlo : lo < capLimit) :
    ∃ s', extend s lo xs = .ok s' ∧ Inv s' ∧ s'.abs = xs.foldl Store.absStep s.abs := by
  obtain ⟨s', hp, hwf, habs, hord⟩ := extend_core h.1 lo xs hlo
  exact ⟨s', hp, ⟨hwf, hord h.2⟩, habs⟩

theorem intoSortedVec_spec {s : Store P} (h : Inv s) :
    ∃ l, intoSortedVec s = .ok l ∧ l.length = s.size ∧ (∀ e, e ∈ l ↔ s.Mem e) ∧
      l.Pairwise (fun a b => ¬ a.2 < b.2) ∧ (l.map (·.1.key)).Nodup := by
  obtain ⟨l, h1, h2, h3, h4, h5⟩ := drainSorted_core _ h.1 (Nat.lt_succ_self _)
  exact ⟨l, h1, h2, h3, h5 h.2, h4⟩

/-! ## Non-vacuity: a concrete five-element queue satisfying the invariant, and the operations on it -/
section Examples

/-- priorities by position: 9 / 5 7 / 1 3 -/
private def ex5 : Store Nat :=
  { map := #[(⟨1, 10⟩, 5), (⟨2, 20⟩, 9), (⟨3, 30⟩, 7), (⟨4, 40⟩, 1), (⟨5, 50⟩, 3)],
    heap := #[1, 0, 2, 3, 4], qp := #[1, 0, 2, 3, 4], size := 5 }

/-- only well-formed (for `retain_mut`, `append`, `ofStore`) -/
private def exW : Store Nat :=
  { map := #[(⟨1, 10⟩, 5), (⟨2, 20⟩, 0), (⟨3, 30⟩, 7), (⟨4, 40⟩, 1), (⟨5, 50⟩, 3)],
    heap := #[1, 0, 2, 3, 4], qp := #[1, 0, 2, 3, 4], size := 5 }

private def exO : Store Nat :=
  { map := #[(⟨1, 11⟩, 8), (⟨9, 90⟩, 2)], heap := #[1, 0], qp := #[1, 0], size := 2 }

private def okR {α : Type} (r : R α) (q : α → Prop) : Prop :=
  match r with
  | .ok x => q x
  | .error _ => False

private instance {α : Type} (r : R α) (q : α → Prop) [DecidablePred q] : Decidable (okR r q) := by
  unfold okR; split <;> infer_instance

private def fYes : Item → Nat → Bool × Item × Nat := fun it p => (true, ⟨it.key, 99⟩, p + 1)
private def fNo : Item → Nat → Bool × Item × Nat := fun it p => (false, ⟨it.key, 99⟩, p - 8)
private def fDrop : Item → Nat → Bool × Item × Nat := fun it p => (p != 7, ⟨it.key, it.payload + 1⟩, 10 - p)
example : ∀ it p, (fYes it p).2.1.key = it.key := fun _ _ => rfl
example : ∀ it p, (fNo it p).2.1.key = it.key := fun _ _ => rfl
example : ∀ it p, (fDrop it p).2.1.key = it.key := fun _ _ => rfl

-- the hypothesis of every `*_spec` theorem
example : Inv ex5 ∧ 0 < ex5.size := by decide
example : exW.WF ∧ ¬ Inv exW ∧ exO.WF := by decide
-- `peek_safe`, `peekMutWrite_core`
example : peek ex5 = some (⟨2, 20⟩, 9) := by decide +kernel
example : okR (peekMutWrite ex5 (fun it => ⟨it.key, 7⟩)) (fun r => Inv r.1 ∧ r.2 = some (⟨2, 20⟩, 9) ∧
    r.1.abs 2 = some (⟨2, 7⟩, 9)) := by decide +kernel
-- `push_core`: a new key travels up one level; a stored key keeps its payload and goes to the root
example : ex5.abs 6 = none ∧ ex5.abs 4 = some (⟨4, 40⟩, 1) := by decide +kernel
example : okR (push ex5 ⟨6, 60⟩ 8) (fun r => Inv r.1 ∧ r.2 = none ∧ r.1.size = 6 ∧ r.1.heap = #[1, 0, 5, 3, 4, 2] ∧
    r.1.abs 6 = some (⟨6, 60⟩, 8)) := by decide +kernel
example : okR (push ex5 ⟨4, 0⟩ 10) (fun r => Inv r.1 ∧ r.2 = some 1 ∧ r.1.size = 5 ∧ peek r.1 = some (⟨4, 40⟩, 10)) := by
  decide +kernel
-- `pop_spec`
example : okR (pop ex5) (fun r => Inv r.1 ∧ r.2 = some (⟨2, 20⟩, 9) ∧ r.1.size = 4 ∧ r.1.abs 2 = none ∧
    peek r.1 = some (⟨3, 30⟩, 7)) := by decide +kernel
-- `popIf_spec`: both answers; with *no* the root is rewritten (9 ↦ 1) and sinks
example : okR (popIf ex5 fYes) (fun r => Inv r.1 ∧ r.2 = some (⟨2, 99⟩, 10) ∧ r.1.size = 4) := by decide +kernel
example : okR (popIf ex5 fNo) (fun r => Inv r.1 ∧ r.2 = none ∧ r.1.size = 5 ∧ r.1.abs 2 = some (⟨2, 99⟩, 1) ∧
    peek r.1 = some (⟨3, 30⟩, 7)) := by decide +kernel
-- `changePriority_core`, `changePriorityBy_core`, `remove_core`: stored and absent key
example : okR (changePriority ex5 2 0) (fun r => Inv r.1 ∧ r.2 = some 9 ∧ r.1.abs 2 = some (⟨2, 20⟩, 0)) := by
  decide +kernel
example : okR (changePriority ex5 6 0) (fun r => r.1.map = ex5.map ∧ r.1.heap = ex5.heap ∧ r.1.ticks = ex5.ticks ∧
    r.2 = none) := by decide +kernel
example : okR (changePriorityBy ex5 4 (· + 50)) (fun r => Inv r.1 ∧ r.2 = true ∧ peek r.1 = some (⟨4, 40⟩, 51)) := by
  decide +kernel
example : okR (remove ex5 1) (fun r => Inv r.1 ∧ r.2 = some (⟨1, 10⟩, 5) ∧ r.1.size = 4 ∧ r.1.abs 1 = none) := by
  decide +kernel
example : okR (remove ex5 6) (fun r => r.1.map = ex5.map ∧ r.2 = none) := by decide +kernel
-- `pushIncrease_spec` / `pushDecrease_spec`: all three cases
example : okR (pushIncrease ex5 ⟨6, 60⟩ 8) (fun r => Inv r.1 ∧ r.2 = none ∧ r.1.size = 6) := by decide +kernel
example : okR (pushIncrease ex5 ⟨4, 0⟩ 8) (fun r => Inv r.1 ∧ r.2 = some 1 ∧ r.1.abs 4 = some (⟨4, 40⟩, 8)) := by
  decide +kernel
example : okR (pushIncrease ex5 ⟨4, 0⟩ 1) (fun r => r.1.map = ex5.map ∧ r.1.heap = ex5.heap ∧ r.2 = some 1 ∧
    r.1.ticks = ex5.ticks + 1) := by decide +kernel
example : okR (pushDecrease ex5 ⟨2, 0⟩ 4) (fun r => Inv r.1 ∧ r.2 = some 9 ∧ r.1.abs 2 = some (⟨2, 20⟩, 4)) := by
  decide +kernel
example : okR (pushDecrease ex5 ⟨2, 0⟩ 12) (fun r => r.1.map = ex5.map ∧ r.2 = some 12) := by decide +kernel
-- bulk operations: the input need not be ordered
example : okR (retainMut exW fDrop) (fun s' => Inv s' ∧ s'.size = 4 ∧ s'.abs 3 = none ∧ s'.abs 2 = some (⟨2, 21⟩, 10)) := by
  decide +kernel
example : okR (append exW exO) (fun r => Inv r.1 ∧ r.1.size = 6 ∧ Inv r.2 ∧ r.2.size = 0 ∧
    r.1.abs 1 = some (⟨1, 10⟩, 5) ∧ r.1.abs 9 = some (⟨9, 90⟩, 2)) := by decide +kernel
example : okR (fromVec #[(⟨1, 0⟩, 5), (⟨1, 9⟩, 7), (⟨2, 0⟩, 8)]) (fun s' => Inv s' ∧ s'.size = 2 ∧
    s'.abs 1 = some (⟨1, 0⟩, 5)) := by decide +kernel
example : okR (fromIter 2 #[(⟨1, 0⟩, 5), (⟨1, 9⟩, 7), (⟨2, 0⟩, 8)]) (fun s' => Inv s' ∧ s'.size = 2 ∧
    s'.abs 1 = some (⟨1, 9⟩, 7)) := by decide +kernel
example : okR (deserialize (some 3) #[(⟨1, 0⟩, 5), (⟨1, 9⟩, 7), (⟨2, 0⟩, 8)]) (fun s' => Inv s' ∧ s'.size = 2 ∧
    s'.abs 1 = some (⟨1, 0⟩, 7)) := by decide +kernel
example : okR (ofStore exW) (fun s' => Inv s' ∧ s'.map = exW.map) := by decide +kernel
-- `extend_spec`: both strategies are reachable, and both give the same contents
example : (if (0 : Nat) ≠ 0 then betterToRebuild 8 0 else false) = false ∧
    (if (17 : Nat) ≠ 0 then betterToRebuild 8 17 else false) = true := by decide +kernel
example : okR (extend ex5 0 #[(⟨4, 0⟩, 9), (⟨7, 0⟩, 2), (⟨7, 1⟩, 6)]) (fun s' => Inv s' ∧ s'.size = 6 ∧
    s'.abs 4 = some (⟨4, 40⟩, 9) ∧ s'.abs 7 = some (⟨7, 0⟩, 6)) := by decide +kernel
-- the rebuild strategy on an eight-element queue (`lo = 17`) against the per-element strategy (`lo = 0`)
example : okR (fromVec (Array.ofFn (n := 8) fun i => ((⟨i.val, 0⟩ : Item), i.val))) (fun s => Inv s ∧ s.size = 8 ∧
    okR (extend s 17 #[(⟨4, 1⟩, 9), (⟨70, 0⟩, 2), (⟨70, 1⟩, 6)]) (fun s' => Inv s' ∧ s'.size = 9 ∧
      s'.abs 4 = some (⟨4, 0⟩, 9) ∧ s'.abs 70 = some (⟨70, 0⟩, 6)) ∧
    okR (extend s 0 #[(⟨4, 1⟩, 9), (⟨70, 0⟩, 2), (⟨70, 1⟩, 6)]) (fun s' => Inv s' ∧ s'.size = 9 ∧
      s'.abs 4 = some (⟨4, 0⟩, 9) ∧ s'.abs 70 = some (⟨70, 0⟩, 6))) := by decide +kernel
-- `intoSortedVec_spec`
example : okR (intoSortedVec ex5) (fun l => l = [(⟨2, 20⟩, 9), (⟨3, 30⟩, 7), (⟨1, 10⟩, 5), (⟨5, 50⟩, 3), (⟨4, 40⟩, 1)]) := by
  decide +kernel

end Examples

end MaxQ
end PQ
