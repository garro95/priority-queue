import PQ.Lemmas.SrcEquivBulk
/-!
# Source-translated tie: bulk operations of the queues

`retain_mut`, `retain`, `append`, `From<Vec>`, `FromIterator`, `From<the other queue kind>`, `Deserialize` of both queues:
the store-level function, then `heap_build`.  The fuel bounds are stated with the size of the store that is rebuilt.
-/
set_option linter.unusedSimpArgs false
set_option linter.unusedSectionVars false
namespace PQ.SrcEquiv
open PQ PQ.Src PQ.SrcGen
variable {P : Type} [LT P] [DecidableLT P]

/-! ## queue level: `retain_mut`, `retain`, `append`, `From<Vec>`, `FromIterator`, `From<other queue>`, `Deserialize` -/

theorem call_pqHeapBuild (s : Store P) (n : Nat) (h : n ≥ s.size + 3) :
    callWith (exec prog n) prog .pqHeapBuild s [] [] [] = (fun s' => (s', Val.unit)) <$> MaxQ.heapBuild s :=
  pqHeapBuild s n h

theorem call_dqHeapBuild (s : Store P) (n : Nat) (h : n ≥ s.size + 4) :
    callWith (exec prog n) prog .dqHeapBuild s [] [] [] = (fun s' => (s', Val.unit)) <$> DQ.heapBuild s :=
  dqHeapBuild s n h

theorem call_storeRetainMut (s : Store P) (f : Item → P → Bool × Item × P) (n : Nat) :
    callWith (exec prog (n + 1)) prog .storeRetainMut s [] [] [Val.pred f] = pure (s.retainMut f, Val.unit) :=
  storeRetainMut s f (n + 1) (by omega)

theorem call_storeRetain (s : Store P) (g : Item → P → Bool) (n : Nat) :
    callWith (exec prog (n + 2)) prog .storeRetain s [] [] [Val.predRO g]
      = pure (s.retainMut (fun i p => (g i p, i, p)), Val.unit) :=
  storeRetain s g (n + 2) (by omega)

theorem call_storeAppend (s o : Store P) (n : Nat) :
    callWith (exec prog (n + 2)) prog .storeAppend s [] [] [Val.store o]
      = pure ((s.append o).1, Val.store (s.append o).2) :=
  storeAppend s o (n + 2) (by omega)

theorem call_storeFromVec (s : Store P) (v : Array (Item × P)) (hv : v.size < capLimit) (n : Nat) :
    callWith (exec prog (n + 1)) prog .storeFromVec s [] [] [Val.entries v] = pure (Store.fromVec v, Val.unit) :=
  storeFromVec s v hv (n + 1) (by omega)

theorem call_storeFromIter (s : Store P) (lo : Nat) (xs : Array (Item × P)) (n : Nat) :
    callWith (exec prog (n + 1)) prog .storeFromIter s [] [] [Val.iter lo xs]
      = (do reserveC lo; pure (Store.fromIter xs, Val.unit)) :=
  storeFromIter s lo xs (n + 1) (by omega)

theorem call_storeVisitSeq (s : Store P) (hint : Option Nat) (xs : Array (Item × P)) (n : Nat) :
    callWith (exec prog (n + 1)) prog .storeVisitSeq s [] [] [Val.seq hint xs]
      = (do (match hint with
              | some h => reserveC (Arith.deserPrealloc h)
              | none => pure ())
            pure (Store.visitSeq xs, Val.unit)) :=
  storeVisitSeq s hint xs (n + 1) (by omega)

/-- `PriorityQueue::retain_mut` = `MaxQ.retainMut` -/
theorem pqRetainMut (s : Store P) (f : Item → P → Bool × Item × P) (fuel : Nat) (h : fuel ≥ (s.retainMut f).size + 5) :
    Src.run SrcGen.prog fuel .pqRetainMut s [] [] [Val.pred f] = (fun s' => (s', Val.unit)) <$> MaxQ.retainMut s f := by
  obtain ⟨n, rfl⟩ : ∃ n, fuel = n + 3 := ⟨fuel - 3, by omega⟩
  src_enter
  unfold MaxQ.retainMut
  src_eval [pqRetainMut_body, call_storeRetainMut]
  rw [call_pqHeapBuild _ _ (by omega)]
  src_eval

/-- `PriorityQueue::retain(g)` = `MaxQ.retainMut` with the predicate that leaves item and priority alone -/
theorem pqRetain (s : Store P) (g : Item → P → Bool) (fuel : Nat)
    (h : fuel ≥ (s.retainMut (fun i p => (g i p, i, p))).size + 5) :
    Src.run SrcGen.prog fuel .pqRetain s [] [] [Val.predRO g]
      = (fun s' => (s', Val.unit)) <$> MaxQ.retainMut s (fun i p => (g i p, i, p)) := by
  obtain ⟨n, rfl⟩ : ∃ n, fuel = n + 3 := ⟨fuel - 3, by omega⟩
  src_enter
  unfold MaxQ.retainMut
  src_eval [pqRetain_body, call_storeRetain]
  rw [call_pqHeapBuild _ _ (by omega)]
  src_eval

/-- `PriorityQueue::append` = `MaxQ.append`; the IR function hands back `other`'s store -/
theorem pqAppend (s o : Store P) (fuel : Nat) (h : fuel ≥ (s.append o).1.size + 5) :
    Src.run SrcGen.prog fuel .pqAppend s [] [] [Val.store o]
      = (fun r => (r.1, Val.store r.2)) <$> MaxQ.append s o := by
  obtain ⟨n, rfl⟩ : ∃ n, fuel = n + 3 := ⟨fuel - 3, by omega⟩
  src_enter
  unfold MaxQ.append
  src_eval [pqAppend_body, call_storeAppend]
  rw [call_pqHeapBuild _ _ (by omega)]
  src_eval

/-- `From<Vec<(I, P)>> for PriorityQueue` = `MaxQ.fromVec` -/
theorem pqFromVec (s : Store P) (v : Array (Item × P)) (hv : v.size < capLimit) (fuel : Nat)
    (h : fuel ≥ (Store.fromVec v : Store P).size + 5) :
    Src.run SrcGen.prog fuel .pqFromVec s [] [] [Val.entries v] = (fun s' => (s', Val.unit)) <$> MaxQ.fromVec v := by
  obtain ⟨n, rfl⟩ : ∃ n, fuel = n + 3 := ⟨fuel - 3, by omega⟩
  src_enter
  unfold MaxQ.fromVec
  src_eval [pqFromVec_body, call_storeFromVec _ _ hv]
  rw [call_pqHeapBuild _ _ (by omega)]
  src_eval

/-- `FromIterator for PriorityQueue` = `MaxQ.fromIter` -/
theorem pqFromIter (s : Store P) (lo : Nat) (xs : Array (Item × P)) (fuel : Nat)
    (h : fuel ≥ (Store.fromIter xs : Store P).size + 5) :
    Src.run SrcGen.prog fuel .pqFromIter s [] [] [Val.iter lo xs] = (fun s' => (s', Val.unit)) <$> MaxQ.fromIter lo xs := by
  obtain ⟨n, rfl⟩ : ∃ n, fuel = n + 3 := ⟨fuel - 3, by omega⟩
  src_enter
  unfold MaxQ.fromIter
  src_eval [pqFromIter_body, call_storeFromIter]
  refine bind_congr_ok fun _ _ => ?_
  rw [call_pqHeapBuild _ _ (by omega)]
  src_eval

/-- `From<DoublePriorityQueue> for PriorityQueue` = `MaxQ.ofStore` -/
theorem pqFromQueue (s : Store P) (fuel : Nat) (h : fuel ≥ s.size + 4) :
    Src.run SrcGen.prog fuel .pqFromQueue s [] = (fun s' => (s', Val.unit)) <$> MaxQ.ofStore s := by
  rw [run_eq_pos rfl (by omega)]
  unfold MaxQ.ofStore
  src_eval [pqFromQueue_body]
  rw [call_pqHeapBuild _ _ (by omega)]
  src_eval

/-- `Deserialize for PriorityQueue` = `MaxQ.deserialize` (the dispatch of serde to `visit_seq` is trusted) -/
theorem pqDeserialize (s : Store P) (hint : Option Nat) (xs : Array (Item × P)) (fuel : Nat)
    (h : fuel ≥ (Store.visitSeq xs : Store P).size + 5) :
    Src.run SrcGen.prog fuel .pqDeserialize s [] [] [Val.seq hint xs]
      = (fun s' => (s', Val.unit)) <$> MaxQ.deserialize hint xs := by
  obtain ⟨n, rfl⟩ : ∃ n, fuel = n + 3 := ⟨fuel - 3, by omega⟩
  src_enter
  unfold MaxQ.deserialize
  src_eval [pqDeserialize_body, call_storeVisitSeq]
  cases hint with
  | none =>
    src_eval
    rw [call_pqHeapBuild _ _ (by omega)]
    src_eval
  | some hh =>
    simp only [Arith.deserPrealloc, bind_assoc]
    refine bind_congr_ok fun _ _ => ?_
    rw [call_pqHeapBuild _ _ (by omega)]
    src_eval
/-- `DoublePriorityQueue::retain_mut` = `DQ.retainMut` -/
theorem dqRetainMut (s : Store P) (f : Item → P → Bool × Item × P) (fuel : Nat) (h : fuel ≥ (s.retainMut f).size + 6) :
    Src.run SrcGen.prog fuel .dqRetainMut s [] [] [Val.pred f] = (fun s' => (s', Val.unit)) <$> DQ.retainMut s f := by
  obtain ⟨n, rfl⟩ : ∃ n, fuel = n + 3 := ⟨fuel - 3, by omega⟩
  src_enter
  unfold DQ.retainMut
  src_eval [dqRetainMut_body, call_storeRetainMut]
  rw [call_dqHeapBuild _ _ (by omega)]
  src_eval

/-- `DoublePriorityQueue::retain(g)` = `DQ.retainMut` with the predicate that leaves item and priority alone -/
theorem dqRetain (s : Store P) (g : Item → P → Bool) (fuel : Nat)
    (h : fuel ≥ (s.retainMut (fun i p => (g i p, i, p))).size + 6) :
    Src.run SrcGen.prog fuel .dqRetain s [] [] [Val.predRO g]
      = (fun s' => (s', Val.unit)) <$> DQ.retainMut s (fun i p => (g i p, i, p)) := by
  obtain ⟨n, rfl⟩ : ∃ n, fuel = n + 3 := ⟨fuel - 3, by omega⟩
  src_enter
  unfold DQ.retainMut
  src_eval [dqRetain_body, call_storeRetain]
  rw [call_dqHeapBuild _ _ (by omega)]
  src_eval

/-- `DoublePriorityQueue::append` = `DQ.append`; the IR function hands back `other`'s store -/
theorem dqAppend (s o : Store P) (fuel : Nat) (h : fuel ≥ (s.append o).1.size + 6) :
    Src.run SrcGen.prog fuel .dqAppend s [] [] [Val.store o]
      = (fun r => (r.1, Val.store r.2)) <$> DQ.append s o := by
  obtain ⟨n, rfl⟩ : ∃ n, fuel = n + 3 := ⟨fuel - 3, by omega⟩
  src_enter
  unfold DQ.append
  src_eval [dqAppend_body, call_storeAppend]
  rw [call_dqHeapBuild _ _ (by omega)]
  src_eval

/-- `From<Vec<(I, P)>> for DoublePriorityQueue` = `DQ.fromVec` -/
theorem dqFromVec (s : Store P) (v : Array (Item × P)) (hv : v.size < capLimit) (fuel : Nat)
    (h : fuel ≥ (Store.fromVec v : Store P).size + 6) :
    Src.run SrcGen.prog fuel .dqFromVec s [] [] [Val.entries v] = (fun s' => (s', Val.unit)) <$> DQ.fromVec v := by
  obtain ⟨n, rfl⟩ : ∃ n, fuel = n + 3 := ⟨fuel - 3, by omega⟩
  src_enter
  unfold DQ.fromVec
  src_eval [dqFromVec_body, call_storeFromVec _ _ hv]
  rw [call_dqHeapBuild _ _ (by omega)]
  src_eval

/-- `FromIterator for DoublePriorityQueue` = `DQ.fromIter` -/
theorem dqFromIter (s : Store P) (lo : Nat) (xs : Array (Item × P)) (fuel : Nat)
    (h : fuel ≥ (Store.fromIter xs : Store P).size + 6) :
    Src.run SrcGen.prog fuel .dqFromIter s [] [] [Val.iter lo xs] = (fun s' => (s', Val.unit)) <$> DQ.fromIter lo xs := by
  obtain ⟨n, rfl⟩ : ∃ n, fuel = n + 3 := ⟨fuel - 3, by omega⟩
  src_enter
  unfold DQ.fromIter
  src_eval [dqFromIter_body, call_storeFromIter]
  refine bind_congr_ok fun _ _ => ?_
  rw [call_dqHeapBuild _ _ (by omega)]
  src_eval

/-- `From<PriorityQueue> for DoublePriorityQueue` = `DQ.ofStore` -/
theorem dqFromQueue (s : Store P) (fuel : Nat) (h : fuel ≥ s.size + 5) :
    Src.run SrcGen.prog fuel .dqFromQueue s [] = (fun s' => (s', Val.unit)) <$> DQ.ofStore s := by
  rw [run_eq_pos rfl (by omega)]
  unfold DQ.ofStore
  src_eval [dqFromQueue_body]
  rw [call_dqHeapBuild _ _ (by omega)]
  src_eval

/-- `Deserialize for DoublePriorityQueue` = `DQ.deserialize` (the dispatch of serde to `visit_seq` is trusted) -/
theorem dqDeserialize (s : Store P) (hint : Option Nat) (xs : Array (Item × P)) (fuel : Nat)
    (h : fuel ≥ (Store.visitSeq xs : Store P).size + 6) :
    Src.run SrcGen.prog fuel .dqDeserialize s [] [] [Val.seq hint xs]
      = (fun s' => (s', Val.unit)) <$> DQ.deserialize hint xs := by
  obtain ⟨n, rfl⟩ : ∃ n, fuel = n + 3 := ⟨fuel - 3, by omega⟩
  src_enter
  unfold DQ.deserialize
  src_eval [dqDeserialize_body, call_storeVisitSeq]
  cases hint with
  | none =>
    src_eval
    rw [call_dqHeapBuild _ _ (by omega)]
    src_eval
  | some hh =>
    simp only [Arith.deserPrealloc, bind_assoc]
    refine bind_congr_ok fun _ _ => ?_
    rw [call_dqHeapBuild _ _ (by omega)]
    src_eval
end PQ.SrcEquiv
