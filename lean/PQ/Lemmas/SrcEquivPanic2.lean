import PQ.Lemmas.SrcEquivPanic
import PQ.Lemmas.SrcEquivExtend
/-!
# Unwinding tie: what every later proof of it uses

* Code without a comparison runs under the fused interpreter as under the plain one (`execStepF_noPanic`,
  `execF_noPanic`); a call of a comparison-free function is the plain call (`callF_pf`), so the plain tie's `call_*`
  lemmas serve here too.
* A frame without a guard seen from outside (`frame0`, `runF_frame0`), and how `toCR` / `frame0` pass over the steps of a
  body (`…_liftF_bind`, `…_cmpAt_bind`, `…_fromCall_bind`); `toCR_bind_of` composes a part that is already described
  with what follows it.
* At the end the two tactics of the later files: `srcF_eval` runs a body symbolically down to `liftF`, `cmpAt` and
  `fromCall` steps, `srcF_cr` carries `frame0` / `toCR` over those steps, which leaves an equation in the crash monad.
  A proof of a public operation alternates them with the call lemma of the callee that compares.
-/
set_option linter.unusedSimpArgs false
set_option linter.unusedSectionVars false
namespace PQ.SrcEquivF
open PQ PQ.Src PQ.SrcGen PQ.SrcF PQ.Crash PQ.SrcEquiv
variable {P : Type} [LT P] [DecidableLT P]

/-! ## statements without panic points run as in the plain interpreter -/

def NoCmpB : BExpr → Bool
  | .ltP _ _ | .gtP _ _ | .prioMapOrGt _ _ | .prioMapOrLt _ _ => false
  | .and a b => NoCmpB a && NoCmpB b
  | .not a => NoCmpB a
  | _ => true

theorem evalBF_noCmp (fuse : Nat) (callf : CallF P) : ∀ (b : BExpr) (st : St P), NoCmpB b = true →
    evalBF fuse callf st b = liftF (evalB callf st b) := by
  intro b
  induction b with
  | and a b iha ihb =>
    intro st h
    simp only [NoCmpB, Bool.and_eq_true] at h
    simp only [evalBF, evalB, iha st h.1, liftF_bind]
    refine bind_congr fun r => ?_
    split
    · exact ihb _ h.2
    · rfl
  | not a iha =>
    intro st h
    simp only [NoCmpB] at h
    simp only [evalBF, evalB, iha st h, liftF_bind, liftF_pure]
  | ltP _ _ | gtP _ _ | prioMapOrGt _ _ | prioMapOrLt _ _ => intro st h; simp [NoCmpB] at h
  | _ => intro st _; rfl

/-- no panic point and no `while`/`for … rev` loop: leaves, `seq`, conditionals on comparison-free conditions, the IndexMap
look-ups, `for` over entries, and calls of functions in the set `PF` -/
def NoPanic (PF : FnId → Bool) : Stmt → Bool
  | .seq a b => NoPanic PF a && NoPanic PF b
  | .ite c t e => NoCmpB c && NoPanic PF t && NoPanic PF e
  | .match2 c1 c2 a b c d => NoCmpB c1 && NoCmpB c2 && NoPanic PF a && NoPanic PF b && NoPanic PF c && NoPanic PF d
  | .ifHeapGet _ _ t f => NoPanic PF t && NoPanic PF f
  | .entryMatch _ _ o v => NoPanic PF o && NoPanic PF v
  | .getFullMutThen _ _ b n => NoPanic PF b && NoPanic PF n
  | .removeFullThen _ _ b _ => NoPanic PF b
  | .forEntries _ _ _ b => NoPanic PF b
  | .callN _ f _ _ | .call f _ _ | .callV _ f _ | .callX _ f _ _ _ => PF f
  | .while _ _ | .forRev _ _ _ | .optCallN _ _ _ _ _ | .whileSomeCall _ _ _
  | .firstMinBy _ _ _ _ | .lastMaxBy _ _ _ _ | .lastMaxByPos _ _ _ | .mapRemoved _ _ _
  | .mapChanged _ _ _ _ | .mapChangedBy _ _ _ _ => false
  | _ => true

def liftCall {α : Type} : R α → Except (CallStop P) α
  | .ok a => .ok a
  | .error f => .error (.fault f)

theorem fromCall_liftCall {α : Type} (st : St P) (wb : Option Var) (x : R α) :
    fromCall st wb (liftCall x) = liftF x := by
  cases x <;> rfl

theorem forListF_lift (bodyF : Item × P → St P → CF P (St P × Flow P)) (body : Item × P → St P → R (St P × Flow P))
    (h : ∀ e st, bodyF e st = liftF (body e st)) : ∀ (l : List (Item × P)) (st : St P),
    forListF bodyF l st = liftF (forList body l st) := by
  intro l
  induction l with
  | nil => intro st; rfl
  | cons e es ih =>
    intro st
    rw [forListF, forList, h, liftF_bind]
    refine bind_congr fun r => ?_
    obtain ⟨st', fl⟩ := r
    cases fl with
    | normal => exact ih st'
    | brk => rfl
    | ret v => rfl

theorem exec_seq (prog : Prog) (n : Nat) (a b : Stmt) (st : St P) :
    exec prog (n + 1) (.seq a b) st = (exec prog (n + 1) a st >>= fun r => match r.2 with
      | .normal => exec prog (n + 1) b r.1
      | fl => pure (r.1, fl)) := rfl
theorem exec_ite (prog : Prog) (n : Nat) (c : BExpr) (t e : Stmt) (st : St P) :
    exec prog (n + 1) (.ite c t e) st = (evalB (callWith (exec prog n) prog) st c >>= fun r =>
      if r.2 then exec prog (n + 1) t (st.setS r.1) else exec prog (n + 1) e (st.setS r.1)) := rfl
theorem exec_match2 (prog : Prog) (n : Nat) (c1 c2 : BExpr) (tt tf ft ff : Stmt) (st : St P) :
    exec prog (n + 1) (.match2 c1 c2 tt tf ft ff) st = (evalB (callWith (exec prog n) prog) st c1 >>= fun r1 =>
      evalB (callWith (exec prog n) prog) (st.setS r1.1) c2 >>= fun r2 =>
        match r1.2, r2.2 with
        | true, true => exec prog (n + 1) tt (st.setS r2.1)
        | true, false => exec prog (n + 1) tf (st.setS r2.1)
        | false, true => exec prog (n + 1) ft (st.setS r2.1)
        | false, false => exec prog (n + 1) ff (st.setS r2.1)) := rfl
theorem exec_ifHeapGet (prog : Prog) (n : Nat) (v : Var) (e : NExpr) (t f : Stmt) (st : St P) :
    exec prog (n + 1) (.ifHeapGet v e t f) st = (evalN st e >>= fun i =>
      match st.s.heap[i]? with
      | some x => exec prog (n + 1) t (st.setN v x)
      | none => exec prog (n + 1) f st) := rfl
theorem exec_entryMatch (prog : Prog) (n : Nat) (iv eidx : Var) (occ vac : Stmt) (st : St P) :
    exec prog (n + 1) (.entryMatch iv eidx occ vac) st = (match st.v iv with
      | some (.item it) =>
        match st.s.map.find? it.key with
        | some i => exec prog (n + 1) occ (st.setN eidx i)
        | none => exec prog (n + 1) vac st
      | _ => .error stuck) := rfl
theorem exec_getFullMutThen (prog : Prog) (n : Nat) (key vidx : Var) (body onNone : Stmt) (st : St P) :
    exec prog (n + 1) (.getFullMutThen key vidx body onNone) st = (match st.s.map.getFull (st.n key) with
      | some (index, _, _) => exec prog (n + 1) body (st.setN vidx index)
      | none => exec prog (n + 1) onNone st) := rfl
theorem exec_removeFullThen (prog : Prog) (n : Nat) (key vi : Var) (body : Stmt) (res : NExpr) (st : St P) :
    exec prog (n + 1) (.removeFullThen key vi body res) st = (match st.s.map.swapRemoveFull (st.n key) with
      | none => pure (st, .ret (.optRemoved none))
      | some (i, e, map) =>
        exec prog (n + 1) body ((st.setS { st.s with map := map }).setN vi i) >>= fun r =>
          match r.2 with
          | .normal => evalN r.1 res >>= fun p => pure (r.1, .ret (.optRemoved (some (e.1, e.2, p))))
          | _ => .error stuck) := rfl

theorem exec_callN (prog : Prog) (n : Nat) (v : Var) (f : FnId) (nargs : List NExpr) (pargs : List PExpr) (st : St P) :
    exec prog (n + 1) (.callN v f nargs pargs) st = (evalNs st nargs >>= fun xs =>
      evalPs (callWith (exec prog n) prog) st pargs >>= fun r =>
        callWith (exec prog n) prog f r.1 xs r.2 [] >>= fun c =>
          match c.2 with
          | .nat x => pure ((st.setS c.1).setN v x, Flow.normal)
          | _ => .error stuck) := rfl
theorem exec_call (prog : Prog) (n : Nat) (f : FnId) (nargs : List NExpr) (pargs : List PExpr) (st : St P) :
    exec prog (n + 1) (.call f nargs pargs) st = (evalNs st nargs >>= fun xs =>
      evalPs (callWith (exec prog n) prog) st pargs >>= fun r =>
        callWith (exec prog n) prog f r.1 xs r.2 [] >>= fun c => pure (st.setS c.1, Flow.normal)) := rfl
theorem exec_callV (prog : Prog) (n : Nat) (v : Var) (f : FnId) (nargs : List NExpr) (st : St P) :
    exec prog (n + 1) (.callV v f nargs) st = (evalNs st nargs >>= fun xs =>
      callWith (exec prog n) prog f st.s xs [] [] >>= fun c => pure ((st.setS c.1).setV v c.2, Flow.normal)) := rfl
theorem exec_callX (prog : Prog) (n : Nat) (v : Var) (f : FnId) (nargs : List NExpr) (pargs : List PExpr)
    (vargs : List Var) (st : St P) :
    exec prog (n + 1) (.callX v f nargs pargs vargs) st = (evalNs st nargs >>= fun xs =>
      evalPs (callWith (exec prog n) prog) st pargs >>= fun r => evalVs st vargs >>= fun vs =>
        callWith (exec prog n) prog f r.1 xs r.2 vs >>= fun c => pure ((st.setS c.1).setV v c.2, Flow.normal)) := rfl
theorem exec_forEntries (prog : Prog) (n : Nat) (src iv pv : Var) (body : Stmt) (st : St P) :
    exec prog (n + 1) (.forEntries src iv pv body) st = (match st.v src with
      | some (.entries a) =>
        forList (fun e st => exec prog (n + 1) body ((st.setV iv (.item e.1)).setP pv e.2)) a.toList st
      | some (.iter _ a) =>
        forList (fun e st => exec prog (n + 1) body ((st.setV iv (.item e.1)).setP pv e.2)) a.toList st
      | some (.seq _ a) =>
        forList (fun e st => exec prog (n + 1) body ((st.setV iv (.item e.1)).setP pv e.2)) a.toList st
      | _ => .error stuck) := rfl

section
variable (fuse : Nat) (dropFuse : Bool) (plain : Stmt → St P → R (St P × Flow P)) (callf : CallF P)
  (recF : Stmt → St P → CF P (St P × Flow P)) (callfF : CallFF P) (byRef : FnId → Bool) (st : St P)
theorem esF_call (f : FnId) (nargs : List NExpr) (pargs : List PExpr) :
    execStepF fuse dropFuse plain callf recF callfF byRef (.call f nargs pargs) st =
      (liftF (evalNs st nargs) >>= fun xs => liftF (evalPs callf st pargs) >>= fun r =>
        fromCall (st.setS r.1) none (callfF f r.1 xs r.2 []) >>= fun c => pure (st.setS c.1, Flow.normal)) := rfl
theorem esF_callV (v : Var) (f : FnId) (nargs : List NExpr) :
    execStepF fuse dropFuse plain callf recF callfF byRef (.callV v f nargs) st =
      (liftF (evalNs st nargs) >>= fun xs =>
        fromCall st none (callfF f st.s xs [] []) >>= fun c => pure ((st.setS c.1).setV v c.2, Flow.normal)) := rfl
theorem esF_callX (v : Var) (f : FnId) (nargs : List NExpr) (pargs : List PExpr) (vargs : List Var) :
    execStepF fuse dropFuse plain callf recF callfF byRef (.callX v f nargs pargs vargs) st =
      (liftF (evalNs st nargs) >>= fun xs => liftF (evalPs callf st pargs) >>= fun r => liftF (evalVs st vargs) >>= fun vs =>
        fromCall (st.setS r.1) none (callfF f r.1 xs r.2 vs) >>= fun c =>
          pure ((st.setS c.1).setV v c.2, Flow.normal)) := rfl
theorem esF_forEntries (src iv pv : Var) (body : Stmt) :
    execStepF fuse dropFuse plain callf recF callfF byRef (.forEntries src iv pv body) st = (match st.v src with
      | some (.entries a) =>
        forListF (fun e st => execStepF fuse dropFuse plain callf recF callfF byRef body
          ((st.setV iv (.item e.1)).setP pv e.2)) a.toList st
      | some (.iter _ a) =>
        forListF (fun e st => execStepF fuse dropFuse plain callf recF callfF byRef body
          ((st.setV iv (.item e.1)).setP pv e.2)) a.toList st
      | some (.seq _ a) =>
        forListF (fun e st => execStepF fuse dropFuse plain callf recF callfF byRef body
          ((st.setV iv (.item e.1)).setP pv e.2)) a.toList st
      | _ => .error (.fault stuck)) := rfl
theorem esF_optCallN (v : Var) (f : FnId) (nargs : List NExpr) (tS tN : Stmt) :
    execStepF fuse dropFuse plain callf recF callfF byRef (.optCallN v f nargs tS tN) st =
      (liftF (evalNs st nargs) >>= fun xs => fromCall st none (callfF f st.s xs [] []) >>= fun c =>
        match c.2 with
        | .optNat (some x) => execStepF fuse dropFuse plain callf recF callfF byRef tS ((st.setS c.1).setN v x)
        | .optNat none => execStepF fuse dropFuse plain callf recF callfF byRef tN (st.setS c.1)
        | _ => .error (.fault stuck)) := rfl
theorem esF_forRev (v : Var) (hi : NExpr) (body : Stmt) :
    execStepF fuse dropFuse plain callf recF callfF byRef (.forRev v hi body) st =
      (liftF (evalN st hi) >>= fun h =>
        forDownF (fun k st => execStepF fuse dropFuse plain callf recF callfF byRef body (st.setN v k)) h st) := rfl
theorem esF_mapRemoved (key vpos : Var) (body : Stmt) :
    execStepF fuse dropFuse plain callf recF callfF byRef (.mapRemoved key vpos body) st =
      (fromCall st none (callfF .storeRemove st.s [st.n key] [] []) >>= fun c =>
        match c.2 with
        | .optRemoved none => pure (st.setS c.1, .ret (.optEntry none))
        | .optRemoved (some (it, p, pos)) =>
          execStepF fuse dropFuse plain callf recF callfF byRef body ((st.setS c.1).setN vpos pos) >>= fun r =>
            match r.2 with
            | .normal => pure (r.1, .ret (.optEntry (some (it, p))))
            | _ => .error (.fault stuck)
        | _ => .error (.fault stuck)) := rfl
theorem esF_mapChanged (key : Var) (p : PExpr) (vpos : Var) (body : Stmt) :
    execStepF fuse dropFuse plain callf recF callfF byRef (.mapChanged key p vpos body) st =
      (liftF (evalP callf st p) >>= fun x =>
        fromCall (st.setS x.1) none (callfF .storeChangePriority x.1 [st.n key] [x.2] []) >>= fun c =>
        match c.2 with
        | .optPPos none => pure (st.setS c.1, .ret (.optP none))
        | .optPPos (some (old, pos)) =>
          execStepF fuse dropFuse plain callf recF callfF byRef body ((st.setS c.1).setN vpos pos) >>= fun r =>
            match r.2 with
            | .normal => pure (r.1, .ret (.optP (some old)))
            | _ => .error (.fault stuck)
        | _ => .error (.fault stuck)) := rfl
theorem esF_mapChangedBy (key fv vpos : Var) (body : Stmt) :
    execStepF fuse dropFuse plain callf recF callfF byRef (.mapChangedBy key fv vpos body) st =
      (match st.v fv with
      | some g =>
        fromCall st none (callfF .storeChangePriorityBy st.s [st.n key] [] [g]) >>= fun c =>
        match c.2 with
        | .optNat none => pure (st.setS c.1, .ret (.bool false))
        | .optNat (some pos) =>
          execStepF fuse dropFuse plain callf recF callfF byRef body ((st.setS c.1).setN vpos pos) >>= fun r =>
            match r.2 with
            | .normal => pure (r.1, .ret (.bool true))
            | _ => .error (.fault stuck)
        | _ => .error (.fault stuck)
      | none => .error (.fault stuck)) := rfl
theorem esF_ifHeapGet (v : Var) (e : NExpr) (t f : Stmt) :
    execStepF fuse dropFuse plain callf recF callfF byRef (.ifHeapGet v e t f) st = (liftF (evalN st e) >>= fun i =>
      match st.s.heap[i]? with
      | some x => execStepF fuse dropFuse plain callf recF callfF byRef t (st.setN v x)
      | none => execStepF fuse dropFuse plain callf recF callfF byRef f st) := rfl
theorem esF_getFullMutThen (key vidx : Var) (body onNone : Stmt) :
    execStepF fuse dropFuse plain callf recF callfF byRef (.getFullMutThen key vidx body onNone) st =
      (match st.s.map.getFull (st.n key) with
      | some (index, _, _) => execStepF fuse dropFuse plain callf recF callfF byRef body (st.setN vidx index)
      | none => execStepF fuse dropFuse plain callf recF callfF byRef onNone st) := rfl
theorem esF_removeFullThen (key vi : Var) (body : Stmt) (res : NExpr) :
    execStepF fuse dropFuse plain callf recF callfF byRef (.removeFullThen key vi body res) st =
      (match st.s.map.swapRemoveFull (st.n key) with
      | none => pure (st, .ret (.optRemoved none))
      | some (i, e, map) =>
        execStepF fuse dropFuse plain callf recF callfF byRef body ((st.setS { st.s with map := map }).setN vi i) >>= fun r =>
          match r.2 with
          | .normal => liftF (evalN r.1 res) >>= fun p => pure (r.1, .ret (.optRemoved (some (e.1, e.2, p))))
          | _ => .error (.fault stuck)) := rfl
end

theorem execStepF_noPanic (PF : FnId → Bool) (prog : Prog) (n : Nat) (fuse : Nat) (recF : Stmt → St P → CF P (St P × Flow P))
    (callfF : CallFF P) (byRef : FnId → Bool)
    (hcall : ∀ f s na pa va, PF f = true → callfF f s na pa va = liftCall (callWith (exec prog n) prog f s na pa va)) :
    ∀ (c : Stmt) (st : St P), NoPanic PF c = true →
    execStepF fuse false (exec prog (n + 1)) (callWith (exec prog n) prog) recF callfF byRef c st
      = liftF (exec prog (n + 1) c st) := by
  intro c
  induction c with
  | seq a b iha ihb =>
    intro st h
    simp only [NoPanic, Bool.and_eq_true] at h
    rw [esF_seq, iha st h.1, exec_seq, liftF_bind]
    refine bind_congr fun r => ?_
    obtain ⟨st', fl⟩ := r
    cases fl with
    | normal => exact ihb _ h.2
    | brk => rfl
    | ret v => rfl
  | ite c t e iht ihe =>
    intro st h
    simp only [NoPanic, Bool.and_eq_true] at h
    rw [esF_ite, evalBF_noCmp _ _ _ _ h.1.1, exec_ite, liftF_bind]
    refine bind_congr fun r => ?_
    obtain ⟨s', b⟩ := r
    cases b with
    | true => exact iht _ h.1.2
    | false => exact ihe _ h.2
  | match2 c1 c2 tt tf ft ff i1 i2 i3 i4 =>
    intro st h
    simp only [NoPanic, Bool.and_eq_true] at h
    obtain ⟨⟨⟨⟨⟨h1, h2⟩, h3⟩, h4⟩, h5⟩, h6⟩ := h
    rw [esF_match2, evalBF_noCmp _ _ _ _ h1, exec_match2, liftF_bind]
    refine bind_congr fun r1 => ?_
    rw [evalBF_noCmp _ _ _ _ h2, liftF_bind]
    refine bind_congr fun r2 => ?_
    obtain ⟨s1, b1⟩ := r1
    obtain ⟨s2, b2⟩ := r2
    cases b1 <;> cases b2
    · exact i4 _ h6
    · exact i3 _ h5
    · exact i2 _ h4
    · exact i1 _ h3
  | ifHeapGet v e t f iht ihf =>
    intro st h
    simp only [NoPanic, Bool.and_eq_true] at h
    rw [esF_ifHeapGet, exec_ifHeapGet, liftF_bind]
    refine bind_congr fun i => ?_
    cases st.s.heap[i]? with
    | some x => exact iht _ h.1
    | none => exact ihf _ h.2
  | entryMatch iv eidx occ vac iho ihv =>
    intro st h
    simp only [NoPanic, Bool.and_eq_true] at h
    rw [esF_entryMatch, exec_entryMatch]
    cases st.v iv with
    | none => rfl
    | some val =>
      cases val with
      | item it =>
        simp only
        cases st.s.map.find? it.key with
        | some i => exact iho _ h.1
        | none => exact ihv _ h.2
      | _ => rfl
  | getFullMutThen key vidx body onNone ihb ihn =>
    intro st h
    simp only [NoPanic, Bool.and_eq_true] at h
    rw [esF_getFullMutThen, exec_getFullMutThen]
    cases st.s.map.getFull (st.n key) with
    | some r => exact ihb _ h.1
    | none => exact ihn _ h.2
  | removeFullThen key vi body res ihb =>
    intro st h
    simp only [NoPanic] at h
    rw [esF_removeFullThen, exec_removeFullThen]
    cases st.s.map.swapRemoveFull (st.n key) with
    | none => rfl
    | some r =>
      obtain ⟨i, e, map⟩ := r
      simp only
      rw [ihb _ h, liftF_bind]
      refine bind_congr fun r => ?_
      obtain ⟨st', fl⟩ := r
      cases fl with
      | normal => simp only [liftF_bind]; rfl
      | brk => rfl
      | ret v => rfl
  | forEntries src iv pv body ihb =>
    intro st h
    simp only [NoPanic] at h
    rw [esF_forEntries, exec_forEntries]
    cases st.v src with
    | none => rfl
    | some val =>
      cases val with
      | entries a => exact forListF_lift _ _ (fun e st => ihb _ h) _ _
      | iter _ a => exact forListF_lift _ _ (fun e st => ihb _ h) _ _
      | seq _ a => exact forListF_lift _ _ (fun e st => ihb _ h) _ _
      | _ => rfl
  | callN v f nargs pargs =>
    intro st h
    simp only [NoPanic] at h
    rw [esF_callN, exec_callN, liftF_bind]
    refine bind_congr fun xs => ?_
    rw [liftF_bind]
    refine bind_congr fun r => ?_
    rw [hcall _ _ _ _ _ h, fromCall_liftCall, liftF_bind]
    refine bind_congr fun c => ?_
    obtain ⟨s', val⟩ := c
    cases val <;> rfl
  | call f nargs pargs =>
    intro st h
    simp only [NoPanic] at h
    rw [esF_call, exec_call, liftF_bind]
    refine bind_congr fun xs => ?_
    rw [liftF_bind]
    refine bind_congr fun r => ?_
    rw [hcall _ _ _ _ _ h, fromCall_liftCall, liftF_bind]
    rfl
  | callV v f nargs =>
    intro st h
    simp only [NoPanic] at h
    rw [esF_callV, exec_callV, liftF_bind]
    refine bind_congr fun xs => ?_
    rw [hcall _ _ _ _ _ h, fromCall_liftCall, liftF_bind]
    rfl
  | callX v f nargs pargs vargs =>
    intro st h
    simp only [NoPanic] at h
    rw [esF_callX, exec_callX, liftF_bind]
    refine bind_congr fun xs => ?_
    rw [liftF_bind]
    refine bind_congr fun r => ?_
    rw [liftF_bind]
    refine bind_congr fun vs => ?_
    rw [hcall _ _ _ _ _ h, fromCall_liftCall, liftF_bind]
    rfl
  | «while» _ _ | forRev _ _ _ | optCallN _ _ _ _ _ | whileSomeCall _ _ _
  | firstMinBy _ _ _ _ | lastMaxBy _ _ _ _ | lastMaxByPos _ _ _ | mapRemoved _ _ _
  | mapChanged _ _ _ _ | mapChangedBy _ _ _ _ => intro st h; simp [NoPanic] at h
  | _ => intro st _; rfl

/-- the whole fused interpreter on code that can only reach functions of a comparison-free set `PF` -/
theorem execF_noPanic (PF : FnId → Bool) (prog : Prog) (uw : Unwind) (fuse : Nat)
    (hPF : ∀ f fn, PF f = true → prog f = some fn → NoPanic PF fn.body = true) :
    ∀ (n : Nat) (c : Stmt) (st : St P), NoPanic PF c = true →
      execF prog uw fuse false n c st = liftF (exec prog n c st) := by
  intro n
  induction n with
  | zero => intro c st _; rfl
  | succ n ih =>
    intro c st h
    rw [execF]
    refine execStepF_noPanic PF prog n fuse _ _ _ ?_ c st h
    intro f s na pa va hf
    unfold callWithF
    rw [callWith_eq]
    cases hp : prog f with
    | none => rfl
    | some fn =>
      simp only
      rw [ih _ _ (hPF f fn hf hp)]
      cases exec prog n fn.body
          { s := s, n := bindN fn.nparams na, p := bindP fn.pparams pa, v := bindV fn.vparams va } with
      | ok r => obtain ⟨st', fl⟩ := r; cases fl <;> rfl
      | error e => rfl

theorem callF_plain (PF : FnId → Bool) (prog : Prog) (uw : Unwind) (fuse : Nat)
    (hPF : ∀ f fn, PF f = true → prog f = some fn → NoPanic PF fn.body = true)
    (n : Nat) (f : FnId) (s : Store P) (na : List Nat) (pa : List P) (va : List (Val P)) (hf : PF f = true) :
    toCRcall (callWithF (execF prog uw fuse false n) (exec prog n) prog uw f s na pa va)
      = liftR (callWith (exec prog n) prog f s na pa va) := by
  unfold callWithF
  rw [callWith_eq]
  cases hp : prog f with
  | none => rfl
  | some fn =>
    simp only
    rw [execF_noPanic PF prog uw fuse hPF _ _ _ (hPF f fn hf hp)]
    cases exec prog n fn.body
        { s := s, n := bindN fn.nparams na, p := bindP fn.pparams pa, v := bindV fn.vparams va } with
    | ok r => obtain ⟨st', fl⟩ := r; cases fl <;> rfl
    | error e => rfl

/-- the comparison-free functions of the translated crate -/
def pfSet : FnId → Bool
  | .storeSwap | .storePrioAt | .storeSwapRemove | .storeRemove | .storeClear | .storeDrain | .storeRetainMut
  | .storeAppend | .storeSwapRemoveIf | .storeChangePriority | .storeChangePriorityBy | .storeFromVec | .storeFromIter
  | .storeExtend | .storeVisitSeq | .storeRetain | .dqFindMin | .pqPeek | .pqPeekMut => true
  | _ => false

theorem pfSet_ok : ∀ f fn, pfSet f = true → SrcGen.prog f = some fn → NoPanic pfSet fn.body = true := by
  intro f fn hf hp
  cases f <;> first
    | (exact absurd hf (by decide))
    | (obtain rfl : _ = fn := Option.some.inj hp; decide)

/-- the rewrite rule used at call sites: a fused call of a comparison-free function is the plain call -/
theorem callF_pf (fuse : Nat) (n : Nat) (f : FnId) (s : Store P) (na : List Nat) (pa : List P) (va : List (Val P))
    (hf : pfSet f = true) :
    toCRcall (callWithF (execF prog unwind fuse false n) (exec prog n) prog unwind f s na pa va)
      = liftR (callWith (exec prog n) prog f s na pa va) :=
  callF_plain pfSet prog unwind fuse pfSet_ok n f s na pa va hf

theorem callF_pf_storePrioAt (fuse n : Nat) (s : Store P) (na : List Nat) (pa : List P) (va : List (Val P)) :
    toCRcall (callWithF (execF prog unwind fuse false n) (exec prog n) prog unwind .storePrioAt s na pa va)
      = liftR (callWith (exec prog n) prog .storePrioAt s na pa va) := callF_pf fuse n _ s na pa va rfl
theorem callF_pf_storeClear (fuse n : Nat) (s : Store P) (na : List Nat) (pa : List P) (va : List (Val P)) :
    toCRcall (callWithF (execF prog unwind fuse false n) (exec prog n) prog unwind .storeClear s na pa va)
      = liftR (callWith (exec prog n) prog .storeClear s na pa va) := callF_pf fuse n _ s na pa va rfl
theorem callF_pf_storeDrain (fuse n : Nat) (s : Store P) (na : List Nat) (pa : List P) (va : List (Val P)) :
    toCRcall (callWithF (execF prog unwind fuse false n) (exec prog n) prog unwind .storeDrain s na pa va)
      = liftR (callWith (exec prog n) prog .storeDrain s na pa va) := callF_pf fuse n _ s na pa va rfl
theorem callF_pf_storeAppend (fuse n : Nat) (s : Store P) (na : List Nat) (pa : List P) (va : List (Val P)) :
    toCRcall (callWithF (execF prog unwind fuse false n) (exec prog n) prog unwind .storeAppend s na pa va)
      = liftR (callWith (exec prog n) prog .storeAppend s na pa va) := callF_pf fuse n _ s na pa va rfl
theorem callF_pf_pqPeek (fuse n : Nat) (s : Store P) (na : List Nat) (pa : List P) (va : List (Val P)) :
    toCRcall (callWithF (execF prog unwind fuse false n) (exec prog n) prog unwind .pqPeek s na pa va)
      = liftR (callWith (exec prog n) prog .pqPeek s na pa va) := callF_pf fuse n _ s na pa va rfl
theorem callF_pf_pqPeekMut (fuse n : Nat) (s : Store P) (na : List Nat) (pa : List P) (va : List (Val P)) :
    toCRcall (callWithF (execF prog unwind fuse false n) (exec prog n) prog unwind .pqPeekMut s na pa va)
      = liftR (callWith (exec prog n) prog .pqPeekMut s na pa va) := callF_pf fuse n _ s na pa va rfl

/-- leaf statements and comparison-free blocks inside a function that does compare -/
theorem execStepF_leaf (n : Nat) (fuse : Nat) (recF : Stmt → St P → CF P (St P × Flow P)) (byRef : FnId → Bool)
    (c : Stmt) (st : St P) (h : NoPanic pfSet c = true) :
    execStepF fuse false (exec prog (n + 1)) (callWith (exec prog n) prog) recF
        (callWithF (execF prog unwind fuse false n) (exec prog n) prog unwind) byRef c st
      = liftF (exec prog (n + 1) c st) := by
  refine execStepF_noPanic pfSet prog n fuse _ _ _ ?_ c st h
  intro f s na pa va hf
  have := callF_pf (P := P) fuse n f s na pa va hf
  generalize callWithF (execF prog unwind fuse false n) (exec prog n) prog unwind f s na pa va = x at this ⊢
  generalize callWith (exec prog n) prog f s na pa va = y at this ⊢
  cases x with
  | ok a => cases y <;> simp_all [toCRcall, liftR, liftCall]
  | error e => cases e <;> cases y <;> simp_all [toCRcall, liftR, liftCall]


/-! ## frames without a guard -/

/-- a frame that owns no guard, seen from outside: result, fault, or the store as it is when the panic strikes -/
def frame0 (x : CF P (St P × Flow P)) : CR P (Store P × Val P) :=
  match x with
  | .ok (st, fl) =>
    (match fl with
      | .ret v => .ok (st.s, v)
      | .normal => .ok (st.s, .unit)
      | .brk => .error (.fault stuck))
  | .error (.fault e) => .error (.fault e)
  | .error (.panic stp) => .error (.crashed stp.s)

theorem callF_frame0 (prog : Prog) (uw : Unwind) (fuse : Nat) (df : Bool) (n : Nat) (f : FnId) (fn : Fn) (s : Store P)
    (na : List Nat) (pa : List P) (va : List (Val P)) (hf : prog f = some fn) (huw : (uw f).1 = .skip) :
    toCRcall (callWithF (execF prog uw fuse df (n + 1)) (exec prog (n + 1)) prog uw f s na pa va)
      = frame0 (execF prog uw fuse df (n + 1) fn.body
          { s := s, n := bindN fn.nparams na, p := bindP fn.pparams pa, v := bindV fn.vparams va }) := by
  unfold callWithF
  simp only [hf, huw, exec_skip]
  cases execF prog uw fuse df (n + 1) fn.body
      { s := s, n := bindN fn.nparams na, p := bindP fn.pparams pa, v := bindV fn.vparams va } with
  | ok r => obtain ⟨st, fl⟩ := r; cases fl <;> rfl
  | error e => cases e <;> rfl

theorem runF_frame0 (prog : Prog) (uw : Unwind) (fuse : Nat) (df : Bool) (n : Nat) (f : FnId) (fn : Fn) (s : Store P)
    (na : List Nat) (pa : List P) (va : List (Val P)) (hf : prog f = some fn) (huw : (uw f).1 = .skip) :
    runF prog uw fuse df (n + 1) f s na pa va
      = frame0 (execF prog uw fuse df (n + 1) fn.body
          { s := s, n := bindN fn.nparams na, p := bindP fn.pparams pa, v := bindV fn.vparams va }) := by
  rw [runF_eq, callF_frame0 _ _ _ _ _ _ _ _ _ _ _ hf huw]

theorem frame0_liftF_bind {α : Type} (x : R α) (k : α → CF P (St P × Flow P)) :
    frame0 (liftF x >>= k) = liftR x >>= fun a => frame0 (k a) := by
  cases x <;> rfl

theorem frame0_cmpAt_bind (fuse : Nat) (st : St P) (a b : P) (k : Store P × Bool → CF P (St P × Flow P)) :
    frame0 (cmpAt fuse st a b >>= k) =
      if st.s.ticks + 1 = fuse then .error (.crashed st.s) else frame0 (k (st.s.tick, decide (a < b))) := by
  unfold cmpAt
  split <;> rfl

theorem frame0_ite (c : Prop) [Decidable c] (a b : CF P (St P × Flow P)) :
    frame0 (if c then a else b) = if c then frame0 a else frame0 b := by split <;> rfl

theorem frame0_fromCall_bind (st0 : St P) (c : Except (CallStop P) (Store P × Val P))
    (k : Store P × Val P → CF P (St P × Flow P)) :
    frame0 (fromCall st0 none c >>= k) = toCRcall c >>= fun r => frame0 (k r) := by
  cases c with
  | ok r => rfl
  | error e => cases e <;> rfl

@[simp] theorem frame0_pure_normal (st : St P) : frame0 (pure (st, Flow.normal)) = pure (st.s, Val.unit) := rfl
@[simp] theorem frame0_pure_ret (st : St P) (v : Val P) : frame0 (pure (st, Flow.ret v)) = pure (st.s, v) := rfl
theorem frame0_error (f : Fault) : frame0 (.error (.fault f) : CF P (St P × Flow P)) = .error (.fault f) := rfl

theorem cmpF_bind {α : Type} (fuse : Nat) (s : Store P) (a b : P) (g : Store P × Bool → CR P α) :
    cmpF fuse s a b >>= g = if s.ticks + 1 = fuse then .error (.crashed s) else g (s.tick, decide (a < b)) := by
  unfold cmpF
  split <;> rfl

def fill0 (stp : St P) : R (Store P) := pure stp.s

theorem toCR_fill0_cmpAt_bind {β : Type} (proj : St P → β) (fuse : Nat) (st : St P) (a b : P)
    (k : Store P × Bool → CF P (St P × Flow P)) :
    toCR fill0 proj (cmpAt fuse st a b >>= k) =
      if st.s.ticks + 1 = fuse then .error (.crashed st.s) else toCR fill0 proj (k (st.s.tick, decide (a < b))) := by
  rw [toCR_cmpAt_bind]; rfl

theorem toCR_fill0_fromCall_bind {β : Type} (proj : St P → β) (st0 : St P) (c : Except (CallStop P) (Store P × Val P))
    (k : Store P × Val P → CF P (St P × Flow P)) :
    toCR fill0 proj (fromCall st0 none c >>= k) = toCRcall c >>= fun r => toCR fill0 proj (k r) := by
  cases c with
  | ok r => rfl
  | error e => cases e <;> rfl

/-- composition: a sub-computation that is known through `toCR`, followed by a continuation -/
theorem toCR_bind_of {β γ : Type} (fill : St P → R (Store P)) (projB : St P → β) (proj : St P → γ)
    (x : CF P (St P × Flow P)) (y : CR P β)
    (hxy : toCR fill projB x = (fun b => (b, Flow.normal)) <$> y)
    (k : St P × Flow P → CF P (St P × Flow P)) (K : β → CR P (γ × Flow P))
    (hk : ∀ st', x = .ok (st', .normal) → toCR fill proj (k (st', .normal)) = K (projB st')) :
    toCR fill proj (x >>= k) = y >>= K := by
  cases x with
  | ok r =>
    obtain ⟨st', fl⟩ := r
    cases y with
    | error e => simp [toCR, Functor.map, Except.map] at hxy
    | ok b =>
      simp only [toCR, Functor.map, Except.map, Except.ok.injEq, Prod.mk.injEq] at hxy
      obtain ⟨h1, h2⟩ := hxy
      subst h2
      subst h1
      exact hk st' rfl
  | error e =>
    cases e with
    | fault f =>
      cases y with
      | ok b => simp [toCR, Functor.map, Except.map] at hxy
      | error ey =>
        simp only [toCR, Functor.map, Except.map, Except.error.injEq] at hxy
        subst hxy; rfl
    | panic stp =>
      simp only [toCR] at hxy
      show (match fill stp with
        | .ok s' => (.error (.crashed s') : CR P (γ × Flow P))
        | .error f => .error (.fault f)) = y >>= K
      cases hf : fill stp with
      | ok s' =>
        rw [hf] at hxy
        cases y with
        | ok b => simp [Functor.map, Except.map] at hxy
        | error ey =>
          simp only [Functor.map, Except.map, Except.error.injEq] at hxy
          subst hxy; rfl
      | error f =>
        rw [hf] at hxy
        cases y with
        | ok b => simp [Functor.map, Except.map] at hxy
        | error ey =>
          simp only [Functor.map, Except.map, Except.error.injEq] at hxy
          subst hxy; rfl

/-- a loop that ends the function: from its `toCR` description to the frame -/
theorem frame0_of_toCR (x : CF P (St P × Flow P)) (y : CR P (Store P))
    (h : toCR fill0 (fun st' => st'.s) x = (fun s' => (s', Flow.normal)) <$> y) :
    frame0 x = (fun s' => (s', Val.unit)) <$> y := by
  cases x with
  | ok r =>
    obtain ⟨st', fl⟩ := r
    cases y with
    | error e => simp [toCR, Functor.map, Except.map] at h
    | ok b =>
      simp only [toCR, Functor.map, Except.map, Except.ok.injEq, Prod.mk.injEq] at h
      obtain ⟨h1, h2⟩ := h
      subst h2; subst h1; rfl
  | error e =>
    cases e with
    | fault f =>
      cases y with
      | ok b => simp [toCR, Functor.map, Except.map] at h
      | error ey => simp only [toCR, Functor.map, Except.map, Except.error.injEq] at h; subst h; rfl
    | panic stp =>
      cases y with
      | ok b => simp [toCR, fill0, Functor.map, Except.map, pure, Except.pure] at h
      | error ey =>
        simp only [toCR, fill0, Functor.map, Except.map, pure, Except.pure, Except.error.injEq] at h
        subst h; rfl

theorem exec_step (prog : Prog) (n : Nat) (c : Stmt) (st : St P) :
    exec prog (n + 1) c st = execStep (exec prog n) (callWith (exec prog n) prog) c st := rfl

theorem toCR_error_fault {β : Type} (fill : St P → R (Store P)) (proj : St P → β) (f : Fault) :
    toCR fill proj (Except.error (StopF.fault f)) = .error (.fault f) := rfl
theorem frame0_error_fault (f : Fault) : frame0 (Except.error (StopF.fault f) : CF P (St P × Flow P)) = .error (.fault f) := rfl

/-- symbolic evaluation of the fused interpreter on a function body: the compound statements by their equations,
comparison-free blocks through the plain interpreter -/
syntax "srcF_eval" (" [" Lean.Parser.Tactic.simpLemma,* "]")? : tactic
-- unhygienic: resolving the sixty-odd hygienic identifiers of the list at every call costs more than the `simp` itself
set_option hygiene false in
macro_rules
  | `(tactic| srcF_eval) => `(tactic| srcF_eval [])
  | `(tactic| srcF_eval [$ls,*]) => `(tactic|
      simp (disch := decide) only [PQ.SrcEquivF.esF_seq, PQ.SrcEquivF.seqK_normal, PQ.SrcEquivF.seqK_brk, PQ.SrcEquivF.seqK_ret, PQ.SrcEquivF.esF_ite, PQ.SrcEquivF.esF_call, PQ.SrcEquivF.esF_callN,
        PQ.SrcEquivF.esF_callV, PQ.SrcEquivF.esF_callX, PQ.SrcEquivF.esF_optCallN, PQ.SrcEquivF.esF_entryMatch,
        PQ.SrcEquivF.esF_match2, PQ.SrcEquivF.esF_ifHeapGet, PQ.SrcEquivF.esF_getFullMutThen,
        PQ.SrcEquivF.esF_removeFullThen, PQ.SrcEquivF.esF_mapRemoved, PQ.SrcEquivF.esF_mapChanged,
        PQ.SrcEquivF.esF_mapChangedBy, PQ.SrcEquivF.esF_forRev, PQ.SrcEquivF.execStepF_leaf, PQ.SrcEquivF.exec_step,
        Src.execStep,
        Src.evalO, Src.evalN, Src.evalNs, Src.evalP, Src.evalPs, Src.evalVs, Src.evalB, SrcF.evalBF,
        Src.bindN, Src.bindP, Src.bindV, Src.upd, Src.St.setS, Src.St.setN, Src.St.setP, Src.St.setV,
        bind_assoc, pure_bind, map_eq_pure_bind, Function.comp,
        PQ.SrcEquivF.liftF_bind, PQ.SrcEquivF.liftF_pure, PQ.SrcEquivF.liftF_ok, PQ.SrcEquivF.liftF_error,
        PQ.SrcEquivF.liftF_ite, PQ.SrcEquivF.iteF_bind, PQ.SrcEquivF.errorF_bind, PQ.SrcEquivF.okF_bind,
        PQ.SrcEquiv.ite_bind, PQ.SrcEquiv.error_bind, PQ.SrcEquiv.ok_bind,
        PQ.SrcEquivF.unwind_pqBubbleUp_byRef, PQ.SrcEquivF.unwind_dqBubbleUp_byRef,
        ↓reduceIte, Nat.reduceEqDiff, Bool.false_eq_true, $ls,*])

/-- from the fused interpreter's monad to the crash monad: frames, `toCR`, calls of comparison-free functions -/
syntax "srcF_cr" (" [" Lean.Parser.Tactic.simpLemma,* "]")? : tactic
-- unhygienic for the same reason as `srcF_eval`
set_option hygiene false in
macro_rules
  | `(tactic| srcF_cr) => `(tactic| srcF_cr [])
  | `(tactic| srcF_cr [$ls,*]) => `(tactic|
      simp (disch := decide) only [PQ.SrcEquivF.callF_pf, PQ.SrcEquivF.frame0_liftF_bind, PQ.SrcEquivF.frame0_cmpAt_bind, PQ.SrcEquivF.frame0_ite,
        PQ.SrcEquivF.frame0_fromCall_bind, PQ.SrcEquivF.frame0_pure_normal, PQ.SrcEquivF.frame0_pure_ret,
        PQ.SrcEquivF.frame0_error_fault,
        PQ.SrcEquivF.toCR_fill0_fromCall_bind, PQ.SrcEquivF.toCR_liftF_bind, PQ.SrcEquivF.toCR_fill0_cmpAt_bind,
        PQ.SrcEquivF.toCR_ite, PQ.SrcEquivF.toCR_pure, PQ.SrcEquivF.toCR_error_fault,
        PQ.SrcEquivF.cmpF_bind, PQ.Crash.liftR_bind, PQ.Crash.liftR_pure, PQ.Crash.liftR_ok, PQ.Crash.liftR_error,
        PQ.SrcEquivF.liftR_ite, map_eq_pure_bind, bind_assoc, pure_bind,
        PQ.SrcEquivF.iteC_bind, PQ.SrcEquivF.errorC_bind, PQ.SrcEquivF.okC_bind, Src.upd, ↓reduceIte, Nat.reduceEqDiff,
        decide_eq_true_eq, Bool.false_eq_true, $ls,*])

end PQ.SrcEquivF
