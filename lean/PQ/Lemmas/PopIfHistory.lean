import PQ.Props.C02
import PQ.Lemmas.StatefulLemmas
/-!
# C02, history forms for `pop_min_if` / `pop_max_if` / `peek_min_mut` / `peek_max_mut` (names carry the prefix `pih_`)

`C01_next_after_history` states for a `PriorityQueue`, after any history: the next `pop` / `pop_if f` / `peek_mut` address
exactly what `peek` reports.  `C02_next_after_history` has that for `pop_min` / `pop_max` only.  This file adds the missing
operations for the `DoublePriorityQueue`: after EVERY leak-free history of legal operations — from any queue satisfying its
invariant, in particular from `new()` of either kind — that ends in a `DoublePriorityQueue`,

* `pop_min_if f` / `pop_max_if f` apply their predicate to exactly the entry `peek_min` / `peek_max` reports (a stored
  minimum / maximum): the answer is what `f` makes of THAT entry (`Some` of the possibly rewritten entry if `f` says yes,
  `None` if it says no or if the queue is empty — then `f` is not called), and the contents change accordingly;
* `peek_min_mut` / `peek_max_mut` hand out exactly that entry; a key-preserving write changes only its item;
* the invariant continues to hold in every case;
* (`pih_calls_after_history`) for predicates WITH state (`FnMut`): the predicate is called exactly once, on that entry, and
  never on an empty queue.
-/
namespace PQ
variable {P : Type} [LT P] [DecidableLT P] [LE P] [Std.IsLinearPreorder P] [Std.LawfulOrderLT P]

/-- what `pop_*_if f` answers when the corresponding peek reports `r` -/
def pih_answer (f : Item → P → Bool × Item × P) (r : Option (Item × P)) : Option (Item × P) :=
  r.bind fun e => if (f e.1 e.2).1 = true then some ((f e.1 e.2).2.1, (f e.1 e.2).2.2) else none

/-- the contents after `pop_*_if f` when the corresponding peek reports `r` -/
def pih_absPopIf (f : Item → P → Bool × Item × P) (r : Option (Item × P)) (a : Nat → Option (Item × P)) :
    Nat → Option (Item × P) :=
  match r with
  | none => a
  | some e => if (f e.1 e.2).1 = true then absRemove a e.1.key else absSet a e.1.key ((f e.1 e.2).2.1, (f e.1 e.2).2.2)

/-- the contents after a write `w` through `peek_*_mut` when the corresponding peek reports `r` -/
def pih_absPeekMut (w : Item → Item) (r : Option (Item × P)) (a : Nat → Option (Item × P)) : Nat → Option (Item × P) :=
  match r with
  | none => a
  | some e => absSet a e.1.key (w e.1, e.2)

/-- **C02 for one state**: on a `DoublePriorityQueue` satisfying its invariant the two peeks report `rmin` / `rmax`
(`None` exactly on the empty queue, otherwise a stored minimum / maximum), and the four operations below address exactly
these entries -/
theorem pih_next {s : Store P} (h : DQ.Inv s) :
    ∃ rmin rmax k, DQ.peekMin s = .ok rmin ∧ DQ.peekMax s = .ok (s.tick k, rmax) ∧ k ≤ 1 ∧
      (rmin = none ↔ s.size = 0) ∧ (rmax = none ↔ s.size = 0) ∧
      (∀ e, rmin = some e → s.IsMin e) ∧ (∀ e, rmax = some e → s.IsMax e) ∧
      (∀ f : Item → P → Bool × Item × P, (∀ it p, (f it p).2.1.key = it.key) →
        ∃ s', DQ.popMinIf s f = .ok (s', pih_answer f rmin) ∧ DQ.Inv s' ∧ s'.abs = pih_absPopIf f rmin s.abs) ∧
      (∀ f : Item → P → Bool × Item × P, (∀ it p, (f it p).2.1.key = it.key) →
        ∃ s', DQ.popMaxIf s f = .ok (s', pih_answer f rmax) ∧ DQ.Inv s' ∧ s'.abs = pih_absPopIf f rmax s.abs) ∧
      (∀ w : Item → Item, (∀ it, (w it).key = it.key) →
        ∃ s', DQ.peekMinMutWrite s w = .ok (s', rmin) ∧ DQ.Inv s' ∧ s'.size = s.size ∧
          s'.abs = pih_absPeekMut w rmin s.abs) ∧
      (∀ w : Item → Item, (∀ it, (w it).key = it.key) →
        ∃ s', DQ.peekMaxMutWrite s w = .ok (s', rmax) ∧ DQ.Inv s' ∧ s'.size = s.size ∧
          s'.abs = pih_absPeekMut w rmax s.abs) := by
  rcases Nat.eq_zero_or_pos s.size with hz | hn
  · refine ⟨none, none, 0, DQ.peekMin_empty hz, DQ.peekMax_empty hz, Nat.zero_le _,
      ⟨fun _ => hz, fun _ => rfl⟩, ⟨fun _ => hz, fun _ => rfl⟩, fun e he => (by cases he), fun e he => (by cases he),
      fun f hf => ?_, fun f hf => ?_, fun w hw => ?_, fun w hw => ?_⟩
    · exact ⟨s, ((C02_popMinIf_sees_peekMin h f hf).1 hz).2, h, rfl⟩
    · exact ⟨s, ((C02_popMaxIf_sees_peekMax h f hf).1 hz).2, h, rfl⟩
    · obtain ⟨s', r, hrun, hpk, hinv, hsz, hnone, _⟩ := C02_peekMinMut_eq h w hw
      rw [DQ.peekMin_empty hz] at hpk; cases hpk
      exact ⟨s', hrun, hinv, hsz, by rw [hnone rfl]; rfl⟩
    · obtain ⟨s', r, k, hrun, hpk, _, hinv, hsz, hnone, _⟩ := C02_peekMaxMut_eq h w hw
      rw [DQ.peekMax_empty hz] at hpk
      simp only [Except.ok.injEq, Prod.mk.injEq] at hpk
      obtain ⟨_, rfl⟩ := hpk
      exact ⟨s', hrun, hinv, hsz, by rw [hnone rfl]; rfl⟩
  · obtain ⟨emin, hpmin, hmin⟩ := (DQ.peekMin_inv h).2 hn
    obtain ⟨k, emax, hpmax, hk, hmax⟩ := (DQ.peekMax_inv h).2 hn
    refine ⟨some emin, some emax, k, hpmin, hpmax, hk, ⟨fun hc => (by cases hc), fun hc => (by omega)⟩,
      ⟨fun hc => (by cases hc), fun hc => (by omega)⟩, fun e he => (by cases he; exact hmin),
      fun e he => (by cases he; exact hmax), fun f hf => ?_, fun f hf => ?_, fun w hw => ?_, fun w hw => ?_⟩
    · obtain ⟨e, hpk, _, s', hrun, hinv, habs, _⟩ := (C02_popMinIf_sees_peekMin h f hf).2 hn
      rw [hpmin] at hpk; cases hpk
      exact ⟨s', hrun, hinv, habs⟩
    · obtain ⟨k', e, hpk, _, _, s', hrun, hinv, habs, _⟩ := (C02_popMaxIf_sees_peekMax h f hf).2 hn
      rw [hpmax] at hpk
      simp only [Except.ok.injEq, Prod.mk.injEq, Option.some.injEq] at hpk
      obtain ⟨_, rfl⟩ := hpk
      exact ⟨s', hrun, hinv, habs⟩
    · obtain ⟨s', r, hrun, hpk, hinv, hsz, _, hsome⟩ := C02_peekMinMut_eq h w hw
      rw [hpmin] at hpk; cases hpk
      exact ⟨s', hrun, hinv, hsz, (hsome emin rfl).2⟩
    · obtain ⟨s', r, k', hrun, hpk, _, hinv, hsz, _, hsome⟩ := C02_peekMaxMut_eq h w hw
      rw [hpmax] at hpk
      simp only [Except.ok.injEq, Prod.mk.injEq] at hpk
      obtain ⟨_, rfl⟩ := hpk
      exact ⟨s', hrun, hinv, hsz, (hsome emax rfl).2⟩

/-- **C02, history form for the conditional pops and the `peek_*_mut`.**  After any history of legal operations without a
leaked `iter_mut` guard, started from a queue of either kind satisfying its invariant and ending in a `DoublePriorityQueue`
`q'`: `peek_min` / `peek_max` report `rmin` / `rmax` (stored minimum / maximum; `None` iff empty), and as the NEXT operation

* `pop_min_if f` answers what `f` makes of `rmin` (`pih_answer`: `None` on the empty queue — `f` not consulted —, `Some` of
  the possibly rewritten entry if `f` accepts it, `None` if `f` refuses it), the contents become `pih_absPopIf f rmin` of the
  old contents (exactly that key removed, respectively exactly that entry rewritten);
* `pop_max_if f` likewise with `rmax`;
* `peek_min_mut` / `peek_max_mut` hand out `rmin` / `rmax`, and a write `w` to the item changes exactly that entry;

the invariant holds afterwards in each case. -/
theorem pih_next_after_history (ops : List (Op P)) {q : Q P} (hq : QInv q) (hl : ∀ op ∈ ops, op.Legal)
    (hn : ∀ op ∈ ops, op.isLeak = false) :
    ∃ q' outs, run q ops = .ok (q', outs) ∧
      (q'.kind = .dpq →
        ∃ rmin rmax k, DQ.peekMin q'.s = .ok rmin ∧ DQ.peekMax q'.s = .ok (q'.s.tick k, rmax) ∧ k ≤ 1 ∧
          (rmin = none ↔ q'.s.size = 0) ∧ (rmax = none ↔ q'.s.size = 0) ∧
          (∀ e, rmin = some e → q'.s.IsMin e) ∧ (∀ e, rmax = some e → q'.s.IsMax e) ∧
          (∀ f : Item → P → Bool × Item × P, (∀ it p, (f it p).2.1.key = it.key) →
            ∃ q'', step q' (.popFrontIf f) = .ok (q'', .entry (pih_answer f rmin)) ∧ QInv q'' ∧ q''.kind = .dpq ∧
              q''.s.abs = pih_absPopIf f rmin q'.s.abs) ∧
          (∀ f : Item → P → Bool × Item × P, (∀ it p, (f it p).2.1.key = it.key) →
            ∃ q'', step q' (.popBackIf f) = .ok (q'', .entry (pih_answer f rmax)) ∧ QInv q'' ∧ q''.kind = .dpq ∧
              q''.s.abs = pih_absPopIf f rmax q'.s.abs) ∧
          (∀ w : Item → Item, (∀ it, (w it).key = it.key) →
            ∃ q'', step q' (.peekFrontMut w) = .ok (q'', .entry rmin) ∧ QInv q'' ∧ q''.kind = .dpq ∧
              q''.s.abs = pih_absPeekMut w rmin q'.s.abs) ∧
          (∀ w : Item → Item, (∀ it, (w it).key = it.key) →
            ∃ q'', step q' (.peekBackMut w) = .ok (q'', .entry rmax) ∧ QInv q'' ∧ q''.kind = .dpq ∧
              q''.s.abs = pih_absPeekMut w rmax q'.s.abs)) := by
  obtain ⟨q', outs, hrun, _, _, hd⟩ := C02_reach ops hq hl hn
  refine ⟨q', outs, hrun, fun hk => ?_⟩
  have h := hd hk
  obtain ⟨k, s⟩ := q'
  cases hk
  obtain ⟨rmin, rmax, k, h1, h2, h3, h4, h5, h6, h7, hminIf, hmaxIf, hminMut, hmaxMut⟩ := pih_next h
  refine ⟨rmin, rmax, k, h1, h2, h3, h4, h5, h6, h7, fun f hf => ?_, fun f hf => ?_, fun w hw => ?_, fun w hw => ?_⟩
  · obtain ⟨s', he, hinv, habs⟩ := hminIf f hf
    exact ⟨_, bind_of_ok he _, hinv, rfl, habs⟩
  · obtain ⟨s', he, hinv, habs⟩ := hmaxIf f hf
    exact ⟨_, bind_of_ok he _, hinv, rfl, habs⟩
  · obtain ⟨s', he, hinv, _, habs⟩ := hminMut w hw
    exact ⟨_, bind_of_ok he _, hinv, rfl, habs⟩
  · obtain ⟨s', he, hinv, _, habs⟩ := hmaxMut w hw
    exact ⟨_, bind_of_ok he _, hinv, rfl, habs⟩

/-- **… in particular after every leak-free legal history from `new()`** of either kind (a history may convert between
the kinds; the statement speaks about those ending in a `DoublePriorityQueue`) -/
theorem pih_next_after_history_new (ops : List (Op P)) (kind : Kind) (hl : ∀ op ∈ ops, op.Legal)
    (hn : ∀ op ∈ ops, op.isLeak = false) :
    ∃ q' outs, run (Q.new kind) ops = .ok (q', outs) ∧
      (q'.kind = .dpq →
        ∃ rmin rmax k, DQ.peekMin q'.s = .ok rmin ∧ DQ.peekMax q'.s = .ok (q'.s.tick k, rmax) ∧ k ≤ 1 ∧
          (rmin = none ↔ q'.s.size = 0) ∧ (rmax = none ↔ q'.s.size = 0) ∧
          (∀ e, rmin = some e → q'.s.IsMin e) ∧ (∀ e, rmax = some e → q'.s.IsMax e) ∧
          (∀ f : Item → P → Bool × Item × P, (∀ it p, (f it p).2.1.key = it.key) →
            ∃ q'', step q' (.popFrontIf f) = .ok (q'', .entry (pih_answer f rmin)) ∧ QInv q'' ∧ q''.kind = .dpq ∧
              q''.s.abs = pih_absPopIf f rmin q'.s.abs) ∧
          (∀ f : Item → P → Bool × Item × P, (∀ it p, (f it p).2.1.key = it.key) →
            ∃ q'', step q' (.popBackIf f) = .ok (q'', .entry (pih_answer f rmax)) ∧ QInv q'' ∧ q''.kind = .dpq ∧
              q''.s.abs = pih_absPopIf f rmax q'.s.abs) ∧
          (∀ w : Item → Item, (∀ it, (w it).key = it.key) →
            ∃ q'', step q' (.peekFrontMut w) = .ok (q'', .entry rmin) ∧ QInv q'' ∧ q''.kind = .dpq ∧
              q''.s.abs = pih_absPeekMut w rmin q'.s.abs) ∧
          (∀ w : Item → Item, (∀ it, (w it).key = it.key) →
            ∃ q'', step q' (.peekBackMut w) = .ok (q'', .entry rmax) ∧ QInv q'' ∧ q''.kind = .dpq ∧
              q''.s.abs = pih_absPeekMut w rmax q'.s.abs)) :=
  pih_next_after_history ops (hist_new_inv kind) hl hn

/-- **the predicate is consulted exactly once, on the peeked entry** (`FnMut` predicates, modelled with an explicit
state): after any such history ending in a `DoublePriorityQueue` `q'`, whenever `pop_min_if` / `pop_max_if` with a stateful
predicate `f` started in state `st` returns, the predicate's final state is `st` itself if the queue was empty (never
called) and otherwise the state after ONE call, on the entry `peek_min` / `peek_max` reports -/
theorem pih_calls_after_history {σ : Type} (ops : List (Op P)) {q : Q P} (hq : QInv q) (hl : ∀ op ∈ ops, op.Legal)
    (hn : ∀ op ∈ ops, op.isLeak = false) :
    ∃ q' outs, run q ops = .ok (q', outs) ∧
      (q'.kind = .dpq →
        ∃ rmin rmax k, DQ.peekMin q'.s = .ok rmin ∧ DQ.peekMax q'.s = .ok (q'.s.tick k, rmax) ∧
          (∀ (f : PredS σ P) st st' s' o, DQ.popMinIfS q'.s f st = .ok (st', s', o) →
            st' = (match rmin with | none => st | some e => (f st e.1 e.2).1)) ∧
          (∀ (f : PredS σ P) st st' s' o, DQ.popMaxIfS q'.s f st = .ok (st', s', o) →
            st' = (match rmax with | none => st | some e => (f st e.1 e.2).1))) := by
  obtain ⟨q', outs, hrun, hd⟩ := pih_next_after_history ops hq hl hn
  refine ⟨q', outs, hrun, fun hk => ?_⟩
  obtain ⟨rmin, rmax, k, h1, h2, _, h4, h5, _⟩ := hd hk
  refine ⟨rmin, rmax, k, h1, h2, fun f st st' s' o hr => ?_, fun f st st' s' o hr => ?_⟩
  · obtain ⟨c0, c1⟩ := DQ.popMinIfS_calls hr
    rcases Nat.eq_zero_or_pos q'.s.size with hz | hpos
    · rw [h4.2 hz]; exact (c0 hz).1
    · obtain ⟨e, hpk, hst⟩ := c1 hpos
      rw [h1] at hpk; cases hpk
      exact hst
  · obtain ⟨c0, c1⟩ := DQ.popMaxIfS_calls hr
    rcases Nat.eq_zero_or_pos q'.s.size with hz | hpos
    · rw [h5.2 hz]; exact (c0 hz).1
    · obtain ⟨s1, e, hpk, hst⟩ := c1 hpos
      rw [h2] at hpk
      simp only [Except.ok.injEq, Prod.mk.injEq] at hpk
      rw [hpk.2]
      exact hst

section Examples

/-- a concrete history: ties, a removal, a rebuild, an extraction, two conversions -/
private def exOps : List (Op Nat) :=
  [.push ⟨1, 0⟩ 7, .push ⟨2, 0⟩ 7, .push ⟨3, 0⟩ 2, .push ⟨4, 5⟩ 2, .changePriority 3 9, .pushDecrease ⟨1, 0⟩ 3,
   .remove 2, .push ⟨5, 0⟩ 9, .push ⟨6, 0⟩ 4, .push ⟨7, 0⟩ 5, .retainMut (fun it p => (p != 4, it, p)), .popBack,
   .iterMut false [(.nextBack, ⟨none, some 1⟩), (.next, ⟨some 8, none⟩)], .convert, .convert]

/-- accepts, and marks what it saw (payload + 100, priority + 1000) -/
private def fYes : Item → Nat → Bool × Item × Nat := fun it p => (true, ⟨it.key, it.payload + 100⟩, p + 1000)
/-- refuses, and marks what it saw -/
private def fNo : Item → Nat → Bool × Item × Nat := fun it p => (false, ⟨it.key, it.payload + 100⟩, p + 1000)

example : (∀ op ∈ exOps, op.Legal) ∧ (∀ op ∈ exOps, op.isLeak = false) := by
  constructor <;> intro op h <;> simp only [exOps, List.mem_cons, List.not_mem_nil, or_false] at h <;>
    rcases h with h | h | h | h | h | h | h | h | h | h | h | h | h | h | h <;> subst h <;>
    first | exact trivial | rfl | (intro _; rfl) | (intro _ _; rfl)

example : (∀ it p, (fYes it p).2.1.key = it.key) ∧ (∀ it p, (fNo it p).2.1.key = it.key) := ⟨fun _ _ => rfl, fun _ _ => rfl⟩

/-- the history ends in a four-element `DoublePriorityQueue`; the peeks report key 4 (priority 2) and key 5 (priority 9);
`pop_min_if` / `pop_max_if` show exactly these to an accepting predicate (the marks prove which entry it saw) and return
them; a refusing predicate gets `None` and the marked entry stays; `peek_*_mut` hand out the same entries -/
example : hist_okR (run (Q.new .dpq) exOps) (fun r => r.1.kind = .dpq ∧ r.1.s.size = 4 ∧
    (DQ.peekMin r.1.s).toOption = some (some (⟨4, 5⟩, 2)) ∧
    (DQ.peekMax r.1.s).toOption.map (·.2) = some (some (⟨5, 1⟩, 9))) := by decide +kernel
example : hist_okR (run (Q.new .dpq) exOps) (fun r =>
    hist_okR (step r.1 (.popFrontIf fYes)) (fun r' => hist_outEntry r'.2 = some (some (⟨4, 105⟩, 1002)) ∧ r'.1.s.size = 3) ∧
    hist_okR (step r.1 (.popBackIf fYes)) (fun r' => hist_outEntry r'.2 = some (some (⟨5, 101⟩, 1009)) ∧ r'.1.s.size = 3)) := by
  decide +kernel
example : hist_okR (run (Q.new .dpq) exOps) (fun r =>
    hist_okR (step r.1 (.popFrontIf fNo)) (fun r' => hist_outEntry r'.2 = some none ∧ r'.1.s.size = 4 ∧
      r'.1.s.abs 4 = some (⟨4, 105⟩, 1002))) := by decide +kernel
example : hist_okR (run (Q.new .dpq) exOps) (fun r =>
    hist_okR (step r.1 (.popBackIf fNo)) (fun r' => hist_outEntry r'.2 = some none ∧ r'.1.s.size = 4 ∧
      r'.1.s.abs 5 = some (⟨5, 101⟩, 1009))) := by decide +kernel
example : hist_okR (run (Q.new .dpq) exOps) (fun r =>
    hist_okR (step r.1 (.peekFrontMut fun it => ⟨it.key, 77⟩)) (fun r' => hist_outEntry r'.2 = some (some (⟨4, 5⟩, 2)) ∧
      r'.1.s.abs 4 = some (⟨4, 77⟩, 2))) := by decide +kernel
example : hist_okR (run (Q.new .dpq) exOps) (fun r =>
    hist_okR (step r.1 (.peekBackMut fun it => ⟨it.key, 78⟩)) (fun r' => hist_outEntry r'.2 = some (some (⟨5, 1⟩, 9)) ∧
      r'.1.s.abs 5 = some (⟨5, 78⟩, 9))) := by decide +kernel

/-- a predicate that logs every call (`FnMut`): after the history its log holds exactly the peeked entry, once -/
private def fLog : PredS (List (Item × Nat)) Nat := fun log it p => (log ++ [(it, p)], (p < 5, it, p))

example : hist_okR (run (Q.new .dpq) exOps) (fun r =>
    hist_okR (DQ.popMinIfS r.1.s fLog []) (fun r' => r'.1 = [(⟨4, 5⟩, 2)] ∧ r'.2.2 = some (⟨4, 5⟩, 2)) ∧
    hist_okR (DQ.popMaxIfS r.1.s fLog []) (fun r' => r'.1 = [(⟨5, 1⟩, 9)] ∧ r'.2.2 = none)) := by decide +kernel

/-- on the empty queue reached by a history the predicate is not consulted -/
example : hist_okR (run (Q.new .dpq) [.push ⟨1, 0⟩ 7, .popFront]) (fun r => r.1.s.size = 0 ∧
    hist_okR (step r.1 (.popFrontIf fYes)) (fun r' => hist_outEntry r'.2 = some none) ∧
    hist_okR (step r.1 (.popBackIf fYes)) (fun r' => hist_outEntry r'.2 = some none)) := by decide +kernel

end Examples

end PQ

#print axioms PQ.pih_next
#print axioms PQ.pih_next_after_history
#print axioms PQ.pih_next_after_history_new
#print axioms PQ.pih_calls_after_history
