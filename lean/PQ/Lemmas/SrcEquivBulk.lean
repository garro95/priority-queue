import PQ.Lemmas.SrcEquivStore2
/-!
# Source-translated tie: bulk construction of the store

Store level: `From<Vec>`, `FromIterator`, `Extend`, serde `visit_seq`, `retain`.  The inputs are opaque values of the IR:
a vector (`Val.entries`), an iterator (`Val.iter lo xs`: the lower bound of its `size_hint` and what it yields), a serde
sequence (`Val.seq hint xs`: the announced length and the pairs).  `with_capacity*` / `reserve` are read as the
capacity request `reserveC` of the model (only the deterministic capacity-overflow panic is modelled).
-/
set_option linter.unusedSimpArgs false
set_option linter.unusedSectionVars false
namespace PQ.SrcEquiv
open PQ PQ.Src PQ.SrcGen
variable {P : Type} [LT P] [DecidableLT P]

/-! ## loops over an input sequence -/

/-- a `for` loop over a sequence whose body is total and maintains a relation `Rel` between the interpreter state
and a model value that is advanced by `step` -/
theorem forList_rel {γ : Type} (body : Item × P → St P → R (St P × Flow P)) (step : γ → Item × P → γ)
    (Rel : St P → γ → Prop)
    (hbody : ∀ e st h, Rel st h → ∃ st', body e st = .ok (st', .normal) ∧ Rel st' (step h e)) :
    ∀ (l : List (Item × P)) (st : St P) (h : γ), Rel st h →
      ∃ st', forList body l st = .ok (st', .normal) ∧ Rel st' (l.foldl step h) := by
  intro l
  induction l with
  | nil => intro st h hr; exact ⟨st, rfl, hr⟩
  | cons e l ih =>
    intro st h hr
    obtain ⟨st1, h1, h2⟩ := hbody e st h hr
    obtain ⟨st2, h3, h4⟩ := ih st1 _ h2
    exact ⟨st2, by rw [forList, h1]; exact h3, h4⟩

theorem forList_bind_rel {β γ : Type} (body : Item × P → St P → R (St P × Flow P)) (l : List (Item × P)) (st0 : St P)
    (K : St P × Flow P → R β) (res : R β) (step : γ → Item × P → γ) (Rel : St P → γ → Prop) (h0 : γ)
    (hbody : ∀ e st h, Rel st h → ∃ st', body e st = .ok (st', .normal) ∧ Rel st' (step h e))
    (hrel : Rel st0 h0)
    (hK : ∀ st', Rel st' (l.foldl step h0) → K (st', .normal) = res) :
    forList body l st0 >>= K = res := by
  obtain ⟨st', h1, h2⟩ := forList_rel body step Rel hbody l st0 h0 hrel
  rw [h1]
  exact hK st' h2

/-! ## `From<Vec<(I, P)>> for Store` -/

/-- `Store::from(vec)` = `Store.fromVec` (for a vector that can exist: fewer than `capLimit` elements; the source asks for
that capacity up front) -/
theorem storeFromVec (s : Store P) (v : Array (Item × P)) (hv : v.size < capLimit) (fuel : Nat) (h : fuel ≥ 1) :
    Src.run SrcGen.prog fuel .storeFromVec s [] [] [Val.entries v] = pure (Store.fromVec v, Val.unit) := by
  rw [run_eq_pos rfl h]
  have hcap : ¬ v.size ≥ capLimit := by omega
  src_eval [storeFromVec_body, reserveC, hcap]
  refine forList_bind_rel _ _ _ _ _ Store.pushIfAbsent
    (fun st h => st.s = { h with size := 0 } ∧ st.n 1 = h.size) Store.empty ?_ ⟨rfl, rfl⟩ ?_
  · intro e st h ⟨hs, hn⟩
    unfold Store.pushIfAbsent
    simp only [hs, hn]
    cases hc : h.map.contains e.fst.key with
    | true => exact ⟨_, by simp; rfl, by simp, by simp [upd]; exact hn⟩
    | false =>
      refine ⟨_, by simp; rfl, ?_, by simp [upd]⟩
      simp [insertFull_fst_of_not_contains _ _ hc]
  · intro st' ⟨hs, hn⟩
    simp only [Store.fromVec, Array.foldl_toList] at hs hn ⊢
    simp only [hs, hn, pure_bind, fin_normal]

/-! ## `FromIterator`, `Extend`, serde `visit_seq` for `Store` -/

theorem contains_true_find {m : IMap P} {k : Nat} (h : m.contains k = true) :
    ∃ i e, IMap.find? m k = some i ∧ m[i]? = some e := by
  unfold IMap.contains at h
  cases hf : IMap.find? m k with
  | none => simp [hf] at h
  | some i =>
    obtain ⟨e, he, _⟩ := IMap.find?_getElem? hf
    exact ⟨i, e, rfl, he⟩

theorem contains_false_find {m : IMap P} {k : Nat} (h : m.contains k = false) : IMap.find? m k = none := by
  unfold IMap.contains at h
  cases hf : IMap.find? m k with
  | none => rfl
  | some i => simp [hf] at h

/-- the source asks for capacity only when the announced length is positive; asking for none succeeds -/
theorem reserveC_guard {α : Type} (lo : Nat) (k : R α) :
    (if lo > 0 then reserveC lo >>= fun _ => k else k) = reserveC lo >>= fun _ => k := by
  by_cases hlo : lo > 0
  · rw [if_pos hlo]
  · obtain rfl : lo = 0 := by omega
    rw [if_neg hlo, reserveC_zero, ok_bind]

/-- `Store::from_iter(iter)` = `reserveC lo` (when `lo > 0`), then `Store.fromIter` -/
theorem storeFromIter (s : Store P) (lo : Nat) (xs : Array (Item × P)) (fuel : Nat) (h : fuel ≥ 1) :
    Src.run SrcGen.prog fuel .storeFromIter s [] [] [Val.iter lo xs]
      = (do reserveC lo; pure (Store.fromIter xs, Val.unit)) := by
  rw [run_eq_pos rfl h]
  src_eval [storeFromIter_body]
  rw [reserveC_guard]
  refine bind_congr fun _ => ?_
  refine forList_bind_rel _ _ _ _ _ Store.fromIterStep (fun st h => st.s = h) Store.empty ?_ rfl ?_
  · intro e st h hs
    subst hs
    unfold Store.fromIterStep
    cases hc : st.s.map.contains e.fst.key with
    | true =>
      obtain ⟨i, e0, hf, he0⟩ := contains_true_find hc
      refine ⟨_, by simp [hf, unwrapO_some]; rfl, ?_⟩
      simp [hf, IMap.setItem, IMap.setPrio, he0, getElem?_some_lt he0]
    | false =>
      have hf := contains_false_find hc
      refine ⟨_, by simp; rfl, ?_⟩
      simp [hf, insertFull_fst_of_not_contains _ _ hc]
  · intro st' hs
    simp only [Store.fromIter, Array.foldl_toList] at hs ⊢
    simp only [hs, fin_normal]

/-- `Extend::extend` of the store = `Store.extend` -/
theorem storeExtend (s : Store P) (lo : Nat) (xs : Array (Item × P)) (fuel : Nat) (h : fuel ≥ 1) :
    Src.run SrcGen.prog fuel .storeExtend s [] [] [Val.iter lo xs] = pure (s.extend xs, Val.unit) := by
  rw [run_eq_pos rfl h]
  src_eval [storeExtend_body]
  refine forList_bind_rel _ _ _ _ _ Store.extendStep (fun st h => st.s = h) s ?_ rfl ?_
  · intro e st h hs
    subst hs
    unfold Store.extendStep
    cases hc : st.s.map.contains e.fst.key with
    | true =>
      obtain ⟨i, e0, hf, he0⟩ := contains_true_find hc
      exact ⟨_, by simp [hf, unwrapO_some]; rfl, by simp [hf]⟩
    | false =>
      have hf := contains_false_find hc
      refine ⟨_, by simp; rfl, ?_⟩
      simp [hf, insertFull_fst_of_not_contains _ _ hc]
  · intro st' hs
    simp only [Store.extend, Array.foldl_toList] at hs ⊢
    simp only [hs, fin_normal]

/-- serde `visit_seq` = the capped capacity request (`Arith.deserPrealloc`, generated from the same source), then
`Store.visitSeq` -/
theorem storeVisitSeq (s : Store P) (hint : Option Nat) (xs : Array (Item × P)) (fuel : Nat) (h : fuel ≥ 1) :
    Src.run SrcGen.prog fuel .storeVisitSeq s [] [] [Val.seq hint xs]
      = (do (match hint with
              | some h => reserveC (Arith.deserPrealloc h)
              | none => pure ())
            pure (Store.visitSeq xs, Val.unit)) := by
  rw [run_eq_pos rfl h]
  cases hint
  all_goals src_eval [storeVisitSeq_body, Arith.deserPrealloc]
  rotate_left
  refine bind_congr_ok fun _ _ => ?_
  all_goals
    refine forList_bind_rel _ _ _ _ _ Store.visitSeqStep (fun st h => st.s = h) Store.empty ?_ rfl ?_
    · intro e st h hs
      subst hs
      unfold Store.visitSeqStep
      cases ho : (st.s.map.insertFull e.fst e.snd).2.2 with
      | none => exact ⟨_, by simp [ho]; rfl, by simp [ho]⟩
      | some o => exact ⟨_, by simp [ho]; rfl, by simp [ho]⟩
    · intro st' hs
      simp only [Store.visitSeq, Array.foldl_toList] at hs ⊢
      simp only [hs, fin_normal]

/-- `Store::retain(g)` = `Store.retainMut` with the predicate that leaves item and priority alone -/
theorem storeRetain (s : Store P) (g : Item → P → Bool) (fuel : Nat) (h : fuel ≥ 2) :
    Src.run SrcGen.prog fuel .storeRetain s [] [] [Val.predRO g]
      = pure (s.retainMut (fun i p => (g i p, i, p)), Val.unit) := by
  obtain ⟨n, rfl⟩ : ∃ n, fuel = n + 2 := ⟨fuel - 2, by omega⟩
  src_enter
  src_eval [storeRetain_body, callWith_exec, storeRetainMut _ _ (n + 1) (by omega)]
end PQ.SrcEquiv
