import PQ.Lemmas.SrcEquivBulkQ
set_option linter.unusedSimpArgs false
set_option linter.unusedSectionVars false
/-! # Source-translated tie, iterators: the `IterMut` cursor code of both queues, the sorted iterators, and the three
wrappers of `src/core_iterators.rs` -/
namespace PQ.SrcEquiv
open PQ PQ.Src PQ.SrcGen
variable {P : Type} [LT P] [DecidableLT P]

/-! ## `priority_queue::IterMut` -/

/-- `IterMut::new` = `PIterMut.new` -/
theorem pqIterMutNew (s : Store P) (fuel : Nat) (h : fuel ≥ 1) :
    Src.run SrcGen.prog fuel .pqIterMutNew s [] = pure (s, Val.cursor [PIterMut.new.pos] none) := by
  rw [run_eq_pos rfl h]
  src_eval [pqIterMutNew_body]
  rfl

/-- `IterMut::next` = `PIterMut.step … .next` (the reborrow is the trusted primitive "yield slot `pos`") -/
theorem pqIterMutNext (s : Store P) (pos : Nat) (fuel : Nat) (h : fuel ≥ 1) :
    Src.run SrcGen.prog fuel .pqIterMutNext s [pos]
      = pure (s, Val.cursor [(PIterMut.step s.map.size ⟨pos⟩ .next).1.pos] (some (PIterMut.step s.map.size ⟨pos⟩ .next).2)) := by
  rw [run_eq_pos rfl h]
  src_eval [pqIterMutNext_body, PIterMut.step]

/-- `Drop for IterMut` = `MaxQ.heapBuild` -/
theorem pqIterMutDrop (s : Store P) (pos : Nat) (fuel : Nat) (h : fuel ≥ s.size + 4) :
    Src.run SrcGen.prog fuel .pqIterMutDrop s [pos] = (fun s' => (s', Val.unit)) <$> MaxQ.heapBuild s := by
  rw [run_eq_pos rfl (by omega)]
  src_eval [pqIterMutDrop_body]
  rw [call_pqHeapBuild _ _ (by omega)]
  src_eval

/-! ## `double_priority_queue::IterMut` -/

theorem dqIterMutNew (s : Store P) (fuel : Nat) (h : fuel ≥ 1) :
    Src.run SrcGen.prog fuel .dqIterMutNew s []
      = pure (s, Val.cursor [(DIterMut.new s.map.size).pos, (DIterMut.new s.map.size).back] none) := by
  rw [run_eq_pos rfl h]
  src_eval [dqIterMutNew_body]
  rfl

/-- what a method of the cursor hands back, from a step of the hand model -/
def encStep (s : Store P) (r : DIterMut × IOut) : Store P × Val P := (s, Val.cursor [r.1.pos, r.1.back] (some r.2))

theorem dqIterMutNext (s : Store P) (pos back : Nat) (fuel : Nat) (h : fuel ≥ 1) :
    Src.run SrcGen.prog fuel .dqIterMutNext s [pos, back] = encStep s <$> DIterMut.step s.map.size ⟨pos, back⟩ .next := by
  rw [run_eq_pos rfl h]
  src_eval [dqIterMutNext_body, DIterMut.step, encStep]

/-- `next_back`; the checked `self.back -= 1` (site 403) never fires: the guard `pos >= back` has returned before -/
theorem dqIterMutNextBack (s : Store P) (pos back : Nat) (fuel : Nat) (h : fuel ≥ 1) :
    Src.run SrcGen.prog fuel .dqIterMutNextBack s [pos, back]
      = encStep s <$> DIterMut.step s.map.size ⟨pos, back⟩ .nextBack := by
  rw [run_eq_pos rfl h]
  src_eval [dqIterMutNextBack_body, DIterMut.step, encStep]
  by_cases hc : pos ≥ back
  · simp only [hc, ↓reduceIte, decide_true]
  · have h1 : ¬ back < 1 := by omega
    simp only [hc, ↓reduceIte, decide_false, Bool.false_eq_true, h1]

theorem dqIterMutLen (s : Store P) (pos back : Nat) (fuel : Nat) (h : fuel ≥ 1) :
    Src.run SrcGen.prog fuel .dqIterMutLen s [pos, back] = encStep s <$> DIterMut.step s.map.size ⟨pos, back⟩ .len := by
  rw [run_eq_pos rfl h]
  src_eval [dqIterMutLen_body, DIterMut.step, encStep]

theorem dqIterMutSizeHint (s : Store P) (pos back : Nat) (fuel : Nat) (h : fuel ≥ 1) :
    Src.run SrcGen.prog fuel .dqIterMutSizeHint s [pos, back]
      = encStep s <$> DIterMut.step s.map.size ⟨pos, back⟩ .sizeHint := by
  rw [run_eq_pos rfl h]
  src_eval [dqIterMutSizeHint_body, DIterMut.step, encStep]

theorem dqIterMutDrop (s : Store P) (pos back : Nat) (fuel : Nat) (h : fuel ≥ s.size + 5) :
    Src.run SrcGen.prog fuel .dqIterMutDrop s [pos, back] = (fun s' => (s', Val.unit)) <$> DQ.heapBuild s := by
  rw [run_eq_pos rfl (by omega)]
  src_eval [dqIterMutDrop_body]
  rw [call_dqHeapBuild _ _ (by omega)]
  src_eval

/-! ## the sorted iterators -/

/-- `priority_queue::IntoSortedIter::next` = `MaxQ.pop` -/
theorem pqSortedNext (s : Store P) (fuel : Nat) (h : fuel ≥ s.size + 4) :
    Src.run SrcGen.prog fuel .pqSortedNext s [] = (fun r => (r.1, Val.optEntry r.2)) <$> MaxQ.pop s := by
  obtain ⟨k, rfl⟩ : ∃ k, fuel = k + 1 := ⟨fuel - 1, by omega⟩
  src_enter
  src_eval [pqSortedNext_body]
  rw [callWith_exec, pqPop s k (by omega)]
  src_eval

/-- `double_priority_queue::IntoSortedIter::next` = `DQ.popMin` -/
theorem dqSortedNext (s : Store P) (fuel : Nat) (h : fuel ≥ s.size + 5) :
    Src.run SrcGen.prog fuel .dqSortedNext s [] = (fun r => (r.1, Val.optEntry r.2)) <$> DQ.popMin s := by
  obtain ⟨k, rfl⟩ : ∃ k, fuel = k + 1 := ⟨fuel - 1, by omega⟩
  src_enter
  src_eval [dqSortedNext_body]
  rw [callWith_exec, dqPopMin s k (by omega)]
  src_eval

/-- `double_priority_queue::IntoSortedIter::next_back` = `DQ.popMax` -/
theorem dqSortedNextBack (s : Store P) (fuel : Nat) (h : fuel ≥ s.size + 5) :
    Src.run SrcGen.prog fuel .dqSortedNextBack s [] = (fun r => (r.1, Val.optEntry r.2)) <$> DQ.popMax s := by
  obtain ⟨k, rfl⟩ : ∃ k, fuel = k + 1 := ⟨fuel - 1, by omega⟩
  src_enter
  src_eval [dqSortedNextBack_body]
  rw [callWith_exec, dqPopMax s k (by omega)]
  src_eval

/-- `ExactSizeIterator::len` of the sorted iterator = `pq.len()` -/
theorem dqSortedLen (s : Store P) (fuel : Nat) (h : fuel ≥ 1) :
    Src.run SrcGen.prog fuel .dqSortedLen s [] = pure (s, Val.nat s.len) := by
  rw [run_eq_pos rfl h]
  src_eval [dqSortedLen_body, Store.len]

/-- `size_hint` of the sorted iterator = `(pq.len(), Some(pq.len()))` -/
theorem dqSortedSizeHint (s : Store P) (fuel : Nat) (h : fuel ≥ 1) :
    Src.run SrcGen.prog fuel .dqSortedSizeHint s [] = pure (s, Val.cursor [] (some (.hint s.len (some s.len)))) := by
  rw [run_eq_pos rfl h]
  src_eval [dqSortedSizeHint_body, Store.len]

/-! ## `src/core_iterators.rs`: `Drain`, `Iter`, `IntoIter` are pure delegation to IndexMap's iterators (`Cursor`) -/

def encCursor (s : Store P) (r : Cursor × IOut) : Store P × Val P := (s, Val.cursor [r.1.front, r.1.back] (some r.2))

/-- `Drain::next` forwards to the method of the same name of IndexMap's iterator -/
theorem drainNext (s : Store P) (front back : Nat) (fuel : Nat) (h : fuel ≥ 1) :
    Src.run SrcGen.prog fuel .drainNext s [front, back] = pure (encCursor s (Cursor.step ⟨front, back⟩ .next)) := by
  rw [run_eq_pos rfl h]
  src_eval [drainNext_body, encCursor]

/-- `Drain::next_back` forwards to the method of the same name of IndexMap's iterator -/
theorem drainNextBack (s : Store P) (front back : Nat) (fuel : Nat) (h : fuel ≥ 1) :
    Src.run SrcGen.prog fuel .drainNextBack s [front, back] = pure (encCursor s (Cursor.step ⟨front, back⟩ .nextBack)) := by
  rw [run_eq_pos rfl h]
  src_eval [drainNextBack_body, encCursor]

/-- `Drain::len` forwards to the method of the same name of IndexMap's iterator -/
theorem drainLen (s : Store P) (front back : Nat) (fuel : Nat) (h : fuel ≥ 1) :
    Src.run SrcGen.prog fuel .drainLen s [front, back] = pure (encCursor s (Cursor.step ⟨front, back⟩ .len)) := by
  rw [run_eq_pos rfl h]
  src_eval [drainLen_body, encCursor]

/-- `Drain::size_hint` forwards to the method of the same name of IndexMap's iterator -/
theorem drainSizeHint (s : Store P) (front back : Nat) (fuel : Nat) (h : fuel ≥ 1) :
    Src.run SrcGen.prog fuel .drainSizeHint s [front, back] = pure (encCursor s (Cursor.step ⟨front, back⟩ .sizeHint)) := by
  rw [run_eq_pos rfl h]
  src_eval [drainSizeHint_body, encCursor]

/-- `Iter::next` forwards to the method of the same name of IndexMap's iterator -/
theorem iterNext (s : Store P) (front back : Nat) (fuel : Nat) (h : fuel ≥ 1) :
    Src.run SrcGen.prog fuel .iterNext s [front, back] = pure (encCursor s (Cursor.step ⟨front, back⟩ .next)) := by
  rw [run_eq_pos rfl h]
  src_eval [iterNext_body, encCursor]

/-- `Iter::next_back` forwards to the method of the same name of IndexMap's iterator -/
theorem iterNextBack (s : Store P) (front back : Nat) (fuel : Nat) (h : fuel ≥ 1) :
    Src.run SrcGen.prog fuel .iterNextBack s [front, back] = pure (encCursor s (Cursor.step ⟨front, back⟩ .nextBack)) := by
  rw [run_eq_pos rfl h]
  src_eval [iterNextBack_body, encCursor]

/-- `Iter::len` forwards to the method of the same name of IndexMap's iterator -/
theorem iterLen (s : Store P) (front back : Nat) (fuel : Nat) (h : fuel ≥ 1) :
    Src.run SrcGen.prog fuel .iterLen s [front, back] = pure (encCursor s (Cursor.step ⟨front, back⟩ .len)) := by
  rw [run_eq_pos rfl h]
  src_eval [iterLen_body, encCursor]

/-- `Iter::size_hint` forwards to the method of the same name of IndexMap's iterator -/
theorem iterSizeHint (s : Store P) (front back : Nat) (fuel : Nat) (h : fuel ≥ 1) :
    Src.run SrcGen.prog fuel .iterSizeHint s [front, back] = pure (encCursor s (Cursor.step ⟨front, back⟩ .sizeHint)) := by
  rw [run_eq_pos rfl h]
  src_eval [iterSizeHint_body, encCursor]

/-- `IntoIter::next` forwards to the method of the same name of IndexMap's iterator -/
theorem intoIterNext (s : Store P) (front back : Nat) (fuel : Nat) (h : fuel ≥ 1) :
    Src.run SrcGen.prog fuel .intoIterNext s [front, back] = pure (encCursor s (Cursor.step ⟨front, back⟩ .next)) := by
  rw [run_eq_pos rfl h]
  src_eval [intoIterNext_body, encCursor]

/-- `IntoIter::next_back` forwards to the method of the same name of IndexMap's iterator -/
theorem intoIterNextBack (s : Store P) (front back : Nat) (fuel : Nat) (h : fuel ≥ 1) :
    Src.run SrcGen.prog fuel .intoIterNextBack s [front, back] = pure (encCursor s (Cursor.step ⟨front, back⟩ .nextBack)) := by
  rw [run_eq_pos rfl h]
  src_eval [intoIterNextBack_body, encCursor]

/-- `IntoIter::len` forwards to the method of the same name of IndexMap's iterator -/
theorem intoIterLen (s : Store P) (front back : Nat) (fuel : Nat) (h : fuel ≥ 1) :
    Src.run SrcGen.prog fuel .intoIterLen s [front, back] = pure (encCursor s (Cursor.step ⟨front, back⟩ .len)) := by
  rw [run_eq_pos rfl h]
  src_eval [intoIterLen_body, encCursor]

/-- `IntoIter::size_hint` forwards to the method of the same name of IndexMap's iterator -/
theorem intoIterSizeHint (s : Store P) (front back : Nat) (fuel : Nat) (h : fuel ≥ 1) :
    Src.run SrcGen.prog fuel .intoIterSizeHint s [front, back] = pure (encCursor s (Cursor.step ⟨front, back⟩ .sizeHint)) := by
  rw [run_eq_pos rfl h]
  src_eval [intoIterSizeHint_body, encCursor]

end PQ.SrcEquiv
