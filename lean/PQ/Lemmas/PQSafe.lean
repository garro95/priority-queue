import PQ.Lemmas.OpsCommon
/-!
# `PriorityQueue`: every operation is fault-free on a store that is only well-formed (`WF`)

No theorem of this file assumes the heap order.  That is what property C04 needs: after a leaked `iter_mut` guard
the store is well-formed but no longer heap-ordered, and every unchecked access must still be in range.

Part 1: the sifting procedures (`pickLargest`, `heapify`, `bubble_up`, `up_heapify`, `heap_build`), then what they do
to the order (`upAfter`, `heapify_zero_after`).
Part 2: each public operation has one total statement `*_core` from `s.WF` alone: it returns `.ok`, keeps `WF`, has the
abstract effect (`Store.abs`) stated, and — the last clause — leaves a max-heap if it was given one.  `*_safe` is
`*_core` without that clause, in the case-split form its users want; `PQ/Lemmas/PQOps.lean` reads the statements under
`MaxQ.Inv` off it.  (The operations that end in `heap_build` need no `*_core`: their `*_safe` is `heapBuild_safe` plus
the store-level lemma about the contents.)

`heapify i` is only ever called with `i < size` (or `size ≤ 1`, where it returns at once): `pop`/`pop_if` call it at
`0` with `size ≥ 1`, `up_heapify` at the final position of `bubble_up` (`pos ≤ i < size`), `heap_build` at
`0 ..= parent size` (`< size`).  `heapify_oob` shows the precondition is needed: with `1 < size ≤ i` the model
reports the out-of-bounds fault of site 105.
-/
set_option linter.unusedSectionVars false
namespace PQ
open Arith

/-! ## Decidability of `MaxHeap` and `MaxQ.Inv` (for concrete examples; needs only `<` decidable) -/
section Decide
variable {P : Type} [LT P] [DecidableLT P]

def Store.edgeOk (s : Store P) (p : Nat) : Bool :=
  match s.pr (parent p), s.pr p with
  | some a, some b => !decide (a < b)
  | _, _ => true

theorem Store.maxHeap_iff_edgeOk {s : Store P} : s.MaxHeap ↔ ∀ p, p < s.size → 0 < p → s.edgeOk p = true := by
  unfold Store.MaxHeap Store.edgeOk
  constructor
  · intro h p hps hp
    cases ha : s.pr (parent p) with
    | none => rfl
    | some a =>
      cases hb : s.pr p with
      | none => rfl
      | some b => simpa using h p hp hps a b ha hb
  · intro h p hp hps a b ha hb
    have := h p hps hp
    rw [ha, hb] at this
    simpa using this

instance Store.decidableMaxHeap (s : Store P) : Decidable s.MaxHeap := decidable_of_iff _ Store.maxHeap_iff_edgeOk.symm
instance MaxQ.decidableInv (s : Store P) : Decidable (MaxQ.Inv s) := inferInstanceAs (Decidable (s.WF ∧ s.MaxHeap))

end Decide

variable {P : Type} [LT P] [DecidableLT P] [LE P] [Std.IsLinearPreorder P] [Std.LawfulOrderLT P]

namespace Store

theorem pr_congr {s t : Store P} (hm : t.map = s.map) (hh : t.heap = s.heap) (p : Nat) : t.pr p = s.pr p := by
  unfold pr; rw [hm, hh]

theorem entryAt_congr {s t : Store P} (hm : t.map = s.map) (hh : t.heap = s.heap) (p : Nat) :
    t.entryAt p = s.entryAt p := by
  unfold entryAt; rw [hm, hh]

theorem prioAt_oob {s : Store P} {i : Nat} (h : s.WF) (hi : s.size ≤ i) : s.prioAt i = .error (.oob 105) := by
  have : s.heap[i]? = none := Array.getElem?_eq_none (by rw [h.heap_size]; exact hi)
  simp only [prioAt, getU, this, bind, Except.bind]

end Store

namespace MaxQ
open Store

/-! ## Part 1: the sifting procedures -/

theorem pickLargest_safe {s : Store P} {i : Nat} (h : s.WF) (hi : i < s.size) :
    ∃ k L, pickLargest s i = .ok (s.tick k, L) ∧ k ≤ 2 ∧ L < s.size ∧ (L = i ∨ L = left i ∨ L = right i) := by
  obtain ⟨k, L, h1, h2, h3, h4, _⟩ := pickLargest_spec h hi
  exact ⟨k, L, h1, h2, h3, h4⟩

theorem heapifyLoop_safe (fuel : Nat) : ∀ (s : Store P) (i : Nat), s.WF → i < s.size → s.size - i ≤ fuel →
    ∃ s', heapifyLoop fuel s i = .ok s' ∧ s'.WF ∧ s'.map = s.map ∧ s'.size = s.size := by
  induction fuel with
  | zero => intro s i _ hi hf; omega
  | succ fuel ih =>
    intro s i h hi hf
    obtain ⟨k, L, hpick, _, hL, hLc⟩ := pickLargest_safe h hi
    by_cases hLi : L = i
    · subst hLi
      refine ⟨s.tick k, ?_, tick_TWF.mpr h, rfl, rfl⟩
      simp [heapifyLoop, hpick, bind, Except.bind, pure, Except.pure]
    · have hLi' : i < L := by rcases hLc with h1 | h1 | h1 <;> (try simp only [left, right] at h1) <;> omega
      obtain ⟨s1, hswap, h1wf, h1map, h1size, _, _⟩ := swap_spec h hi hL
      have h1wf' : s1.WF := WF.of_TWF_size h1wf h1size
      obtain ⟨s', hrun, hwf', hmap', hsize'⟩ :=
        ih (s1.tick k) L (tick_TWF.mpr h1wf') (by simpa [h1size] using hL) (by simp [h1size]; omega)
      refine ⟨s', ?_, hwf', by rw [hmap']; simpa using h1map, by rw [hsize']; simpa using h1size⟩
      have hswap' : (s.tick k).swap i L = .ok (s1.tick k) := by rw [swap_tick, hswap]
      simp [heapifyLoop, hpick, bind, Except.bind, hLi, hswap', hrun]

theorem heapify_safe {s : Store P} {i : Nat} (h : s.WF) (hi : i < s.size) :
    ∃ s', heapify s i = .ok s' ∧ s'.WF ∧ s'.map = s.map ∧ s'.size = s.size := by
  unfold heapify
  by_cases h1 : s.size ≤ 1
  · exact ⟨s, by simp [h1]; rfl, h, rfl, rfl⟩
  · simp only [h1, if_false]
    exact heapifyLoop_safe s.size s i h hi (by omega)

theorem heapify_small {s : Store P} (i : Nat) (h1 : s.size ≤ 1) : heapify s i = .ok s := by
  unfold heapify; simp [h1]; rfl

/-- the precondition `i < size` of `heapify_safe` is necessary: beyond the end (and with more than one element)
the first `get_priority_from_position` reads out of bounds -/
theorem heapify_oob {s : Store P} {i : Nat} (h : s.WF) (h1 : 1 < s.size) (hi : s.size ≤ i) :
    heapify s i = .error (.oob 105) := by
  unfold heapify
  have : ¬ s.size ≤ 1 := by omega
  simp only [this, if_false]
  obtain ⟨n, hn⟩ : ∃ n, s.size = n + 1 := ⟨s.size - 1, by omega⟩
  rw [hn]
  simp only [heapifyLoop, pickLargest, prioAt_oob h hi, bind, Except.bind]

theorem bubbleUpLoop_tables (v : P) (n idx : Nat) (fuel : Nat) : ∀ (s : Store P) (hole : Nat),
    s.HoleTWF n hole idx → hole + 1 ≤ fuel →
    ∃ s' pos, bubbleUpLoop fuel s hole v = .ok (s', pos) ∧ s'.HoleTWF n pos idx ∧ s'.map = s.map ∧
      s'.size = s.size ∧ pos ≤ hole := by
  induction fuel with
  | zero => intro s hole _ hf; omega
  | succ fuel ih =>
    intro s hole h hf
    by_cases h0 : hole > 0
    · have hppn : parent hole < n := by have := h.hole_lt; simp only [parent]; omega
      have hppne : parent hole ≠ hole := by simp only [parent]; omega
      obtain ⟨pi, x, hpi, hx, hxp⟩ := h.prioAt_ok hppn hppne
      by_cases hlt : x < v
      · have hstep := (h.tick (k := 1)).step hppn hppne (by simpa using hpi)
        have hpiN : pi < s.qp.size := by
          obtain ⟨_, _, h2, h3⟩ := h.heap_qp _ hppn hppne
          rw [hpi] at h2; cases h2; exact lt_size_of_getElem? h3
        have hholeN : hole < s.heap.size := by rw [h.heap_size]; exact h.hole_lt
        obtain ⟨s1, hs1⟩ : ∃ s1 : Store P, s1 = { s.tick with heap := (s.tick).heap.setIfInBounds hole pi, qp := (s.tick).qp.setIfInBounds pi hole } := ⟨_, rfl⟩
        rw [← hs1] at hstep
        have hpl : parent hole < hole := by simp only [parent]; omega
        obtain ⟨s', pos, hrun, hh', hm', hsz', hle⟩ := ih s1 (parent hole) hstep (by omega)
        refine ⟨s', pos, ?_, hh', by rw [hm', hs1]; rfl, by rw [hsz', hs1]; rfl, by omega⟩
        simp [bubbleUpLoop, h0, hx, hlt, getU_ok hpi, setU_ok pi hholeN, setU_ok hole hpiN, bind, Except.bind]
        rw [hs1] at hrun; exact hrun
      · refine ⟨s.tick, hole, ?_, h.tick, rfl, rfl, Nat.le_refl _⟩
        simp [bubbleUpLoop, h0, hx, hlt, bind, Except.bind, pure, Except.pure]
    · refine ⟨s, hole, ?_, h, rfl, rfl, Nat.le_refl _⟩
      simp [bubbleUpLoop, h0]; rfl

theorem bubbleUp_tables {s : Store P} {n i idx : Nat} (h : s.TWF n) (hi : s.heap[i]? = some idx) :
    ∃ s' pos, bubbleUp s i idx = .ok (s', pos) ∧ s'.TWF n ∧ s'.map = s.map ∧ s'.size = s.size ∧ pos ≤ i := by
  have hidx : idx < n := h.heap_lt hi
  obtain ⟨e, he⟩ := h.map_some hidx
  obtain ⟨s1, pos, hrun, hh1, hm1, hsz1, hle⟩ :=
    bubbleUpLoop_tables e.2 n idx (i + 1) s i (h.toHole hi) (Nat.le_refl _)
  have hposN : pos < s1.heap.size := by rw [hh1.heap_size]; exact hh1.hole_lt
  have hidxN : idx < s1.qp.size := by rw [hh1.qp_size]; exact hidx
  refine ⟨{ s1 with heap := s1.heap.setIfInBounds pos idx, qp := s1.qp.setIfInBounds idx pos }, pos, ?_, hh1.fill, hm1, hsz1, hle⟩
  simp only [bubbleUp, IMap.getIndex, unwrapO, he, hrun, setU_ok idx hposN, setU_ok pos hidxN, bind, Except.bind, pure, Except.pure]

theorem upHeapify_safe {s : Store P} {i : Nat} (h : s.WF) (hi : i < s.size) :
    ∃ s', upHeapify s i = .ok s' ∧ s'.WF ∧ s'.map = s.map ∧ s'.size = s.size := by
  obtain ⟨idx, hidx, _⟩ := TWF.heap_some h hi
  obtain ⟨s1, pos, hb, h1, hm1, hsz1, hle⟩ := bubbleUp_tables h hidx
  have h1wf : s1.WF := WF.of_TWF_size h1 hsz1
  obtain ⟨s', hh, hwf, hm, hsz⟩ := heapify_safe h1wf (i := pos) (by rw [hsz1]; omega)
  refine ⟨s', ?_, hwf, by rw [hm, hm1], by rw [hsz, hsz1]⟩
  simp only [upHeapify, getU_ok hidx, hb, hh, bind, Except.bind]

theorem heapBuild_safe {s : Store P} (h : s.WF) :
    ∃ s', heapBuild s = .ok s' ∧ s'.WF ∧ s'.map = s.map ∧ s'.size = s.size := by
  obtain ⟨s', h1, h2, h3, h4, _⟩ := heapBuild_spec h
  exact ⟨s', h1, h2, h3, h4⟩


/-! ## The order toolbox -/

theorem Inv.tick {s : Store P} (h : Inv s) (k : Nat) : Inv (s.tick k) := ⟨tick_TWF.mpr h.1, h.2⟩

theorem root_ge {s : Store P} (h : s.WF) (hm : s.MaxHeap) : ∀ p, p < s.size → s.Ge 0 p := by
  intro p
  induction p using Nat.strongRecOn with
  | _ p ih =>
    intro hp x y hx hy
    by_cases h0 : p = 0
    · subst h0; rw [hx] at hy; cases hy; grind
    · have hpl : parent p < p := parent_lt (by omega)
      obtain ⟨z, hz⟩ := TWF.pr_some h (show parent p < s.size by omega)
      have e1 := ih (parent p) hpl (by omega) x z hx hz
      have e2 := hm p (by omega) hp z y hz hy
      grind

theorem isMax_root {s : Store P} (h : Inv s) {e : Item × P} (he : s.entryAt 0 = some e) : s.IsMax e := by
  refine ⟨entryAt_mem he, fun e' hm' => ?_⟩
  obtain ⟨p, hp, hep⟩ := mem_entryAt h.1 hm'
  exact root_ge h.1 h.2 p hp e.2 e'.2 (by rw [pr_eq_entryAt, he]; rfl) (by rw [pr_eq_entryAt, hep]; rfl)

theorem maxHeap_of_prefix {s s1 : Store P} (hm : s.MaxHeap) (hsz : s1.size ≤ s.size)
    (hpr : ∀ q, q < s1.size → s1.pr q = s.pr q) : s1.MaxHeap := by
  intro p hp hps a b ha hb
  rw [hpr _ (by have := parent_le p; omega)] at ha
  rw [hpr _ hps] at hb
  exact hm p hp (by omega) a b ha hb

theorem upAfter : UpAfter (P := P) upHeapify Store.MaxHeap := by
  intro s s1 pos hwf h1 hsz hpos hent
  obtain ⟨s', he, hwf', hm', hsz'⟩ := upHeapify_safe h1 hpos
  refine ⟨s', he, hwf', hm', hsz', fun hm => ?_⟩
  have hpr : ∀ q, q < s1.size → q ≠ pos → s1.pr q = s.pr q := fun q hq hne => by
    rw [pr_eq_entryAt, pr_eq_entryAt, hent q hq hne]
  have hspec : ∃ s'', upHeapify s1 pos = .ok s'' ∧ s''.WF ∧ s''.map = s1.map ∧ s''.size = s1.size ∧ s''.MaxHeap := by
    refine upHeapify_spec h1 hpos ?_ ?_
    · intro p hp hps hpp hppp a b ha hb
      rw [hpr _ (by have := parent_le p; omega) hppp] at ha
      rw [hpr _ hps hpp] at hb
      exact hm p hp (by omega) a b ha hb
    · intro h0 c hc hcs hcp a b ha hb
      have hpl : parent pos < pos := parent_lt h0
      have hcl : parent c < c := parent_lt hc
      rw [hpr _ (by omega) (by omega)] at ha
      rw [hpr _ hcs (by omega)] at hb
      obtain ⟨z, hz⟩ := TWF.pr_some hwf (show pos < s.size by omega)
      have e1 := hm pos h0 (by omega) a z ha hz
      have e2 := hm c hc (by omega) z b (by rw [hcp]; exact hz) hb
      grind
  obtain ⟨s'', he', _, _, _, hmax⟩ := hspec
  rw [he] at he'
  cases he'
  exact hmax

theorem heapify_zero_after {s s1 : Store P} (h1 : s1.WF) (hsz : s1.size ≤ s.size)
    (hpr : ∀ q, 0 < q → q < s1.size → s1.pr q = s.pr q) :
    ∃ s', heapify s1 0 = .ok s' ∧ s'.WF ∧ s'.map = s1.map ∧ s'.size = s1.size ∧ (s.MaxHeap → s'.MaxHeap) := by
  by_cases hpos : s1.size ≤ 1
  · exact ⟨s1, heapify_small 0 hpos, h1, rfl, rfl, fun _ p hp hps => by omega⟩
  obtain ⟨s', hh, hwf, hmap, hsz'⟩ := heapify_safe h1 (i := 0) (by omega)
  refine ⟨s', hh, hwf, hmap, hsz', fun hm => ?_⟩
  have hpre : s1.SiftPre 0 0 := by
    constructor
    · intro p hp hps _ hpp a b ha hb
      rw [hpr _ (by omega) (by have := parent_le p; omega)] at ha
      rw [hpr _ hp hps] at hb
      exact hm p hp (by omega) a b ha hb
    · intro h0; omega
  obtain ⟨s'', hh', _, _, _, hed, _⟩ := heapify_spec h1 (by omega) hpre
  rw [hh] at hh'
  cases hh'
  exact (maxHeap_iff_edgesFrom s').mpr hed

/-! ## Part 2: the public operations -/

theorem peek_eq_entryAt (s : Store P) : peek s = s.entryAt 0 := rfl

theorem peek_safe {s : Store P} (h : s.WF) :
    (s.size = 0 → peek s = none) ∧
    (0 < s.size → ∃ e, peek s = some e ∧ s.entryAt 0 = some e ∧ s.Mem e ∧ s.abs e.1.key = some e) := by
  constructor
  · intro h0
    have : s.heap[0]? = none := Array.getElem?_eq_none (by rw [h.heap_size, h0]; exact Nat.le_refl _)
    simp [peek, this]
  · intro hpos
    obtain ⟨e, he⟩ := TWF.entryAt_some h hpos
    exact ⟨e, he, he, entryAt_mem he, (mem_iff_lookup h).1 (entryAt_mem he)⟩

/-- **`peek_mut`** with a key-preserving write to the item: the entry `peek` shows is returned, its item is
rewritten, nothing else changes (tables, size and even the ghost counter are the same); the priority is not writable
through the reference, so the order stays -/
theorem peekMutWrite_core {s : Store P} (h : s.WF) (w : Item → Item) (hw : ∀ it, (w it).key = it.key) :
    ∃ s' r, peekMutWrite s w = .ok (s', r) ∧ s'.WF ∧ s'.size = s.size ∧ peek s = r ∧
      (s.size = 0 → s' = s ∧ r = none) ∧
      (0 < s.size → ∃ e, r = some e ∧ s'.heap = s.heap ∧ s'.qp = s.qp ∧ s'.ticks = s.ticks ∧
        (∀ q, s'.entryAt q = if q = 0 then some (w e.1, e.2) else s.entryAt q) ∧
        s'.abs = absSet s.abs e.1.key (w e.1, e.2)) ∧
      (s.MaxHeap → s'.MaxHeap) := by
  rcases Nat.eq_zero_or_pos s.size with hz | hpos
  · exact ⟨s, none, by simp [peekMutWrite, hz]; rfl, h, rfl, (peek_safe h).1 hz, fun _ => ⟨rfl, rfl⟩,
      fun hn => by omega, id⟩
  · obtain ⟨i, hh, hil⟩ := h.heap_some hpos
    obtain ⟨e, he⟩ := h.map_some hil
    obtain ⟨h1, h2, h3⟩ := setEntry_spec (e' := (w e.1, e.2)) h hh he (hw _)
    have hpk : peek s = some e := by simp [peek, hh, IMap.getIndex, he]
    refine ⟨s.setEntry i (w e.1, e.2), some e, ?_, h1, rfl, hpk, fun hz => by omega,
      fun _ => ⟨e, rfl, rfl, rfl, rfl, h2, funext h3⟩, fun hm => ?_⟩
    · have hne : s.size ≠ 0 := by omega
      simp only [peekMutWrite, hne, getU_ok hh, IMap.getIndex, he, IMap.setItem_of_getElem? he, bind, Except.bind, pure,
        Except.pure]
      rfl
    · refine maxHeap_of_prefix hm (Nat.le_refl _) (fun q _ => ?_)
      rw [pr_eq_entryAt, pr_eq_entryAt, h2]
      by_cases hq : q = 0
      · subst hq; rw [if_pos rfl, ← peek_eq_entryAt, hpk]; rfl
      · rw [if_neg hq]

theorem peekMutWrite_safe {s : Store P} (h : s.WF) (w : Item → Item) (hw : ∀ it, (w it).key = it.key) :
    (s.size = 0 → peekMutWrite s w = .ok (s, none)) ∧
    (0 < s.size → ∃ s' e, peekMutWrite s w = .ok (s', some e) ∧ peek s = some e ∧ s'.WF ∧ s'.size = s.size ∧
      s'.heap = s.heap ∧ s'.qp = s.qp ∧ s'.ticks = s.ticks ∧
      (∀ q, s'.entryAt q = if q = 0 then some (w e.1, e.2) else s.entryAt q) ∧
      s'.abs = absSet s.abs e.1.key (w e.1, e.2)) := by
  obtain ⟨s', r, he, hwf, hsz, hpk, h0, h1, _⟩ := peekMutWrite_core h w hw
  refine ⟨fun hz => ?_, fun hn => ?_⟩
  · obtain ⟨rfl, rfl⟩ := h0 hz
    exact he
  · obtain ⟨e, rfl, h2⟩ := h1 hn
    exact ⟨s', e, he, hpk, hwf, hsz, h2⟩

theorem pop_zero {s : Store P} (h0 : s.size = 0) : pop s = .ok (s, none) := by
  unfold pop; rw [h0]; rfl

theorem pop_one {s : Store P} (h1 : s.size = 1) : pop s = s.swapRemove 0 := by
  unfold pop; rw [h1]; rfl

theorem pop_many {s : Store P} (h2 : 2 ≤ s.size) :
    pop s = (do let (s, r) ← s.swapRemove 0; let s ← heapify s 0; pure (s, r)) := by
  obtain ⟨n, hn⟩ : ∃ n, s.size = n + 2 := ⟨s.size - 2, by omega⟩
  unfold pop; rw [hn]; rfl

/-- on a non-empty queue `pop` is the swap-remove at the root followed by `heapify(0)` (which the code skips when it
would return at once: one element before) -/
theorem pop_pos {s s1 : Store P} {r : Option (Item × P)} (hpos : 0 < s.size) (hsr : s.swapRemove 0 = .ok (s1, r))
    (hs1 : s.size = 1 → s1.size ≤ 1) : pop s = (do let s' ← heapify s1 0; pure (s', r)) := by
  by_cases h1 : s.size = 1
  · rw [pop_one h1, hsr, heapify_small 0 (hs1 h1)]; rfl
  · rw [pop_many (by omega), hsr]; rfl

/-- **`pop`**: on the empty queue nothing happens; otherwise the entry `peek` shows is returned and exactly its key
disappears; in a max-heap that entry is a maximum and the result is a max-heap -/
theorem pop_core {s : Store P} (h : s.WF) :
    ∃ s' r, pop s = .ok (s', r) ∧ s'.WF ∧ peek s = r ∧ (s.size = 0 → s' = s ∧ r = none) ∧
      (0 < s.size → ∃ e, r = some e ∧ s.abs e.1.key = some e ∧ s'.abs = absRemove s.abs e.1.key ∧
        s'.size = s.size - 1) ∧
      (s.MaxHeap → s'.MaxHeap ∧ ∀ e, r = some e → s.IsMax e) := by
  rcases Nat.eq_zero_or_pos s.size with hz | hn
  · exact ⟨s, none, pop_zero hz, h, (peek_safe h).1 hz, fun _ => ⟨rfl, rfl⟩, fun hn => by omega, fun hm => ⟨hm, nofun⟩⟩
  · obtain ⟨s1, e, hsr, hent, h1wf, h1sz, _, hents, hlk⟩ := swapRemove_spec h hn
    obtain ⟨s', hh, hwf, hm, hsz, hord⟩ := heapify_zero_after (s := s) h1wf (by omega) fun q hq hql => by
      rw [pr_eq_entryAt, pr_eq_entryAt, hents q (by omega), if_neg (by omega)]
    refine ⟨s', some e, ?_, hwf, hent, fun hz => by omega,
      fun _ => ⟨e, rfl, (mem_iff_lookup h).1 (entryAt_mem hent), (abs_of_map_eq hm).trans (funext hlk), by omega⟩,
      fun hm' => ⟨hord hm', fun _ he => by cases he; exact isMax_root ⟨h, hm'⟩ hent⟩⟩
    rw [pop_pos hn hsr (by omega), hh]
    rfl

theorem pop_safe {s : Store P} (h : s.WF) :
    (s.size = 0 → pop s = .ok (s, none)) ∧
    (0 < s.size → ∃ s' e, pop s = .ok (s', some e) ∧ peek s = some e ∧ s'.WF ∧
      s'.abs = absRemove s.abs e.1.key ∧ s'.size = s.size - 1) := by
  refine ⟨pop_zero, fun hn => ?_⟩
  obtain ⟨s', r, he, hwf, hpk, _, h1, _⟩ := pop_core h
  obtain ⟨e, rfl, _, habs, hsz⟩ := h1 hn
  exact ⟨s', e, he, hpk, hwf, habs, hsz⟩

theorem popIf_zero {s : Store P} (f : Item → P → Bool × Item × P) (h0 : s.size = 0) : popIf s f = .ok (s, none) := by
  unfold popIf; rw [h0]; rfl

theorem popIf_one {s : Store P} (f : Item → P → Bool × Item × P) (h1 : s.size = 1) :
    popIf s f = s.swapRemoveIf 0 f := by
  unfold popIf; rw [h1]; rfl

theorem popIf_many {s : Store P} (f : Item → P → Bool × Item × P) (h2 : 2 ≤ s.size) :
    popIf s f = (do let (s, r) ← s.swapRemoveIf 0 f; let s ← heapify s 0; pure (s, r)) := by
  obtain ⟨n, hn⟩ : ∃ n, s.size = n + 2 := ⟨s.size - 2, by omega⟩
  unfold popIf; rw [hn]; rfl

theorem popIf_pos {s s1 : Store P} {f : Item → P → Bool × Item × P} {r : Option (Item × P)} (hpos : 0 < s.size)
    (hsr : s.swapRemoveIf 0 f = .ok (s1, r)) (hs1 : s.size = 1 → s1.size ≤ 1) :
    popIf s f = (do let s' ← heapify s1 0; pure (s', r)) := by
  by_cases h1 : s.size = 1
  · rw [popIf_one f h1, hsr, heapify_small 0 (hs1 h1)]; rfl
  · rw [popIf_many f (by omega), hsr]; rfl

/-- **`pop_if`** with a key-preserving predicate: the predicate sees exactly the entry `peek` shows (and may rewrite
it); if it says *yes* the rewritten entry is returned and its key disappears, otherwise the rewritten entry stays; a
max-heap stays one in both cases -/
theorem popIf_core {s : Store P} (h : s.WF) (f : Item → P → Bool × Item × P)
    (hf : ∀ it p, (f it p).2.1.key = it.key) :
    ∃ s' r, popIf s f = .ok (s', r) ∧ s'.WF ∧ (s.size = 0 → s' = s ∧ r = none) ∧
      (0 < s.size → ∃ e, peek s = some e ∧
        ((f e.1 e.2).1 = true → r = some ((f e.1 e.2).2.1, (f e.1 e.2).2.2) ∧ s'.abs = absRemove s.abs e.1.key ∧
          s'.size = s.size - 1) ∧
        ((f e.1 e.2).1 = false → r = none ∧ s'.abs = absSet s.abs e.1.key ((f e.1 e.2).2.1, (f e.1 e.2).2.2) ∧
          s'.size = s.size)) ∧
      (s.MaxHeap → s'.MaxHeap) := by
  rcases Nat.eq_zero_or_pos s.size with hz | hn
  · exact ⟨s, none, popIf_zero f hz, h, fun _ => ⟨rfl, rfl⟩, fun hn => by omega, id⟩
  · obtain ⟨e, hent, htrue, hfalse⟩ := swapRemoveIf_spec f h hn hf
    cases hr : (f e.1 e.2).1 with
    | true =>
      obtain ⟨s1, hsr, h1wf, h1sz, _, hents, hlk⟩ := htrue hr
      obtain ⟨s', hh, hwf, hm, hsz, hord⟩ := heapify_zero_after (s := s) h1wf (by omega) fun q hq hql => by
        rw [pr_eq_entryAt, pr_eq_entryAt, hents q (by omega), if_neg (by omega)]
      refine ⟨s', _, ?_, hwf, fun hz => by omega, fun _ => ⟨e, hent,
        fun _ => ⟨rfl, (abs_of_map_eq hm).trans (funext hlk), by omega⟩, fun hc => by rw [hr] at hc; cases hc⟩, hord⟩
      rw [popIf_pos hn hsr (by omega), hh]
      rfl
    | false =>
      obtain ⟨s1, hsr, h1wf, h1sz, _, _, _, hents, hlk⟩ := hfalse hr
      obtain ⟨s', hh, hwf, hm, hsz, hord⟩ := heapify_zero_after (s := s) h1wf (by omega) fun q hq hql => by
        rw [pr_eq_entryAt, pr_eq_entryAt, hents q, if_neg (by omega)]
      refine ⟨s', _, ?_, hwf, fun hz => by omega, fun _ => ⟨e, hent, fun hc => (by rw [hr] at hc; cases hc),
        fun _ => ⟨rfl, (abs_of_map_eq hm).trans (funext hlk), by omega⟩⟩, hord⟩
      rw [popIf_pos hn hsr (by omega), hh]
      rfl

theorem popIf_safe {s : Store P} (h : s.WF) (f : Item → P → Bool × Item × P)
    (hf : ∀ it p, (f it p).2.1.key = it.key) :
    (s.size = 0 → popIf s f = .ok (s, none)) ∧
    (0 < s.size → ∃ e, peek s = some e ∧
      ((f e.1 e.2).1 = true → ∃ s', popIf s f = .ok (s', some ((f e.1 e.2).2.1, (f e.1 e.2).2.2)) ∧ s'.WF ∧
          s'.abs = absRemove s.abs e.1.key ∧ s'.size = s.size - 1) ∧
      ((f e.1 e.2).1 = false → ∃ s', popIf s f = .ok (s', none) ∧ s'.WF ∧
          s'.abs = absSet s.abs e.1.key ((f e.1 e.2).2.1, (f e.1 e.2).2.2) ∧ s'.size = s.size)) := by
  refine ⟨popIf_zero f, fun hn => ?_⟩
  obtain ⟨s', r, he, hwf, _, h1, _⟩ := popIf_core h f hf
  obtain ⟨e, hpk, ht, hfl⟩ := h1 hn
  refine ⟨e, hpk, fun hr => ?_, fun hr => ?_⟩
  · obtain ⟨rfl, habs, hsz⟩ := ht hr
    exact ⟨s', he, hwf, habs, hsz⟩
  · obtain ⟨rfl, habs, hsz⟩ := hfl hr
    exact ⟨s', he, hwf, habs, hsz⟩

theorem push_eval_present {s : Store P} {it : Item} {p : P} {i pos : Nat} {e : Item × P}
    (hf : IMap.find? s.map it.key = some i) (he : s.map[i]? = some e) (hq : s.qp[i]? = some pos) :
    push s it p = (do let s' ← upHeapify (s.setEntry i (e.1, p)) pos; pure (s', some e.2)) := by
  unfold push
  rw [IMap.insertFull_of_find?_some hf he p]
  simp only [getU_ok hq, bind, Except.bind, pure, Except.pure]
  rfl

/-- the store on which `push` of a new key runs its sift-up: entry, heap position and slot appended, `size` not yet
bumped -/
def pushPre (s : Store P) (it : Item) (p : P) : Store P :=
  { s with map := s.map.push (it, p), qp := s.qp.push s.size, heap := s.heap.push s.size }

theorem push_eval_absent {s : Store P} {it : Item} {p : P} (hf : IMap.find? s.map it.key = none) :
    push s it p =
      (do let (s', _) ← bubbleUp (pushPre s it p) s.size s.size; pure ({ s' with size := s'.size + 1 }, none)) := by
  unfold push
  rw [IMap.insertFull_of_find?_none hf p]
  rfl

theorem pushPre_TWF {s : Store P} (h : s.WF) {it : Item} {p : P} (hf : IMap.find? s.map it.key = none) :
    (pushPre s it p).TWF (s.size + 1) :=
  TWF.congr (s := pushTail s (it, p)) (wf_pushTail h (e := (it, p)) hf) rfl rfl rfl

theorem pushPre_heap_last {s : Store P} (h : s.WF) (it : Item) (p : P) :
    (pushPre s it p).heap[s.size]? = some s.size := heap_pushTail_last h (it, p)

theorem pushPre_entryAt {s : Store P} (h : s.WF) (it : Item) (p : P) (q : Nat) :
    (pushPre s it p).entryAt q = if q = s.size then some (it, p) else s.entryAt q :=
  entryAt_pushTail h (it, p) q

theorem abs_isSome_iff_find? (s : Store P) (k : Nat) : (s.abs k).isSome = (IMap.find? s.map k).isSome := by
  show (IMap.lookup s.map k).isSome = _
  rw [IMap.lookup_isSome_eq_contains, IMap.contains_eq]

/-- **`push`**: no fault, `WF` kept, the old priority is returned, a stored item keeps its stored value and gets the
new priority, a new item is added; a max-heap stays one -/
theorem push_core {s : Store P} (h : s.WF) (it : Item) (p : P) :
    ∃ s', push s it p = .ok (s', (s.abs it.key).map (·.2)) ∧ s'.WF ∧ s'.abs = absPush s.abs it p ∧
      s'.size = (if (s.abs it.key).isSome then s.size else s.size + 1) ∧ (s.MaxHeap → s'.MaxHeap) := by
  have hold := IMap.insertFull_old s.map it p
  have habs : ∀ k, IMap.lookup (IMap.insertFull s.map it p).1 k = absPush s.abs it p k :=
    IMap.lookup_insertFull s.map it p
  rcases IMap.insertFull_cases s.map it p with ⟨i, e, hf, he, hk, hins⟩ | ⟨hf, hins⟩
  · have hil : i < s.size := by have := lt_size_of_getElem? he; rw [h.map_size] at this; exact this
    obtain ⟨pos, hq, hpl⟩ := h.qp_some hil
    obtain ⟨h1, hent, _⟩ := setEntry_spec (e' := (e.1, p)) h (h.heap_of_qp hq) he rfl
    obtain ⟨s', hu, hwf, hm, hsz, hord⟩ := upAfter s (s.setEntry i (e.1, p)) pos h h1 (Nat.le_refl _) hpl
      fun q _ hq' => by rw [hent, if_neg hq']
    rw [hins] at hold habs
    refine ⟨s', ?_, hwf, (abs_of_map_eq hm).trans (funext habs), ?_, hord⟩
    · rw [push_eval_present hf he hq, hu, ← hold]; rfl
    · rw [abs_isSome_iff_find?, hf, hsz]; rfl
  · have h2 := pushPre_TWF h (it := it) (p := p) hf
    have hlast := pushPre_heap_last h it p
    obtain ⟨s3, pos, hb, h3, hm3, hsz3, _⟩ := bubbleUp_tables h2 hlast
    rw [hins] at hold habs
    refine ⟨{ s3 with size := s3.size + 1 }, ?_, ?_, ?_, ?_, fun hm => ?_⟩
    · rw [push_eval_absent hf, hb, ← hold]; rfl
    · exact WF.of_TWF_size (TWF.congr h3 rfl rfl rfl) (by show s3.size + 1 = _; rw [hsz3]; rfl)
    · exact (abs_of_map_eq hm3).trans (funext habs)
    · rw [abs_isSome_iff_find?, hf]; show s3.size + 1 = _; rw [hsz3]; rfl
    · -- the new last position has no child, and below it nothing changed: the preconditions of `bubbleUp_spec`
      have hpr : ∀ q, q < s.size → (pushPre s it p).pr q = s.pr q := fun q hq => by
        rw [pr_eq_entryAt, pr_eq_entryAt, pushPre_entryAt h, if_neg (by omega)]
      have hnochild : ∀ c, 0 < c → c < s.size + 1 → parent c ≠ s.size := by
        intro c hc hcs hcp; simp only [parent] at hcp; omega
      obtain ⟨s3', pos', hb', _, _, _, _, hedge, _, hbelow, _⟩ := bubbleUp_spec h2 hlast
        (by
          intro p' hp' hps hne hpne a b ha hb
          have hpl : parent p' < p' := parent_lt hp'
          rw [hpr _ (by omega)] at ha
          rw [hpr _ (by omega)] at hb
          exact hm p' hp' (by omega) a b ha hb)
        (fun _ c hc hcs hcp => absurd hcp (hnochild c hc hcs))
      rw [hb] at hb'
      cases hb'
      intro p' hp' hps a b ha hb
      have hsz3' : s3.size = s.size := hsz3
      have hps' : p' < s.size + 1 := by have : p' < s3.size + 1 := hps; omega
      have ha' : s3.pr (parent p') = some a := ha
      have hb' : s3.pr p' = some b := hb
      by_cases hpp : parent p' = pos
      · by_cases hpi : pos = s.size
        · exact absurd (hpp.trans hpi) (hnochild p' hp' hps')
        · rw [hpp] at ha'
          exact hbelow hpi p' hp' hps' hpp a b ha' hb'
      · exact hedge p' hp' hps' hpp a b ha' hb'

theorem push_safe {s : Store P} (h : s.WF) (it : Item) (p : P) :
    ∃ s', push s it p = .ok (s', (s.abs it.key).map (·.2)) ∧ s'.WF ∧ s'.abs = absPush s.abs it p ∧
      s'.size = if (s.abs it.key).isSome then s.size else s.size + 1 := by
  obtain ⟨s', h1, h2, h3, h4, _⟩ := push_core h it p
  exact ⟨s', h1, h2, h3, h4⟩

theorem pushIncrease_eq (s : Store P) (it : Item) (p : P) :
    pushIncrease s it p =
      match s.abs it.key with
      | none => push s it p
      | some e => if e.2 < p then push s.tick it p else .ok (s.tick, some p) := by
  unfold pushIncrease
  rw [getPriority_eq_lookup]
  show _ = (match IMap.lookup s.map it.key with
    | none => push s it p
    | some e => _)
  cases IMap.lookup s.map it.key <;> rfl

theorem pushDecrease_eq (s : Store P) (it : Item) (p : P) :
    pushDecrease s it p =
      match s.abs it.key with
      | none => push s it p
      | some e => if p < e.2 then push s.tick it p else .ok (s.tick, some p) := by
  unfold pushDecrease
  rw [getPriority_eq_lookup]
  show _ = (match IMap.lookup s.map it.key with
    | none => push s it p
    | some e => _)
  cases IMap.lookup s.map it.key <;> rfl

/-- **`push_increase`**: a new item is pushed (`None`); a stored item with a strictly smaller priority is updated
(old priority returned); otherwise the state is unchanged up to the ghost counter and the OFFERED priority is
returned -/
theorem pushIncrease_core {s : Store P} (h : s.WF) (it : Item) (p : P) :
    ∃ s' r, pushIncrease s it p = .ok (s', r) ∧ s'.WF ∧
      (s.abs it.key = none → r = none ∧ s'.abs = absPush s.abs it p ∧ s'.size = s.size + 1) ∧
      (∀ e, s.abs it.key = some e →
        (e.2 < p → r = some e.2 ∧ s'.abs = absPush s.abs it p ∧ s'.size = s.size) ∧
        (¬ e.2 < p → s' = s.tick ∧ r = some p)) ∧
      (s.MaxHeap → s'.MaxHeap) :=
  pushCond_gen push_core id h it p (· < p) (fun hl => by rw [pushIncrease_eq, hl])
    (fun e hl => by rw [pushIncrease_eq, hl])

theorem pushIncrease_safe {s : Store P} (h : s.WF) (it : Item) (p : P) :
    (s.abs it.key = none → ∃ s', pushIncrease s it p = .ok (s', none) ∧ s'.WF ∧ s'.abs = absPush s.abs it p ∧
        s'.size = s.size + 1) ∧
    (∀ e, s.abs it.key = some e → e.2 < p → ∃ s', pushIncrease s it p = .ok (s', some e.2) ∧ s'.WF ∧
        s'.abs = absPush s.abs it p ∧ s'.size = s.size) ∧
    (∀ e, s.abs it.key = some e → ¬ e.2 < p → pushIncrease s it p = .ok (s.tick, some p)) := by
  obtain ⟨s', r, he, hwf, h0, h1, _⟩ := pushIncrease_core h it p
  refine ⟨fun ha => ?_, fun e ha hlt => ?_, fun e ha hlt => ?_⟩
  · obtain ⟨rfl, habs, hsz⟩ := h0 ha
    exact ⟨s', he, hwf, habs, hsz⟩
  · obtain ⟨rfl, habs, hsz⟩ := (h1 e ha).1 hlt
    exact ⟨s', he, hwf, habs, hsz⟩
  · obtain ⟨rfl, rfl⟩ := (h1 e ha).2 hlt
    exact he

/-- **`push_decrease`**: mirror image of `push_increase` -/
theorem pushDecrease_core {s : Store P} (h : s.WF) (it : Item) (p : P) :
    ∃ s' r, pushDecrease s it p = .ok (s', r) ∧ s'.WF ∧
      (s.abs it.key = none → r = none ∧ s'.abs = absPush s.abs it p ∧ s'.size = s.size + 1) ∧
      (∀ e, s.abs it.key = some e →
        (p < e.2 → r = some e.2 ∧ s'.abs = absPush s.abs it p ∧ s'.size = s.size) ∧
        (¬ p < e.2 → s' = s.tick ∧ r = some p)) ∧
      (s.MaxHeap → s'.MaxHeap) :=
  pushCond_gen push_core id h it p (p < ·) (fun hl => by rw [pushDecrease_eq, hl])
    (fun e hl => by rw [pushDecrease_eq, hl])

theorem pushDecrease_safe {s : Store P} (h : s.WF) (it : Item) (p : P) :
    (s.abs it.key = none → ∃ s', pushDecrease s it p = .ok (s', none) ∧ s'.WF ∧ s'.abs = absPush s.abs it p ∧
        s'.size = s.size + 1) ∧
    (∀ e, s.abs it.key = some e → p < e.2 → ∃ s', pushDecrease s it p = .ok (s', some e.2) ∧ s'.WF ∧
        s'.abs = absPush s.abs it p ∧ s'.size = s.size) ∧
    (∀ e, s.abs it.key = some e → ¬ p < e.2 → pushDecrease s it p = .ok (s.tick, some p)) := by
  obtain ⟨s', r, he, hwf, h0, h1, _⟩ := pushDecrease_core h it p
  refine ⟨fun ha => ?_, fun e ha hlt => ?_, fun e ha hlt => ?_⟩
  · obtain ⟨rfl, habs, hsz⟩ := h0 ha
    exact ⟨s', he, hwf, habs, hsz⟩
  · obtain ⟨rfl, habs, hsz⟩ := (h1 e ha).1 hlt
    exact ⟨s', he, hwf, habs, hsz⟩
  · obtain ⟨rfl, rfl⟩ := (h1 e ha).2 hlt
    exact he

/-! ### `change_priority`, `change_priority_by`, `remove`: instances of the kind-independent lemmas -/

/-- **`change_priority`**: a stored item gets the new priority (old one returned, stored item untouched); for an
absent item the state is returned unchanged -/
theorem changePriority_core {s : Store P} (h : s.WF) (k : Nat) (p : P) :
    ∃ s', changePriority s k p = .ok (s', (s.abs k).map (·.2)) ∧ s'.WF ∧ s'.size = s.size ∧
      (s.abs k = none → s' = s) ∧ (∀ e, s.abs k = some e → s'.abs = absSet s.abs k (e.1, p)) ∧
      (s.MaxHeap → s'.MaxHeap) :=
  changePriority_gen upAfter h k p

theorem changePriority_safe {s : Store P} (h : s.WF) (k : Nat) (p : P) :
    (s.abs k = none → changePriority s k p = .ok (s, none)) ∧
    (∀ e, s.abs k = some e → ∃ s', changePriority s k p = .ok (s', some e.2) ∧ s'.WF ∧
      s'.abs = absSet s.abs k (e.1, p) ∧ s'.size = s.size) := by
  obtain ⟨s', he, hwf, hsz, h0, h1, _⟩ := changePriority_core h k p
  refine ⟨fun ha => ?_, fun e ha => ⟨s', ?_, hwf, h1 e ha, hsz⟩⟩
  · rw [ha, h0 ha] at he
    exact he
  · rw [ha] at he
    exact he

theorem changePriorityBy_core {s : Store P} (h : s.WF) (k : Nat) (g : P → P) :
    ∃ s', changePriorityBy s k g = .ok (s', (s.abs k).isSome) ∧ s'.WF ∧ s'.size = s.size ∧
      (s.abs k = none → s' = s) ∧ (∀ e, s.abs k = some e → s'.abs = absSet s.abs k (e.1, g e.2)) ∧
      (s.MaxHeap → s'.MaxHeap) :=
  changePriorityBy_gen upAfter h k g

theorem changePriorityBy_safe {s : Store P} (h : s.WF) (k : Nat) (g : P → P) :
    (s.abs k = none → changePriorityBy s k g = .ok (s, false)) ∧
    (∀ e, s.abs k = some e → ∃ s', changePriorityBy s k g = .ok (s', true) ∧ s'.WF ∧
      s'.abs = absSet s.abs k (e.1, g e.2) ∧ s'.size = s.size) := by
  obtain ⟨s', he, hwf, hsz, h0, h1, _⟩ := changePriorityBy_core h k g
  refine ⟨fun ha => ?_, fun e ha => ⟨s', ?_, hwf, h1 e ha, hsz⟩⟩
  · rw [ha, h0 ha] at he
    exact he
  · rw [ha] at he
    exact he

/-- **`remove`**: a stored item is removed and its stored pair returned; for an absent item the state is returned
unchanged -/
theorem remove_core {s : Store P} (h : s.WF) (k : Nat) :
    ∃ s', remove s k = .ok (s', s.abs k) ∧ s'.WF ∧ s'.abs = absRemove s.abs k ∧
      s'.size = (if (s.abs k).isSome then s.size - 1 else s.size) ∧ (s.abs k = none → s' = s) ∧
      (s.MaxHeap → s'.MaxHeap) :=
  remove_gen upAfter (fun s s1 hsz hent hm => maxHeap_of_prefix hm hsz fun q hq => by
    rw [pr_eq_entryAt, pr_eq_entryAt, hent q hq]) h k

theorem remove_safe {s : Store P} (h : s.WF) (k : Nat) :
    (s.abs k = none → remove s k = .ok (s, none)) ∧
    (∀ e, s.abs k = some e → ∃ s', remove s k = .ok (s', some e) ∧ s'.WF ∧ s'.abs = absRemove s.abs k ∧
      s'.size = s.size - 1) := by
  obtain ⟨s', he, hwf, habs, hsz, h0, _⟩ := remove_core h k
  refine ⟨fun ha => ?_, fun e ha => ⟨s', ?_, hwf, habs, by rw [hsz, ha]; rfl⟩⟩
  · rw [ha, h0 ha] at he
    exact he
  · rw [ha] at he
    exact he

/-! ### the bulk operations: everything that ends in `heap_build` -/

/-- **`retain_mut`** / `retain` with a key-preserving closure: each stored entry is passed through the closure -/
theorem retainMut_safe {s : Store P} (h : s.WF) (f : Item → P → Bool × Item × P)
    (hf : ∀ it p, (f it p).2.1.key = it.key) :
    ∃ s', retainMut s f = .ok s' ∧ s'.WF ∧ (∀ k, s'.abs k = (s.abs k).bind (IMap.retainStep f)) ∧
      s'.map = s.map.retain f := by
  obtain ⟨s', h1, h2, h3, h4⟩ := heapBuild_safe (wf_retainMut h hf)
  refine ⟨s', h1, h2, fun k => ?_, by rw [h3, retainMut_map]⟩
  exact (congrFun (abs_of_map_eq h3) k).trans (lookup_retainMut h hf k)

theorem append_eval (s o : Store P) :
    append s o = (do let s' ← heapBuild (Store.append s o).1; pure (s', (Store.append s o).2)) := rfl

/-- **`append`**: the union (on a clash the entry of the larger queue stays); the donor is left empty -/
theorem append_safe {s o : Store P} (hs : s.WF) (ho : o.WF) :
    ∃ s' o', append s o = .ok (s', o') ∧ s'.WF ∧ o'.WF ∧ o'.map = #[] ∧ o'.heap = #[] ∧ o'.qp = #[] ∧ o'.size = 0 ∧
      ∀ k, s'.abs k = if o.size > s.size then (o.abs k).or (s.abs k) else (s.abs k).or (o.abs k) := by
  obtain ⟨s', h1, h2, h3, h4⟩ := heapBuild_safe (wf_append_fst hs ho)
  obtain ⟨t1, t2, t3, t4, _⟩ := append_snd_tables hs ho
  refine ⟨s', (Store.append s o).2, by rw [append_eval, h1]; rfl, h2, wf_append_snd hs ho, t1, t2, t3, t4, fun k => ?_⟩
  exact (congrFun (abs_of_map_eq h3) k).trans (lookup_append' hs ho k)

/-- **`From<Vec>`**, for EVERY vector: the FIRST pair of each key is kept -/
theorem fromVec_safe (v : Array (Item × P)) :
    ∃ s', fromVec v = .ok s' ∧ s'.WF ∧ ∀ k, s'.abs k = v.toList.find? (fun e => e.1.key == k) := by
  obtain ⟨s', h1, h2, h3, h4⟩ := heapBuild_safe (wf_fromVec v)
  refine ⟨s', h1, h2, fun k => ?_⟩
  exact (congrFun (abs_of_map_eq h3) k).trans (lookup_fromVec v k)

/-- **`FromIterator`**, for EVERY sequence and every `size_hint` lower bound below the capacity limit: the LAST pair of
each key is kept (with its own item) -/
theorem fromIter_safe (lo : Nat) (xs : Array (Item × P)) (hlo : lo < capLimit) :
    ∃ s', fromIter lo xs = .ok s' ∧ s'.WF ∧ ∀ k, s'.abs k = xs.toList.reverse.find? (fun e => e.1.key == k) := by
  obtain ⟨s', h1, h2, h3, h4⟩ := heapBuild_safe (wf_fromIter xs)
  refine ⟨s', by rw [fromIter_of_lt xs hlo]; exact h1, h2, fun k => ?_⟩
  exact (congrFun (abs_of_map_eq h3) k).trans (lookup_fromIter xs k)

/-- **`From<DoublePriorityQueue>`**: any well-formed store is accepted, the map is taken over as it is -/
theorem ofStore_safe {s : Store P} (h : s.WF) :
    ∃ s', ofStore s = .ok s' ∧ s'.WF ∧ s'.map = s.map ∧ s'.size = s.size := heapBuild_safe h

/-- **`Deserialize`**, total: for EVERY announced length `hint` and EVERY pair sequence (repeated items included) — each
key gets the item of its FIRST pair and the priority of its LAST pair -/
theorem deserialize_safe (hint : Option Nat) (xs : Array (Item × P)) :
    ∃ s', deserialize hint xs = .ok s' ∧ s'.WF ∧ s'.abs = xs.foldl Store.absStep (fun _ => none) ∧
      ∀ k, s'.abs k =
        match xs.toList.reverse.find? (fun e => e.1.key == k) with
        | none => none
        | some b => some (((xs.toList.find? (fun e => e.1.key == k)).map (·.1)).getD b.1, b.2) := by
  obtain ⟨s', h1, h2, h3, h4⟩ := heapBuild_safe (wf_visitSeq xs)
  refine ⟨s', by rw [deserialize_eq]; exact h1, h2, ?_, fun k => ?_⟩
  · exact (abs_of_map_eq h3).trans (lookup_visitSeq_fold xs)
  · exact (congrFun (abs_of_map_eq h3) k).trans (lookup_visitSeq xs k)

/-- the per-element strategy of `extend` -/
theorem pushAll_core (l : List (Item × P)) : ∀ {s : Store P}, s.WF →
    ∃ s', pushAll l s = .ok s' ∧ s'.WF ∧ s'.abs = l.foldl Store.absStep s.abs ∧ (s.MaxHeap → s'.MaxHeap) := by
  induction l with
  | nil => intro s h; exact ⟨s, rfl, h, rfl, id⟩
  | cons e l ih =>
    intro s h
    obtain ⟨s1, h1, h1wf, h1abs, _, hord1⟩ := push_core h e.1 e.2
    obtain ⟨s', h2, h2wf, h2abs, hord2⟩ := ih h1wf
    refine ⟨s', ?_, h2wf, ?_, fun hm => hord2 (hord1 hm)⟩
    · simp [pushAll, h1, h2, bind, Except.bind]
    · rw [h2abs, h1abs, absPush_eq_absStep, List.foldl_cons]

theorem pushAll_safe (l : List (Item × P)) : ∀ {s : Store P}, s.WF →
    ∃ s', pushAll l s = .ok s' ∧ s'.WF ∧ s'.abs = l.foldl Store.absStep s.abs := by
  intro s h
  obtain ⟨s', h1, h2, h3, _⟩ := pushAll_core l h
  exact ⟨s', h1, h2, h3⟩

theorem extend_eval_rebuild {s : Store P} {lo : Nat} (xs : Array (Item × P)) (hlo : lo < capLimit)
    (hr : (if lo ≠ 0 then betterToRebuild s.size lo else false) = true) :
    extend s lo xs = heapBuild (s.extend xs) := by
  rw [extend_of_lt xs hlo]; simp only [hr, if_true]

theorem extend_eval_pushAll {s : Store P} {lo : Nat} (xs : Array (Item × P)) (hlo : lo < capLimit)
    (hr : (if lo ≠ 0 then betterToRebuild s.size lo else false) = false) :
    extend s lo xs = pushAll xs.toList s := by
  rw [extend_of_lt xs hlo]; simp [hr]

/-- **`Extend::extend`**, for EVERY `size_hint` lower bound `lo` below the capacity limit (in particular every LEGAL one:
`lo ≤ xs.size < capLimit`): both strategies (rebuild, or push one by one) give the same contents, item payloads included,
and both keep the order -/
theorem extend_core {s : Store P} (h : s.WF) (lo : Nat) (xs : Array (Item × P)) (hlo : lo < capLimit) :
    ∃ s', extend s lo xs = .ok s' ∧ s'.WF ∧ s'.abs = xs.foldl Store.absStep s.abs ∧ (s.MaxHeap → s'.MaxHeap) := by
  cases hr : (if lo ≠ 0 then betterToRebuild s.size lo else false) with
  | true =>
    obtain ⟨s', h1, h2, h3, _, hm⟩ := heapBuild_spec (wf_extend h xs)
    exact ⟨s', by rw [extend_eval_rebuild xs hlo hr]; exact h1, h2, (abs_of_map_eq h3).trans (lookup_extend s xs),
      fun _ => hm⟩
  | false =>
    obtain ⟨s', h1, h2, h3, hord⟩ := pushAll_core xs.toList h
    exact ⟨s', by rw [extend_eval_pushAll xs hlo hr]; exact h1, h2, by rw [h3, Array.foldl_toList], hord⟩

theorem extend_safe {s : Store P} (h : s.WF) (lo : Nat) (xs : Array (Item × P)) (hlo : lo < capLimit) :
    ∃ s', extend s lo xs = .ok s' ∧ s'.WF ∧ s'.abs = xs.foldl Store.absStep s.abs := by
  obtain ⟨s', h1, h2, h3, _⟩ := extend_core h lo xs hlo
  exact ⟨s', h1, h2, h3⟩

theorem drainSorted_nil {s : Store P} (fuel : Nat) (h0 : s.size = 0) : drainSorted (fuel + 1) s = .ok [] := by
  simp only [drainSorted, pop_zero h0, bind, Except.bind, pure, Except.pure]

theorem drainSorted_cons {s s' : Store P} {e : Item × P} {fuel : Nat} {rest : List (Item × P)}
    (hp : pop s = .ok (s', some e)) (hr : drainSorted fuel s' = .ok rest) :
    drainSorted (fuel + 1) s = .ok (e :: rest) := by
  simp only [drainSorted, hp, hr, bind, Except.bind, pure, Except.pure]

theorem drainSorted_core (fuel : Nat) {s : Store P} (h : s.WF) (hf : s.size < fuel) :
    ∃ l, drainSorted fuel s = .ok l ∧ l.length = s.size ∧ (∀ e, e ∈ l ↔ s.Mem e) ∧ (l.map (·.1.key)).Nodup ∧
      (s.MaxHeap → l.Pairwise (fun a b => ¬ a.2 < b.2)) := by
  refine drain_gen (pop := pop) (fun fuel _ _ hp => ?_) (fun fuel _ _ _ _ hp hr => drainSorted_cons hp hr)
    (fun h => ?_) fuel h hf
  · simp [drainSorted, hp, bind, Except.bind, pure, Except.pure]
  · obtain ⟨s', r, hp, hwf, _, h0, h1, hord⟩ := pop_core h
    exact ⟨s', r, hp, hwf, fun hz => (h0 hz).2, h1, fun hm => ⟨(hord hm).1, fun e he => ((hord hm).2 e he).2⟩⟩

theorem intoSortedVec_safe {s : Store P} (h : s.WF) :
    ∃ l, intoSortedVec s = .ok l ∧ l.length = s.size ∧ (∀ e, e ∈ l ↔ s.Mem e) ∧ (l.map (·.1.key)).Nodup := by
  obtain ⟨l, h1, h2, h3, h4, _⟩ := drainSorted_core _ h (Nat.lt_succ_self _)
  exact ⟨l, h1, h2, h3, h4⟩

/-! ## Non-vacuity: a store that is well-formed but NOT heap-ordered, and the operations on it -/
section Examples

/-- five entries; the root (position 0 → slot 1) holds the SMALLEST priority: well-formed, not a heap -/
private def exW : Store Nat :=
  { map := #[(⟨1, 10⟩, 5), (⟨2, 20⟩, 0), (⟨3, 30⟩, 7), (⟨4, 40⟩, 1), (⟨5, 50⟩, 3)],
    heap := #[1, 0, 2, 3, 4], qp := #[1, 0, 2, 3, 4], size := 5 }

private def exO : Store Nat :=
  { map := #[(⟨1, 11⟩, 8), (⟨9, 90⟩, 2)], heap := #[1, 0], qp := #[1, 0], size := 2 }

private def okWF {α : Type} (r : R (Store Nat × α)) (size : Nat) (x : α) : Prop :=
  match r with
  | .ok (s', y) => s'.WF ∧ s'.size = size ∧ y = x
  | .error _ => False

private instance {α : Type} [DecidableEq α] (r : R (Store Nat × α)) (size : Nat) (x : α) :
    Decidable (okWF r size x) := by
  unfold okWF; split <;> infer_instance

private def okWF1 (r : R (Store Nat)) (size : Nat) : Prop :=
  match r with
  | .ok s' => s'.WF ∧ s'.size = size
  | .error _ => False

private instance (r : R (Store Nat)) (size : Nat) : Decidable (okWF1 r size) := by
  unfold okWF1; split <;> infer_instance

private def okR {α : Type} (r : R α) (q : α → Prop) : Prop :=
  match r with
  | .ok x => q x
  | .error _ => False

private instance {α : Type} (r : R α) (q : α → Prop) [DecidablePred q] : Decidable (okR r q) := by
  unfold okR; split <;> infer_instance

private def isErr {α : Type} (r : R α) (f : Fault) : Prop :=
  match r with
  | .ok _ => False
  | .error g => g = f

private instance {α : Type} (r : R α) (f : Fault) : Decidable (isErr r f) := by
  unfold isErr; split <;> infer_instance

private def fYes : Item → Nat → Bool × Item × Nat := fun it p => (true, ⟨it.key, 99⟩, p + 1)
private def fNo : Item → Nat → Bool × Item × Nat := fun it p => (false, ⟨it.key, 99⟩, p + 100)
private def fDrop : Item → Nat → Bool × Item × Nat := fun it p => (p != 7, ⟨it.key, it.payload + 1⟩, 10 - p)
example : ∀ it p, (fYes it p).2.1.key = it.key := fun _ _ => rfl
example : ∀ it p, (fNo it p).2.1.key = it.key := fun _ _ => rfl
example : ∀ it p, (fDrop it p).2.1.key = it.key := fun _ _ => rfl
example : ∀ it : Item, ((fun it => ⟨it.key, 7⟩ : Item → Item) it).key = it.key := fun _ => rfl

-- the hypotheses of every `*_safe` theorem: `WF` without the order
example : exW.WF ∧ ¬ exW.MaxHeap ∧ 0 < exW.size := by decide
example : exO.WF := by decide
-- `pickLargest_safe` / `heapify_safe` / `upHeapify_safe` / `heapBuild_safe`
example : okWF (pickLargest exW 0) 5 2 := by decide +kernel
example : okWF1 (heapify exW 0) 5 := by decide +kernel
example : okWF1 (upHeapify exW 3) 5 := by decide +kernel
example : okWF1 (heapBuild exW) 5 := by decide +kernel
-- `heapify_oob`: the precondition `i < size` matters
example : exW.WF ∧ 1 < exW.size ∧ exW.size ≤ 7 := by decide
example : isErr (heapify exW 7) (.oob 105) := by decide +kernel
-- `bubbleUp_tables`: `heap[4] = 4`
example : exW.TWF 5 ∧ exW.heap[4]? = some 4 := by decide
example : okWF (bubbleUp exW 4 4) 5 4 := by decide +kernel
-- `peek_safe`, `peekMutWrite_safe`: the root entry, although it is not a maximum
example : peek exW = some (⟨2, 20⟩, 0) := by decide +kernel
example : okWF (peekMutWrite exW (fun it => ⟨it.key, 7⟩)) 5 (some (⟨2, 20⟩, 0)) := by decide +kernel
-- `pop_safe`, `popIf_safe`
example : okWF (pop exW) 4 (some (⟨2, 20⟩, 0)) := by decide +kernel
example : okWF (popIf exW fYes) 4 (some (⟨2, 99⟩, 1)) := by decide +kernel
example : okWF (popIf exW fNo) 5 none := by decide +kernel
-- `push_safe`: new key, stored key
example : okWF (push exW ⟨6, 60⟩ 8) 6 none := by decide +kernel
example : okWF (push exW ⟨4, 0⟩ 8) 5 (some 1) := by decide +kernel
-- `pushIncrease_safe` / `pushDecrease_safe`: all three cases
example : exW.abs 6 = none ∧ exW.abs 4 = some (⟨4, 40⟩, 1) := by decide +kernel
example : okWF (pushIncrease exW ⟨6, 60⟩ 8) 6 none := by decide +kernel
example : okWF (pushIncrease exW ⟨4, 0⟩ 8) 5 (some 1) := by decide +kernel
example : okWF (pushIncrease exW ⟨4, 0⟩ 1) 5 (some 1) := by decide +kernel
example : okWF (pushDecrease exW ⟨4, 0⟩ 0) 5 (some 1) := by decide +kernel
example : okWF (pushDecrease exW ⟨4, 0⟩ 8) 5 (some 8) := by decide +kernel
-- `changePriority_safe`, `changePriorityBy_safe`, `remove_safe`: stored and absent key
example : okWF (changePriority exW 4 100) 5 (some 1) := by decide +kernel
example : okWF (changePriority exW 6 100) 5 none := by decide +kernel
example : okWF (changePriorityBy exW 4 (· + 50)) 5 true := by decide +kernel
example : okWF (changePriorityBy exW 6 (· + 50)) 5 false := by decide +kernel
example : okWF (remove exW 1) 4 (some (⟨1, 10⟩, 5)) := by decide +kernel
example : okWF (remove exW 5) 4 (some (⟨5, 50⟩, 3)) := by decide +kernel
example : okWF (remove exW 6) 5 none := by decide +kernel
example : okWF1 (retainMut exW fDrop) 4 := by decide +kernel
example : okR (append exW exO) (fun r => r.1.WF ∧ r.1.size = 6 ∧ r.2.WF ∧ r.2.size = 0 ∧
    r.1.abs 1 = some (⟨1, 10⟩, 5) ∧ r.1.abs 9 = some (⟨9, 90⟩, 2)) := by decide +kernel
example : okWF1 (fromVec #[(⟨1, 0⟩, 5), (⟨1, 9⟩, 7), (⟨2, 0⟩, 1)]) 2 := by decide +kernel
example : okWF1 (fromIter 3 #[(⟨1, 0⟩, 5), (⟨1, 9⟩, 7), (⟨2, 0⟩, 1)]) 2 := by decide +kernel
example : okWF1 (deserialize (some (2 ^ 64 - 1)) #[(⟨1, 0⟩, 5), (⟨1, 9⟩, 7), (⟨2, 0⟩, 1)]) 2 := by decide +kernel
example : okWF1 (ofStore exW) 5 := by decide +kernel
example : okWF1 (pushAll [(⟨4, 0⟩, 9), (⟨7, 0⟩, 2)] exW) 6 := by decide +kernel
example : okWF1 (extend exW 0 #[(⟨4, 0⟩, 9), (⟨7, 0⟩, 2)]) 6 := by decide +kernel
-- `into_sorted_vec` on the unordered store: no fault, every entry once (but of course not sorted)
example : okR (intoSortedVec exW) (fun l => l.length = 5 ∧ l.map (·.1.key) = [2, 3, 1, 5, 4]) := by decide +kernel

end Examples

end MaxQ
end PQ
