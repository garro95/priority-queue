import PQ.Lemmas.SrcEquivPanic2
set_option linter.unusedSimpArgs false
set_option linter.unusedSectionVars false
/-! # Unwinding tie: `PriorityQueue` — `heapify`, `up_heapify`, `heap_build` and the public operations against the fused
twins `Crash.MaxQ.*F` -/
namespace PQ.SrcEquivF
open PQ PQ.Src PQ.SrcGen PQ.SrcF PQ.Crash PQ.SrcEquiv
variable {P : Type} [LT P] [DecidableLT P]

/-! a choice between two results is the result of a choice: the interpreter branches where the twins compute a value -/
theorem ite_pure_pure {α : Type} (c : Prop) [Decidable c] (a b : α) :
    (if c then (pure a : CR P α) else pure b) = pure (if c then a else b) := by split <;> rfl
theorem ite_prod_mk {α β : Type} (c : Prop) [Decidable c] (a a' : α) (b b' : β) :
    (if c then (a, b) else (a', b')) = (if c then a else a', if c then b else b') := by split <;> rfl

theorem callF_storeSwap (fuse : Nat) (s : Store P) (a b n : Nat) :
    toCRcall (callWithF (execF prog unwind fuse false (n + 1)) (exec prog (n + 1)) prog unwind .storeSwap s [a, b] [] [])
      = liftR ((fun s' => (s', Val.unit)) <$> s.swap a b) := by
  rw [callF_pf fuse (n + 1) .storeSwap s _ _ _ rfl, call_storeSwap]

def hKF (fuse f : Nat) (s : Store P) (i lg : Nat) : CR P (Store P) :=
  if lg = i then pure s else do let s ← liftR (s.swap i lg); Crash.MaxQ.heapifyLoopF fuse f s lg

def hStepF (fuse : Nat) (s : Store P) (i lg : Nat) : CR P (Store P × Nat × Nat) := do
  let s1 ← liftR (s.swap i lg)
  let r ← Crash.MaxQ.pickLargestF fuse s1 lg
  pure (r.1, lg, r.2)

theorem hKF_succ (fuse f : Nat) (s : Store P) (i lg : Nat) (h : lg ≠ i) :
    hKF fuse (f + 1) s i lg = hStepF fuse s i lg >>= fun b => hKF fuse f b.1 b.2.1 b.2.2 := by
  simp only [hKF, hStepF, h, ↓reduceIte, Crash.MaxQ.heapifyLoopF, bind_assoc, pure_bind]

def hPickF (fuse : Nat) (s : Store P) (i : Nat) : CR P (Store P × Nat × Nat) := do
  let r ← Crash.MaxQ.pickLargestF fuse s i
  pure (r.1, i, r.2)

theorem heapifyLoopF_succ (fuse f : Nat) (s : Store P) (i : Nat) :
    Crash.MaxQ.heapifyLoopF fuse (f + 1) s i = hPickF fuse s i >>= fun b => hKF fuse f b.1 b.2.1 b.2.2 := by
  simp only [Crash.MaxQ.heapifyLoopF, hKF, hPickF, bind_assoc, pure_bind]

theorem pqHeapify_loop_bodyF (fuse g : Nat) (recF : Stmt → St P → CF P (St P × Flow P)) (byRef : FnId → Bool) (st : St P) :
    toCR fill0 proj03 (execStepF fuse false (exec prog (g + 2)) (callWith (exec prog (g + 1)) prog) recF
        (callWithF (execF prog unwind fuse false (g + 1)) (exec prog (g + 1)) prog unwind) byRef pqHeapify_loop1_body st)
      = (fun b => (b, Flow.normal)) <$> hStepF fuse st.s (st.n 0) (st.n 3) := by
  simp only [pqHeapify_loop1_body, esF_seq, seqK_normal, seqK_brk, seqK_ret, esF_ite, esF_call, esF_setN, esF_setP, esF_skip, exec_setN, exec_setP, exec_skip,
    evalN, evalNs, evalP, evalPs, evalBF, evalB, call_storePrioAt,
    St.setS, St.setN, St.setP, upd, ↓reduceIte, Nat.reduceEqDiff, pure_bind, bind_assoc, liftF_bind, liftF_pure,
    liftF_ite, liftF_error, iteF_bind, errorF_bind, map_eq_pure_bind]
  simp only [toCR_fill0_fromCall_bind, callF_storeSwap, toCR_liftF_bind, toCR_fill0_cmpAt_bind, toCR_ite, toCR_pure,
    hStepF, Crash.MaxQ.pickLargestF, cmpF_bind, liftR_bind, liftR_pure, map_eq_pure_bind, bind_assoc, pure_bind,
    iteC_bind, errorC_bind, proj03, upd, ↓reduceIte, Nat.reduceEqDiff, decide_eq_true_eq, Bool.false_eq_true]
  refine liftR_bind_congr_ok fun s1 _ => liftR_bind_congr_ok fun a _ => ?_
  by_cases hl : Arith.left (st.n 3) < s1.size
  · simp only [hl, ↓reduceIte]
    refine liftR_bind_congr_ok fun a1 _ => ?_
    by_cases h1 : a < a1 <;> simp only [h1, ↓reduceIte, ite_pure_pure, ite_prod_mk, ite_self]
  · simp only [hl, ↓reduceIte]

theorem pqHeapify_loop_condF (fuse : Nat) (callf : CallF P) (st : St P) :
    evalBF fuse callf st pqHeapify_loop1_cond = pure (st.s, decide (st.n 3 ≠ st.n 0)) := by
  simp only [pqHeapify_loop1_cond, evalBF, evalB, evalN, pure_bind, bind_assoc]
  rfl

theorem pqHeapify_loopF (fuse : Nat) (f : Nat) : ∀ (k : Nat) (st : St P), f ≤ k →
    hKF fuse f st.s (st.n 0) (st.n 3) ≠ .error (.fault .fuel) →
    toCR fill0 (fun st' => st'.s)
        (execF prog unwind fuse false (k + 2) (.while pqHeapify_loop1_cond pqHeapify_loop1_body) st)
      = (fun s' => (s', Flow.normal)) <$> hKF fuse f st.s (st.n 0) (st.n 3) := by
  induction f with
  | zero =>
    intro k st _ hne
    rw [execF, esF_while, pqHeapify_loop_condF]
    have hb := pqHeapify_loop_bodyF fuse k (execF prog unwind fuse false (k + 1)) (fun f => (unwind f).2) st
    by_cases hc : st.n 3 = st.n 0
    · simp only [hKF, hc, ↓reduceIte, ne_eq, not_true_eq_false, decide_false, pure_bind, Bool.false_eq_true]
      rfl
    · unfold hKF at hne ⊢
      simp only [hc, ↓reduceIte, ne_eq, not_false_eq_true, decide_true, pure_bind, St.setS] at hne ⊢
      unfold hStepF at hb
      cases hs : st.s.swap (st.n 0) (st.n 3) with
      | ok s1 => simp [hs, Crash.MaxQ.heapifyLoopF, liftR_ok, okC_bind] at hne
      | error e =>
        simp only [hs, liftR_error, errorC_bind, map_eq_pure_bind] at hb ⊢
        refine toCR_bind_of fill0 proj03 _ _ (.error (.fault e)) hb _ (fun _ => .error (.fault e)) ?_
        intro st' hx
        rw [hx] at hb
        cases hb
  | succ f ih =>
    intro k st hk hne
    obtain ⟨k, rfl⟩ : ∃ k', k = k' + 1 := ⟨k - 1, by omega⟩
    rw [execF, esF_while, pqHeapify_loop_condF]
    have hb := pqHeapify_loop_bodyF fuse (k + 1) (execF prog unwind fuse false (k + 1 + 1)) (fun f => (unwind f).2) st
    by_cases hc : st.n 3 = st.n 0
    · simp only [hKF, hc, ↓reduceIte, ne_eq, not_true_eq_false, decide_false, pure_bind, Bool.false_eq_true]
      rfl
    · rw [hKF_succ _ _ _ _ _ hc] at hne ⊢
      simp only [hc, ↓reduceIte, ne_eq, not_false_eq_true, decide_true, pure_bind, St.setS, map_bind]
      refine toCR_bind_of fill0 proj03 _ _ _ hb _ _ ?_
      intro st2 hx
      refine ih k st2 (by omega) ?_
      rw [hx] at hb
      cases hy : hStepF fuse st.s (st.n 0) (st.n 3) with
      | error e => rw [hy] at hb; cases hb
      | ok b =>
        rw [hy] at hb hne
        simp only [toCR, Functor.map, Except.map, Except.ok.injEq, Prod.mk.injEq, and_true] at hb
        subst hb
        simpa only [okC_bind, proj03] using hne

theorem pqHeapify_part1F (fuse g : Nat) (recF : Stmt → St P → CF P (St P × Flow P)) (callfF : CallFF P)
    (byRef : FnId → Bool) (st : St P) (h : ¬ st.s.size ≤ 1) :
    toCR fill0 proj03 (execStepF fuse false (exec prog (g + 2)) (callWith (exec prog (g + 1)) prog) recF callfF byRef
        pqHeapify_part1 st)
      = (fun b => (b, Flow.normal)) <$> hPickF fuse st.s (st.n 0) := by
  simp only [pqHeapify_part1, esF_seq, seqK_normal, seqK_brk, seqK_ret, esF_ite, esF_call, esF_setN, esF_setP, esF_skip, exec_setN, exec_setP, exec_skip,
    evalN, evalNs, evalP, evalPs, evalBF, evalB, call_storePrioAt, h,
    St.setS, St.setN, St.setP, upd, ↓reduceIte, Nat.reduceEqDiff, pure_bind, bind_assoc, liftF_bind, liftF_pure,
    liftF_ite, liftF_error, iteF_bind, errorF_bind, map_eq_pure_bind, decide_false, Bool.false_eq_true]
  simp only [toCR_liftF_bind, toCR_fill0_cmpAt_bind, toCR_ite, toCR_pure,
    hPickF, Crash.MaxQ.pickLargestF, cmpF_bind, liftR_bind, liftR_pure, map_eq_pure_bind, bind_assoc, pure_bind,
    iteC_bind, errorC_bind, proj03, upd, ↓reduceIte, Nat.reduceEqDiff, decide_eq_true_eq, Bool.false_eq_true]
  refine liftR_bind_congr_ok fun a _ => ?_
  by_cases hl : Arith.left (st.n 0) < st.s.size
  · simp only [hl, ↓reduceIte]
    refine liftR_bind_congr_ok fun a1 _ => ?_
    by_cases h1 : a < a1 <;> simp only [h1, ↓reduceIte, ite_pure_pure, ite_prod_mk, ite_self]
  · simp only [hl, ↓reduceIte]

def PostC {α : Type} (x : CR P α) (Q : α → Prop) : Prop := ∀ a, x = .ok a → Q a
theorem PostC.pure {α : Type} {a : α} {Q : α → Prop} (h : Q a) : PostC (pure a : CR P α) Q := by
  intro b hb; cases hb; exact h
theorem PostC.triv {α : Type} (x : CR P α) : PostC x (fun _ => True) := fun _ _ => trivial
theorem PostC.bind {α β : Type} {x : CR P α} {f : α → CR P β} {Q1 : α → Prop} {Q : β → Prop}
    (hx : PostC x Q1) (hf : ∀ a, Q1 a → PostC (f a) Q) : PostC (x >>= f) Q := by
  cases x with
  | error e => intro b hb; cases hb
  | ok a => exact hf a (hx a rfl)
theorem PostC.ite {α : Type} {c : Prop} [Decidable c] {a b : CR P α} {Q : α → Prop}
    (ha : c → PostC a Q) (hb : ¬c → PostC b Q) : PostC (if c then a else b) Q := by
  split
  · exact ha ‹_›
  · exact hb ‹_›
theorem PostC.liftR {α : Type} {x : R α} {Q : α → Prop} (h : Post x Q) : PostC (liftR x : CR P α) Q := by
  cases x with
  | error e => intro b hb; cases hb
  | ok a => intro b hb; cases hb; exact h a rfl
theorem PostC.cmpF_bind {α : Type} {fuse : Nat} {s : Store P} {a b : P} {g : Store P × Bool → CR P α} {Q : α → Prop}
    (h : PostC (g (s.tick, decide (a < b))) Q) : PostC (cmpF fuse s a b >>= g) Q := by
  rw [SrcEquivF.cmpF_bind]
  split
  · intro b hb; cases hb
  · exact h
theorem NoFuelC.cmpF_bind {α : Type} {fuse : Nat} {s : Store P} {a b : P} {g : Store P × Bool → CR P α}
    (h : NoFuelC (g (s.tick, decide (a < b)))) : NoFuelC (cmpF fuse s a b >>= g) := by
  rw [SrcEquivF.cmpF_bind]
  split
  · intro h; cases h
  · exact h

theorem pickLargestF_post (fuse : Nat) (s : Store P) (i : Nat) :
    PostC (Crash.MaxQ.pickLargestF fuse s i) (fun r => r.1.size = s.size ∧ (r.2 = i ∨ (i < r.2 ∧ r.2 < s.size))) := by
  unfold Crash.MaxQ.pickLargestF
  refine PostC.bind (PostC.triv _) fun ip _ => PostC.ite (fun hl => ?_) (fun _ => PostC.pure ⟨rfl, Or.inl rfl⟩)
  refine PostC.bind (PostC.triv _) fun cp _ => PostC.cmpF_bind ?_
  refine PostC.ite (fun hr => PostC.bind (PostC.triv _) fun rp _ => PostC.cmpF_bind (PostC.pure ⟨rfl, ?_⟩))
    (fun _ => PostC.pure ⟨rfl, ?_⟩)
  all_goals
    simp only [Arith.left, Arith.right, size_tick] at *
    repeat' split
    all_goals omega

theorem pickLargestF_noFuel (fuse : Nat) (s : Store P) (i : Nat) : NoFuelC (Crash.MaxQ.pickLargestF fuse s i) := by
  unfold Crash.MaxQ.pickLargestF
  refine NoFuelC.bind (NoFuelC.liftR (NoFuel.prioAt _ _)) fun _ _ => NoFuelC.ite (fun _ => ?_) (fun _ => NoFuelC.pure _)
  refine NoFuelC.bind (NoFuelC.liftR (NoFuel.prioAt _ _)) fun _ _ => NoFuelC.cmpF_bind ?_
  refine NoFuelC.ite (fun _ => ?_) (fun _ => NoFuelC.pure _)
  exact NoFuelC.bind (NoFuelC.liftR (NoFuel.prioAt _ _)) fun _ _ => NoFuelC.cmpF_bind (NoFuelC.pure _)

theorem heapifyLoopF_noFuel (fuse : Nat) (f : Nat) : ∀ (s : Store P) (i : Nat), 1 ≤ f → s.size ≤ f + i →
    NoFuelC (Crash.MaxQ.heapifyLoopF fuse f s i) := by
  induction f with
  | zero => intro s i h; omega
  | succ f ih =>
    intro s i _ hsz
    rw [Crash.MaxQ.heapifyLoopF]
    refine NoFuelC.bind (pickLargestF_noFuel fuse s i) fun r hr => ?_
    have hspec := pickLargestF_post fuse s i r hr
    obtain ⟨s', lg⟩ := r
    refine NoFuelC.ite (fun _ => NoFuelC.pure _) fun hne => NoFuelC.bind (NoFuelC.liftR (NoFuel.swap _ _ _)) fun s'' hs => ?_
    have h2 := swap_post s' i lg s'' (by cases hx : s'.swap i lg <;> simp_all [liftR])
    simp only at hspec h2
    exact ih s'' lg (by omega) (by omega)

/-- `PriorityQueue::heapify` when the `fuse`-th comparison panics = `Crash.MaxQ.heapifyF` (no guard: the store as it is,
every swap done so far complete) -/
theorem pqHeapifyF (fuse : Nat) (s : Store P) (i : Nat) (fuel : Nat) (h : fuel ≥ s.size + 2) :
    runF prog unwind fuse false fuel .pqHeapify s [i] = (fun s' => (s', Val.unit)) <$> Crash.MaxQ.heapifyF fuse s i := by
  obtain ⟨k, rfl⟩ := exists_eq_add 2 h (by decide)
  rw [runF_frame0 prog unwind fuse false (k + 1) .pqHeapify _ s _ _ _ rfl rfl]
  unfold Crash.MaxQ.heapifyF
  rw [execF, pqHeapify_body, esF_seq]
  by_cases hsz : s.size ≤ 1
  · simp only [pqHeapify_part1, esF_seq, seqK_normal, seqK_brk, seqK_ret, esF_ite, evalBF, evalB, evalN, hsz, bindN, bindP, bindV, upd, St.setS,
      pure_bind, bind_assoc, liftF_bind, liftF_pure, decide_true, ↓reduceIte]
    rfl
  · simp only [hsz, ↓reduceIte]
    obtain ⟨n, hn⟩ : ∃ n, s.size = n + 1 := ⟨s.size - 1, by omega⟩
    have hne := heapifyLoopF_noFuel fuse s.size s i (by omega) (by omega)
    rw [hn, heapifyLoopF_succ] at hne ⊢
    refine frame0_of_toCR _ _ ?_
    have h1 := pqHeapify_part1F fuse k (execF prog unwind fuse false (k + 1))
      (callWithF (execF prog unwind fuse false (k + 1)) (exec prog (k + 1)) prog unwind) (fun f => (unwind f).2)
      { s := s, n := bindN [0] [i], p := bindP [] [], v := bindV [] [] } hsz
    simp only [bindN, upd, ↓reduceIte] at h1
    rw [map_bind]
    refine toCR_bind_of fill0 proj03 _ _ _ h1 _ _ ?_
    intro st' hx
    rw [seqK_normal, execF_succ]
    refine pqHeapify_loopF fuse n k st' (by omega) ?_
    rw [hx] at h1
    cases hy : hPickF fuse s i with
    | error e => rw [hy] at h1; cases h1
    | ok b =>
      rw [hy] at h1 hne
      simp only [toCR, Functor.map, Except.map, Except.ok.injEq, Prod.mk.injEq, and_true] at h1
      subst h1
      simpa only [NoFuelC, okC_bind, proj03] using hne

/-! ## `up_heapify`, `heap_build` -/

theorem call_pqHeapifyF (fuse : Nat) (s : Store P) (i n : Nat) (h : n ≥ s.size + 2) :
    toCRcall (callWithF (execF prog unwind fuse false n) (exec prog n) prog unwind .pqHeapify s [i] [] [])
      = (fun s' => (s', Val.unit)) <$> Crash.MaxQ.heapifyF fuse s i := by
  rw [← runF_eq]; exact pqHeapifyF fuse s i n h

theorem call_pqBubbleUpF (fuse : Nat) (s : Store P) (pos mp n : Nat) (h : n ≥ pos + 2) :
    toCRcall (callWithF (execF prog unwind fuse false n) (exec prog n) prog unwind .pqBubbleUp s [pos, mp] [] [])
      = (fun r => (r.1, Val.nat r.2)) <$> Crash.MaxQ.bubbleUpF fuse s pos mp := by
  rw [← runF_eq]; exact pqBubbleUpF fuse s pos mp n h

theorem bindC_congr_ok {α β : Type} {x : CR P α} {f g : α → CR P β} (h : ∀ a, x = .ok a → f a = g a) :
    x >>= f = x >>= g := by
  cases x with
  | error e => rfl
  | ok a => exact h a rfl

theorem fillHole_post_size (s : Store P) (pos mp h q : Nat) : Post (fillHole s pos mp h q) (fun s' => s'.size = s.size) := by
  unfold fillHole
  exact Post.bind (Post.triv _) fun _ _ => Post.bind (Post.triv _) fun _ _ => Post.pure rfl

theorem PostC.cmpHoleF_bind {α : Type} {fuse : Nat} {s : Store P} {a b : P} {pos mp h q : Nat}
    {g : Store P × Bool → CR P α} {Q : α → Prop}
    (hg : PostC (g (s.tick, decide (a < b))) Q) : PostC (cmpHoleF fuse s a b pos mp h q >>= g) Q := by
  rw [SrcEquivF.cmpHoleF_bind]
  split
  · cases fillHole s pos mp h q <;> (intro b hb; cases hb)
  · exact hg

theorem bubbleUpLoopF_post_size (fuse mp : Nat) (f : Nat) : ∀ (s : Store P) (pos : Nat) (prio : P),
    PostC (Crash.MaxQ.bubbleUpLoopF fuse mp f s pos prio) (fun r => r.1.size = s.size) := by
  induction f with
  | zero => intro s pos prio r hr; cases hr
  | succ f ih =>
    intro s pos prio
    rw [Crash.MaxQ.bubbleUpLoopF]
    refine PostC.ite (fun _ => ?_) (fun _ => PostC.pure rfl)
    refine PostC.bind (PostC.triv _) fun pp _ => PostC.cmpHoleF_bind ?_
    refine PostC.ite (fun _ => ?_) (fun _ => PostC.pure rfl)
    refine PostC.bind (PostC.triv _) fun _ _ => PostC.bind (PostC.triv _) fun _ _ => PostC.bind (PostC.triv _) fun _ _ => ?_
    intro r hr
    rw [ih _ _ _ r hr]; rfl

theorem bubbleUpF_post_size (fuse : Nat) (s : Store P) (pos mp : Nat) :
    PostC (Crash.MaxQ.bubbleUpF fuse s pos mp) (fun r => r.1.size = s.size) := by
  unfold Crash.MaxQ.bubbleUpF
  refine PostC.bind (PostC.triv _) fun e _ => PostC.bind (bubbleUpLoopF_post_size _ _ _ s pos e.2) fun r hr => ?_
  exact PostC.bind (PostC.triv _) fun _ _ => PostC.bind (PostC.triv _) fun _ _ => PostC.pure hr

theorem pqUpHeapifyF (fuse : Nat) (s : Store P) (i : Nat) (fuel : Nat) (h : fuel ≥ s.size + min i s.heap.size + 3) :
    runF prog unwind fuse false fuel .pqUpHeapify s [i] = (fun s' => (s', Val.unit)) <$> Crash.MaxQ.upHeapifyF fuse s i := by
  obtain ⟨k, rfl⟩ := exists_eq_add 1 h (by decide)
  rw [runF_frame0 prog unwind fuse false k .pqUpHeapify _ s _ _ _ rfl rfl]
  unfold Crash.MaxQ.upHeapifyF
  rw [execF, pqUpHeapify_body]
  srcF_eval
  srcF_cr
  refine liftR_bind_congr_ok fun tmp htmp => ?_
  have hi : i < s.heap.size := getElem?_some_lt ((getU_ok_iff _ _ _ _).mp htmp)
  rw [call_pqBubbleUpF _ _ _ _ _ (by omega)]
  simp only [map_eq_pure_bind, bind_assoc, pure_bind]
  refine bindC_congr_ok fun r hr => ?_
  have hsz := bubbleUpF_post_size fuse s i tmp r hr
  srcF_eval
  srcF_cr
  rw [call_pqHeapifyF _ _ _ _ (by omega)]
  srcF_cr

theorem heapifyLoopF_post_size (fuse : Nat) (f : Nat) : ∀ (s : Store P) (i : Nat),
    PostC (Crash.MaxQ.heapifyLoopF fuse f s i) (fun s' => s'.size = s.size) := by
  induction f with
  | zero => intro s i r hr; cases hr
  | succ f ih =>
    intro s i
    rw [Crash.MaxQ.heapifyLoopF]
    refine PostC.bind (pickLargestF_post fuse s i) fun r hr => PostC.ite (fun _ => PostC.pure hr.1) fun _ => ?_
    refine PostC.bind (PostC.liftR (swap_post _ _ _)) fun s2 h2 => ?_
    intro r' hr'
    rw [ih _ _ r' hr', h2, hr.1]

theorem heapifyF_post_size (fuse : Nat) (s : Store P) (i : Nat) :
    PostC (Crash.MaxQ.heapifyF fuse s i) (fun s' => s'.size = s.size) := by
  unfold Crash.MaxQ.heapifyF
  exact PostC.ite (fun _ => PostC.pure rfl) (fun _ => heapifyLoopF_post_size _ _ _ _)

/-- the `for … rev` loop of `heap_build` (both queues): any body that behaves like the fused `heapify(j)` on stores of size `n` -/
theorem heapBuild_forF (n : Nat) (bodyF : Nat → St P → CF P (St P × Flow P)) (heapF : Store P → Nat → CR P (Store P))
    (loopF : Store P → Nat → CR P (Store P))
    (hpost : ∀ s j, PostC (heapF s j) (fun s' => s'.size = s.size))
    (hbody : ∀ j (st : St P), st.s.size = n →
      toCR fill0 (fun st' => st'.s) (bodyF j st) = (fun s' => (s', Flow.normal)) <$> heapF st.s j)
    (loop0 : ∀ s, loopF s 0 = heapF s 0) (loopS : ∀ s k, loopF s (k + 1) = heapF s (k + 1) >>= fun s' => loopF s' k) :
    ∀ (h : Nat) (st : St P), st.s.size = n →
    toCR fill0 (fun st' => st'.s) (forDownF bodyF h st) = (fun s' => (s', Flow.normal)) <$> loopF st.s h := by
  intro h
  induction h with
  | zero =>
    intro st hn
    rw [forDownF, loop0, map_eq_pure_bind]
    refine toCR_bind_of fill0 (fun st' => st'.s) _ _ _ (hbody 0 st hn) _ _ ?_
    intro st' _
    rfl
  | succ h ih =>
    intro st hn
    rw [forDownF, loopS, map_bind]
    refine toCR_bind_of fill0 (fun st' => st'.s) _ _ _ (hbody (h + 1) st hn) _ _ ?_
    intro st' hx
    refine ih st' ?_
    have hb := hbody (h + 1) st hn
    rw [hx] at hb
    cases hy : heapF st.s (h + 1) with
    | error e => rw [hy] at hb; cases hb
    | ok s' =>
      rw [hy] at hb
      simp only [toCR, Functor.map, Except.map, Except.ok.injEq, Prod.mk.injEq, and_true] at hb
      have := hpost st.s (h + 1) s' hy
      simp only at this
      rw [hb, this, hn]

theorem pqHeapBuildF (fuse : Nat) (s : Store P) (fuel : Nat) (h : fuel ≥ s.size + 3) :
    runF prog unwind fuse false fuel .pqHeapBuild s [] = (fun s' => (s', Val.unit)) <$> Crash.MaxQ.heapBuildF fuse s := by
  obtain ⟨k, rfl⟩ := exists_eq_add 1 h (by decide)
  rw [runF_frame0 prog unwind fuse false k .pqHeapBuild _ s _ _ _ rfl rfl]
  unfold Crash.MaxQ.heapBuildF
  rw [execF, pqHeapBuild_body]
  by_cases hsz : s.size = 0
  · srcF_eval [hsz]
    rfl
  · srcF_eval [hsz, MaxQ.parentC]
    srcF_cr [hsz]
    show _ = (fun s' => (s', Val.unit)) <$> _
    refine frame0_of_toCR (P := P) _ _ (heapBuild_forF (P := P) s.size _ (Crash.MaxQ.heapifyF fuse) (Crash.MaxQ.heapBuildLoopF fuse)
      (heapifyF_post_size fuse) ?_ (fun _ => rfl) (fun _ _ => rfl) _ _ rfl)
    intro j st hn
    srcF_eval
    srcF_cr
    rw [call_pqHeapifyF _ _ _ _ (by omega)]
    srcF_cr

/-! ## the public operations of `PriorityQueue` -/

theorem size_cases (n : Nat) : n = 0 ∨ n = 1 ∨ ∃ m, n = m + 2 := by
  by_cases h0 : n = 0
  · exact Or.inl h0
  by_cases h1 : n = 1
  · exact Or.inr (Or.inl h1)
  exact Or.inr (Or.inr ⟨n - 2, by omega⟩)

theorem popF_many (fuse : Nat) (s : Store P) (n : Nat) (hn : s.size = n + 2) :
    Crash.MaxQ.popF fuse s
      = (liftR (s.swapRemove 0) >>= fun r => Crash.MaxQ.heapifyF fuse r.1 0 >>= fun s' => pure (s', r.2)) := by
  unfold Crash.MaxQ.popF; rw [hn]; rfl

/-- `PriorityQueue::pop` under a panicking comparison = `Crash.MaxQ.popF` (the removal is complete, the entry lost) -/
theorem pqPopF (fuse : Nat) (s : Store P) (fuel : Nat) (h : fuel ≥ s.size + 3) :
    runF prog unwind fuse false fuel .pqPop s [] = (fun r => (r.1, Val.optEntry r.2)) <$> Crash.MaxQ.popF fuse s := by
  obtain ⟨k, rfl⟩ := exists_eq_add 2 h (by decide)
  rw [runF_frame0 prog unwind fuse false (k + 1) .pqPop _ s _ _ _ rfl rfl]
  rw [execF, pqPop_body]
  obtain h0 | h1 | ⟨n, hn⟩ := size_cases s.size
  · unfold Crash.MaxQ.popF
    srcF_eval [h0]
    rfl
  · unfold Crash.MaxQ.popF
    srcF_eval [h1]
    srcF_cr [call_storeSwapRemove]
  · rw [popF_many fuse s n hn]
    srcF_eval [hn]
    srcF_cr [call_storeSwapRemove]
    refine liftR_bind_congr_ok fun r hr => ?_
    have hsz := swapRemove_post_size s 0 r hr
    rw [call_pqHeapifyF _ _ _ _ (by simp only at hsz; omega)]
    srcF_cr

theorem popIfF_many (fuse : Nat) (s : Store P) (f : Item → P → Bool × Item × P) (n : Nat) (hn : s.size = n + 2) :
    Crash.MaxQ.popIfF fuse s f
      = (liftR (s.swapRemoveIf 0 f) >>= fun r => Crash.MaxQ.heapifyF fuse r.1 0 >>= fun s' => pure (s', r.2)) := by
  unfold Crash.MaxQ.popIfF; rw [hn]; rfl

/-- `PriorityQueue::pop_if` under a panicking comparison = `Crash.MaxQ.popIfF` -/
theorem pqPopIfF (fuse : Nat) (s : Store P) (f : Item → P → Bool × Item × P) (fuel : Nat) (h : fuel ≥ s.size + 4) :
    runF prog unwind fuse false fuel .pqPopIf s [] [] [Val.pred f]
      = (fun r => (r.1, Val.optEntry r.2)) <$> Crash.MaxQ.popIfF fuse s f := by
  obtain ⟨k, rfl⟩ := exists_eq_add 3 h (by decide)
  rw [runF_frame0 prog unwind fuse false (k + 2) .pqPopIf _ s _ _ _ rfl rfl]
  rw [execF, pqPopIf_body]
  obtain h0 | h1 | ⟨n, hn⟩ := size_cases s.size
  · unfold Crash.MaxQ.popIfF
    srcF_eval [h0]
    rfl
  · unfold Crash.MaxQ.popIfF
    srcF_eval [h1]
    srcF_cr [call_storeSwapRemoveIf]
  · rw [popIfF_many fuse s f n hn]
    srcF_eval [hn]
    srcF_cr [call_storeSwapRemoveIf]
    refine liftR_bind_congr_ok fun r hr => ?_
    have hsz := swapRemoveIf_post_size s 0 f r hr
    rw [call_pqHeapifyF _ _ _ _ (by simp only at hsz; omega)]
    srcF_cr

theorem call_pqUpHeapifyF (fuse : Nat) (s : Store P) (i n : Nat) (h : n ≥ s.size + min i s.heap.size + 3) :
    toCRcall (callWithF (execF prog unwind fuse false n) (exec prog n) prog unwind .pqUpHeapify s [i] [] [])
      = (fun s' => (s', Val.unit)) <$> Crash.MaxQ.upHeapifyF fuse s i := by
  rw [← runF_eq]; exact pqUpHeapifyF fuse s i n h

/-- `PriorityQueue::remove` under a panicking comparison = `Crash.MaxQ.removeF` -/
theorem pqRemoveF (fuse : Nat) (s : Store P) (k : Nat) (fuel : Nat) (h : fuel ≥ 2 * s.size + 4) :
    runF prog unwind fuse false fuel .pqRemove s [k]
      = (fun r => (r.1, Val.optEntry r.2)) <$> Crash.MaxQ.removeF fuse s k := by
  obtain ⟨n, rfl⟩ := exists_eq_add 2 h (by decide)
  rw [runF_frame0 prog unwind fuse false (n + 1) .pqRemove _ s _ _ _ rfl rfl]
  unfold Crash.MaxQ.removeF
  rw [execF, pqRemove_body]
  srcF_eval
  srcF_cr [call_storeRemove]
  refine liftR_bind_congr_ok fun r hr => ?_
  have hsz := remove_post_size s k r hr
  obtain ⟨s', res⟩ := r
  cases res with
  | none => srcF_cr
  | some x =>
    obtain ⟨it, p, pos⟩ := x
    have hsz' := hsz _ rfl
    simp only at hsz'
    srcF_cr
    by_cases hlt : pos < s'.size
    · simp only [hlt, ↓reduceIte, decide_true]
      rw [call_pqUpHeapifyF _ _ _ _ (by omega)]
      srcF_cr
    · simp only [hlt, ↓reduceIte, decide_false]

/-- `PriorityQueue::change_priority` under a panicking comparison = `Crash.MaxQ.changePriorityF` -/
theorem pqChangePriorityF (fuse : Nat) (s : Store P) (k : Nat) (p : P) (fuel : Nat) (h : fuel ≥ s.size + s.heap.size + 5) :
    runF prog unwind fuse false fuel .pqChangePriority s [k] [p]
      = (fun r => (r.1, Val.optP r.2)) <$> Crash.MaxQ.changePriorityF fuse s k p := by
  obtain ⟨n, rfl⟩ := exists_eq_add 2 h (by decide)
  rw [runF_frame0 prog unwind fuse false (n + 1) .pqChangePriority _ s _ _ _ rfl rfl]
  unfold Crash.MaxQ.changePriorityF
  rw [execF, pqChangePriority_body]
  srcF_eval
  srcF_cr [call_storeChangePriority]
  refine liftR_bind_congr_ok fun r hr => ?_
  obtain ⟨hsz, hhp⟩ := changePriority_post s k p r hr
  obtain ⟨s', res⟩ := r
  cases res with
  | none => srcF_cr
  | some x =>
    obtain ⟨old, pos⟩ := x
    simp only at hsz hhp
    srcF_cr
    rw [call_pqUpHeapifyF _ _ _ _ (by rw [hsz, hhp]; omega)]
    srcF_cr

/-- `PriorityQueue::change_priority_by` under a panicking comparison = `Crash.MaxQ.changePriorityByF` -/
theorem pqChangePriorityByF (fuse : Nat) (s : Store P) (k : Nat) (g : P → P) (fuel : Nat)
    (h : fuel ≥ s.size + s.heap.size + 5) :
    runF prog unwind fuse false fuel .pqChangePriorityBy s [k] [] [Val.setter g]
      = (fun r => (r.1, Val.bool r.2)) <$> Crash.MaxQ.changePriorityByF fuse s k g := by
  obtain ⟨n, rfl⟩ := exists_eq_add 2 h (by decide)
  rw [runF_frame0 prog unwind fuse false (n + 1) .pqChangePriorityBy _ s _ _ _ rfl rfl]
  unfold Crash.MaxQ.changePriorityByF
  rw [execF, pqChangePriorityBy_body]
  srcF_eval
  srcF_cr [call_storeChangePriorityBy]
  refine liftR_bind_congr_ok fun r hr => ?_
  obtain ⟨hsz, hhp⟩ := changePriorityBy_post s k g r hr
  obtain ⟨s', res⟩ := r
  cases res with
  | none => srcF_cr
  | some pos =>
    simp only at hsz hhp
    srcF_cr
    rw [call_pqUpHeapifyF _ _ _ _ (by rw [hsz, hhp]; omega)]
    srcF_cr

/-- `PriorityQueue::push` of an item that is not in the queue, when the `fuse`-th comparison panics = `Crash.MaxQ.pushF`:
in particular the store that survives a panic already counts the new element (`size += 1` precedes the sift-up) and the
guard has put it where the hole was -/
theorem pqPushF_new (fuse : Nat) (s : Store P) (it : Item) (p : P) (hnew : IMap.find? s.map it.key = none)
    (fuel : Nat) (h : fuel ≥ s.size + 4) :
    runF prog unwind fuse false fuel .pqPush s [] [p] [Val.item it]
      = (fun r => (r.1, Val.optP r.2)) <$> Crash.MaxQ.pushF fuse s it p := by
  obtain ⟨k, rfl⟩ := exists_eq_add 1 h (by decide)
  rw [runF_frame0 prog unwind fuse false k .pqPush _ s _ _ _ rfl rfl]
  unfold Crash.MaxQ.pushF
  rw [IMap.insertFull_of_find?_none hnew, execF, pqPush_body]
  srcF_eval [hnew, Option.isSome_none]
  srcF_cr
  rw [call_pqBubbleUpF _ _ _ _ _ (by omega)]
  simp only [map_eq_pure_bind, bind_assoc, pure_bind]
  refine bindC_congr_ok fun r _ => ?_
  srcF_eval
  srcF_cr

/-- `PriorityQueue::push` (new or present item) under a panicking comparison = `Crash.MaxQ.pushF` -/
theorem pqPushF (fuse : Nat) (s : Store P) (it : Item) (p : P) (fuel : Nat) (h : fuel ≥ s.size + s.heap.size + 5) :
    runF prog unwind fuse false fuel .pqPush s [] [p] [Val.item it]
      = (fun r => (r.1, Val.optP r.2)) <$> Crash.MaxQ.pushF fuse s it p := by
  cases hf : IMap.find? s.map it.key with
  | none => exact pqPushF_new fuse s it p hf fuel (by omega)
  | some i =>
    obtain ⟨k, rfl⟩ := exists_eq_add 1 h (by decide)
    rw [runF_frame0 prog unwind fuse false k .pqPush _ s _ _ _ rfl rfl]
    unfold Crash.MaxQ.pushF
    obtain ⟨e, he, _⟩ := IMap.find?_getElem? hf
    rw [IMap.insertFull_of_find?_some hf he]
    rw [execF, pqPush_body]
    srcF_eval [hf, he]
    simp only [Option.isSome_some, ↓reduceIte]
    srcF_cr
    refine liftR_bind_congr_ok fun pos hpos => ?_
    rw [call_pqUpHeapifyF _ _ _ _ (by simp only; omega)]
    srcF_cr

theorem call_pqPushF (fuse : Nat) (s : Store P) (it : Item) (p : P) (n : Nat) (h : n ≥ s.size + s.heap.size + 5) :
    toCRcall (callWithF (execF prog unwind fuse false n) (exec prog n) prog unwind .pqPush s [] [p] [Val.item it])
      = (fun r => (r.1, Val.optP r.2)) <$> Crash.MaxQ.pushF fuse s it p := by
  rw [← runF_eq]; exact pqPushF fuse s it p n h

/-- `PriorityQueue::push_increase` under a panicking comparison = `Crash.MaxQ.pushIncreaseF` (a panic of the pre-comparison
leaves the store untouched) -/
theorem pqPushIncreaseF (fuse : Nat) (s : Store P) (it : Item) (p : P) (fuel : Nat) (h : fuel ≥ s.size + s.heap.size + 6) :
    runF prog unwind fuse false fuel .pqPushIncrease s [] [p] [Val.item it]
      = (fun r => (r.1, Val.optP r.2)) <$> Crash.MaxQ.pushIncreaseF fuse s it p := by
  obtain ⟨n, rfl⟩ := exists_eq_add 1 h (by decide)
  rw [runF_frame0 prog unwind fuse false n .pqPushIncrease _ s _ _ _ rfl rfl]
  unfold Crash.MaxQ.pushIncreaseF
  rw [execF, pqPushIncrease_body]
  srcF_eval
  cases hq : s.getPriority it.key with
  | none =>
    srcF_eval
    srcF_cr
    rw [call_pqPushF _ _ _ _ _ (by omega)]
    srcF_cr
  | some q =>
    srcF_eval
    srcF_cr
    by_cases hfz : s.ticks + 1 = fuse
    · simp only [hfz, ↓reduceIte]
    · simp only [hfz, ↓reduceIte]
      by_cases hlt : q < p
      · simp only [hlt, ↓reduceIte, decide_true]
        rw [call_pqPushF _ _ _ _ _ (by simp only [size_tick, heap_tick]; omega)]
        srcF_cr
      · simp only [hlt, ↓reduceIte, decide_false]
/-- `PriorityQueue::push_decrease` under a panicking comparison = `Crash.MaxQ.pushDecreaseF` (a panic of the pre-comparison
leaves the store untouched) -/
theorem pqPushDecreaseF (fuse : Nat) (s : Store P) (it : Item) (p : P) (fuel : Nat) (h : fuel ≥ s.size + s.heap.size + 6) :
    runF prog unwind fuse false fuel .pqPushDecrease s [] [p] [Val.item it]
      = (fun r => (r.1, Val.optP r.2)) <$> Crash.MaxQ.pushDecreaseF fuse s it p := by
  obtain ⟨n, rfl⟩ := exists_eq_add 1 h (by decide)
  rw [runF_frame0 prog unwind fuse false n .pqPushDecrease _ s _ _ _ rfl rfl]
  unfold Crash.MaxQ.pushDecreaseF
  rw [execF, pqPushDecrease_body]
  srcF_eval
  cases hq : s.getPriority it.key with
  | none =>
    srcF_eval
    srcF_cr
    rw [call_pqPushF _ _ _ _ _ (by omega)]
    srcF_cr
  | some q =>
    srcF_eval
    srcF_cr
    by_cases hfz : s.ticks + 1 = fuse
    · simp only [hfz, ↓reduceIte]
    · simp only [hfz, ↓reduceIte]
      by_cases hlt : p < q
      · simp only [hlt, ↓reduceIte, decide_true]
        rw [call_pqPushF _ _ _ _ _ (by simp only [size_tick, heap_tick]; omega)]
        srcF_cr
      · simp only [hlt, ↓reduceIte, decide_false]
end PQ.SrcEquivF
