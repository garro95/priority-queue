import PQ.Lemmas.MinMaxDefs
/-!
# Sift-up of the min-max heap (`bubble_up_min`, `bubble_up_max`, `bubble_up`) and `push`'s use of it

Part A is pure order reasoning about a *total* priority function `F : Nat → P` on positions and the transposition a
loop step performs on it; Part B ties it to the model loops through the moving-hole machinery of `SiftUp.lean`; Part C
holds the decidable checkers behind the examples.  The statements about `bubble_up` itself are in the `DQ` section at the end.
-/
set_option linter.unusedSectionVars false
namespace PQ
open Arith Store
variable {P : Type} [LT P] [DecidableLT P] [LE P] [Std.IsLinearPreorder P] [Std.LawfulOrderLT P]

namespace Up

/-! ## A. Order reasoning on total priority functions -/

/-- `Store.Rel` for a total priority function -/
def RelT (F : Nat → P) (a d : Nat) : Prop := if level a % 2 = 0 then ¬ F d < F a else ¬ F a < F d

/-- `F` after exchanging what positions `a` and `b` hold -/
def tr (F : Nat → P) (a b : Nat) (p : Nat) : P := F (swapPos a b p)

theorem tr_left (F : Nat → P) (a b : Nat) : tr F a b a = F b := by unfold tr; rw [swapPos_left]
theorem tr_right (F : Nat → P) (a b : Nat) : tr F a b b = F a := by unfold tr; rw [swapPos_right]
theorem tr_of_ne (F : Nat → P) {a b p : Nat} (ha : p ≠ a) (hb : p ≠ b) : tr F a b p = F p := by
  unfold tr; rw [swapPos_of_ne ha hb]

/-- what the sift-up establishes: every pair whose upper node is not `i` is in order -/
def Final (n i : Nat) (F : Nat → P) : Prop := ∀ a d, Anc a d → d < n → a ≠ i → RelT F a d

/-- invariant of a chain climb (the travelling priority is `F q`, sitting in the hole `q`) that started at `i` or at
the parent of `i` -/
structure ChainInv (n i : Nat) (F : Nat → P) (q : Nat) : Prop where
  qlt : q < n
  pos : q = i ∨ Anc q i
  /-- all pairs whose lower node is not the hole (and whose upper node is not `i`) -/
  I1 : ∀ a d, Anc a d → d < n → a ≠ i → d ≠ q → RelT F a d
  /-- ancestors of the hole on the levels of the other kind -/
  I2 : ∀ m, Anc m q → level m % 2 ≠ level q % 2 → RelT F m q

theorem anc_gp {q : Nat} (h1 : 0 < q) (h2 : 0 < parent q) : Anc (parent (parent q)) q :=
  Anc.step h1 (Anc.parent h2)

theorem anc_cases_gp {a q : Nat} (h : Anc a q) : a = parent q ∨ (0 < parent q ∧ (a = parent (parent q) ∨ Anc a (parent (parent q)))) := by
  rcases h.cases_child with h | h
  · exact Or.inl h
  · exact Or.inr ⟨h.pos, h.cases_child⟩

theorem level_gp {q : Nat} (h1 : 0 < q) (h2 : 0 < parent q) : level (parent (parent q)) + 2 = level q := by
  have := level_parent h1; have := level_parent h2; omega

/-- one step of a chain climb: the grandparent is on the wrong side of the travelling priority -/
theorem ChainInv.step {n i q : Nat} {F : Nat → P} (h : ChainInv n i F q) (h1 : 0 < q) (h2 : 0 < parent q)
    (hw : if level q % 2 = 0 then F q < F (parent (parent q)) else F (parent (parent q)) < F q) :
    ChainInv n i (tr F q (parent (parent q))) (parent (parent q)) := by
  have hg : Anc (parent (parent q)) q := anc_gp h1 h2
  have hgp : Anc (parent (parent q)) (parent q) := Anc.parent h2
  have hpq : Anc (parent q) q := Anc.parent h1
  have hlg := level_gp h1 h2
  have hlp := level_parent h1
  generalize hgdef : parent (parent q) = g at *
  have hgq : g < q := hg.lt
  have hgpq : g < parent q := hgp.lt
  have hpqq : parent q < q := hpq.lt
  have hqi : q ≤ i := by rcases h.pos with e | e
                         · omega
                         · exact Nat.le_of_lt e.lt
  have hgi : g ≠ i := by omega
  refine ⟨by have := h.qlt; omega, ?_, ?_, ?_⟩
  · rcases h.pos with e | e
    · subst e; exact Or.inr hg
    · exact Or.inr (hg.trans e)
  · intro a d had hd hai hdg
    unfold RelT
    by_cases hdq : d = q
    · subst hdq
      rw [tr_left]
      rcases anc_cases_gp had with e | ⟨_, e | e⟩
      · -- a = parent d
        have r := h.I1 g (parent d) hgp (by have := h.qlt; omega) hgi (by omega)
        rw [tr_of_ne F (by omega) (by omega)]; subst e
        unfold RelT at r
        grind
      · -- a = g
        rw [hgdef] at e; subst e
        rw [tr_right]
        grind
      · rw [hgdef] at e
        have := e.lt
        rw [tr_of_ne F (by omega) (by omega)]
        exact h.I1 a g e (by have := h.qlt; omega) hai (by omega)
    · rw [tr_of_ne F hdq hdg]
      by_cases hag : a = g
      · subst hag
        rw [tr_right]
        have r := h.I1 a d had hd hgi hdq
        unfold RelT at r
        grind
      · by_cases haq : a = q
        · subst haq
          rw [tr_left]
          have r := h.I1 g d (hg.trans had) hd hgi hdq
          unfold RelT at r
          grind
        · rw [tr_of_ne F haq hag]
          exact h.I1 a d had hd hai hdq
  · intro m hm hl
    have := hm.lt
    have r := h.I2 m (hm.trans hg) (by omega)
    unfold RelT at r ⊢
    rw [tr_right, tr_of_ne F (by omega) (by omega)]; exact r

/-- the climb stops: no grandparent, or the grandparent is on the right side -/
theorem ChainInv.final {n i q : Nat} {F : Nat → P} (h : ChainInv n i F q)
    (hstop : 0 < q → 0 < parent q →
      ¬ (if level q % 2 = 0 then F q < F (parent (parent q)) else F (parent (parent q)) < F q)) :
    Final n i F := by
  intro a d had hd hai
  by_cases hdq : d = q
  · subst hdq
    by_cases hl : level a % 2 = level d % 2
    · rcases anc_cases_gp had with e | ⟨h2, e⟩
      · have := level_parent had.pos; rw [← e] at this; omega
      · have h1 := had.pos
        have hs := hstop h1 h2
        have hlg := level_gp h1 h2
        have hgq := (anc_gp h1 h2).lt
        have hqi : d ≤ i := by rcases h.pos with e | e
                               · omega
                               · exact Nat.le_of_lt e.lt
        rcases e with e | e
        · subst e; unfold RelT; grind
        · have r := h.I1 a _ e (by omega) hai (by omega)
          have := e.level_lt
          unfold RelT at r ⊢
          grind
    · exact h.I2 a had hl
  · exact h.I1 a d had hd hai hdq

/-- start of a climb at `i` itself: the comparison with the parent went the non-crossing way -/
theorem ChainInv.init_same {n i : Nat} {F : Nat → P} (hi : i < n)
    (hpre : ∀ a d, Anc a d → d < n → a ≠ i → d ≠ i → RelT F a d)
    (hpar : 0 < i → RelT F (parent i) i) : ChainInv n i F i := by
  refine ⟨hi, Or.inl rfl, hpre, ?_⟩
  intro m hm hl
  have h0 := hm.pos
  have hp := hpar h0
  have hlp := level_parent h0
  rcases hm.cases_child with e | e
  · subst e; exact hp
  · have r := hpre m (parent i) e (by have := parent_lt h0; omega) (by have := hm.lt; omega) (by have := parent_lt h0; omega)
    simp only [RelT] at r hp ⊢
    grind

/-- start of a climb at the parent of `i` after a crossing: the parent's value moved down to `i` -/
theorem ChainInv.init_cross {n i : Nat} {F : Nat → P} (hi : i < n) (h0 : 0 < i)
    (hpre : ∀ a d, Anc a d → d < n → a ≠ i → d ≠ i → RelT F a d)
    (hc : if level i % 2 = 0 then F (parent i) < F i else ¬ F (parent i) < F i) :
    ChainInv n i (tr F i (parent i)) (parent i) := by
  have hpi := parent_lt h0
  have hlp := level_parent h0
  have hanc : Anc (parent i) i := Anc.parent h0
  generalize hpdef : parent i = p at *
  refine ⟨by omega, Or.inr hanc, ?_, ?_⟩
  · intro a d had hd hai hdp
    unfold RelT
    by_cases hdi : d = i
    · subst hdi
      rw [tr_left]
      rcases had.cases_child with e | e
      · rw [hpdef] at e; subst e
        rw [tr_right]
        grind
      · rw [hpdef] at e
        have := e.lt
        rw [tr_of_ne F (by omega) (by omega)]
        exact hpre a p e (by omega) hai (by omega)
    · rw [tr_of_ne F hdi hdp]
      by_cases hap : a = p
      · subst hap
        rw [tr_right]
        have r := hpre a d had hd hai hdi
        unfold RelT at r
        grind
      · rw [tr_of_ne F hai hap]
        exact hpre a d had hd hai hdi
  · intro m hm hl
    have := hm.lt
    have r := hpre m p hm (by omega) (by omega) (by omega)
    unfold RelT at r ⊢
    rw [tr_right, tr_of_ne F (by omega) (by omega)]
    grind

/-! ## B. The model loops -/

/-- the total priority function "as if `v` sat in the hole" (positions outside the tables read `v`) -/
def FH (s : Store P) (hole : Nat) (v : P) (p : Nat) : P := (s.prH hole v p).getD v

theorem FH_hole (s : Store P) (hole : Nat) (v : P) : FH s hole v hole = v := by
  simp [FH, prH]

theorem FH_of_pr {s : Store P} {hole p : Nat} {x : P} (v : P) (hne : p ≠ hole) (hx : s.pr p = some x) : FH s hole v p = x := by
  simp [FH, prH, hne, hx]

theorem FH_tick (s : Store P) (k hole : Nat) (v : P) : FH (s.tick k) hole v = FH s hole v := rfl

theorem FH_step {s : Store P} {n hole idx pp pi : Nat} (h : s.HoleTWF n hole idx) (hne : pp ≠ hole)
    (hpi : s.heap[pp]? = some pi) (v : P) :
    FH ({ s with heap := s.heap.setIfInBounds hole pi, qp := s.qp.setIfInBounds pi hole } : Store P) pp v =
      tr (FH s hole v) hole pp := by
  funext p
  simp only [FH, tr, prH_step h hne hpi v p]

/-- what a `HoleTWF` store holds at a position other than the hole -/
theorem hole_read {s : Store P} {n hole idx p : Nat} (h : s.HoleTWF n hole idx) (hp : p < n) (hne : p ≠ hole) :
    ∃ pi e, s.heap[p]? = some pi ∧ pi < n ∧ s.map[pi]? = some e ∧ s.pr p = some e.2 ∧ s.prioAt p = .ok e.2 := by
  obtain ⟨pi, _, h1, h2⟩ := h.heap_qp p hp hne
  have hpin : pi < n := by have := lt_size_of_getElem? h2; rw [h.qp_size] at this; exact this
  have hm : pi < s.map.size := by rw [h.map_size]; exact hpin
  have hpr : s.pr p = some (s.map[pi]).2 := by simp [Store.pr, h1, hm]
  exact ⟨pi, s.map[pi], h1, hpin, by simp [hm], hpr, prioAt_eq_ok_iff.mpr hpr⟩

/-- both `bubble_up_min` and `bubble_up_max`: `par` is the parity of the levels the loop runs on -/
theorem climb_spec {loop : Nat → Store P → Nat → P → R (Store P × Nat)} {up : P → P → Prop} [∀ g v, Decidable (up g v)]
    {a b c par : Nat}
    (hloop : DQ.ClimbEq loop up a b c)
    (hup : ∀ q x g, level q % 2 = par → (up g x ↔ if level q % 2 = 0 then x < g else g < x))
    (n idx : Nat) (v : P) (fuel : Nat) : ∀ (s : Store P) (q : Nat), s.HoleTWF n q idx → q < fuel →
    ∃ s' pos, loop fuel s q v = .ok (s', pos) ∧ s'.HoleTWF n pos idx ∧ s'.map = s.map ∧ s'.size = s.size ∧
      (pos = q ∨ Anc pos q) ∧
      (∀ i, level q % 2 = par → ChainInv n i (FH s q v) q → Final n i (FH s' pos v)) := by
  induction fuel with
  | zero => intro s q _ hf; omega
  | succ fuel ih =>
    intro s q h hf
    by_cases hc : q > 0 ∧ parent q > 0
    · obtain ⟨h1, h2⟩ := hc
      have hg : Anc (parent (parent q)) q := anc_gp h1 h2
      have hgq := hg.lt
      have hqn := h.hole_lt
      obtain ⟨gpi, eg, hgpi, hgpin, hmap, hpr, hprio⟩ := hole_read h (p := parent (parent q)) (by omega) (by omega)
      have hcmp : ∀ k, level q % 2 = par →
          (up eg.2 v ↔ if level q % 2 = 0 then FH (s.tick k) q v q < FH (s.tick k) q v (parent (parent q))
            else FH (s.tick k) q v (parent (parent q)) < FH (s.tick k) q v q) := fun k hl => by
        rw [FH_tick, FH_hole, FH_of_pr v (by omega) hpr]; exact hup q v eg.2 hl
      by_cases hlt : up eg.2 v
      · have hstep := HoleTWF.step (h.tick (k := 1)) (pp := parent (parent q)) (by omega) (by omega) hgpi
        obtain ⟨s', pos, hrun, hH, hm, hsz, hpos, hfin⟩ := ih _ (parent (parent q)) hstep (by omega)
        refine ⟨s', pos, ?_, hH, hm, hsz, ?_, ?_⟩
        · have hq1 : q < s.heap.size := by rw [h.heap_size]; exact hqn
          have hq2 : gpi < s.qp.size := by rw [h.qp_size]; exact hgpin
          rw [hloop fuel, if_pos ⟨h1, h2⟩]
          simp only [hprio, bind, Except.bind, tick_heap, tick_qp, if_pos hlt, getU_ok hgpi, setU_ok _ hq1, setU_ok _ hq2]
          exact hrun
        · rcases hpos with e | e
          · rw [e]; exact Or.inr hg
          · exact Or.inr (e.trans hg)
        · intro i hl hci
          apply hfin i (by have := level_gp h1 h2; omega)
          rw [FH_step (h.tick (k := 1)) (pp := parent (parent q)) (by omega) hgpi v]
          exact ChainInv.step (by rw [FH_tick]; exact hci) h1 h2 ((hcmp 1 hl).1 hlt)
      · refine ⟨s.tick, q, ?_, h.tick, rfl, rfl, Or.inl rfl, ?_⟩
        · rw [hloop fuel, if_pos ⟨h1, h2⟩]
          simp only [hprio, bind, Except.bind, if_neg hlt, pure, Except.pure]
        · intro i hl hci
          exact ChainInv.final (by rw [FH_tick]; exact hci) fun _ _ => mt (hcmp 1 hl).2 hlt
    · refine ⟨s, q, ?_, h, rfl, rfl, Or.inl rfl, ?_⟩
      · rw [hloop fuel, if_neg hc]; rfl
      · intro i hl hci
        apply hci.final
        intro h1 h2; exact absurd ⟨h1, h2⟩ hc

theorem bubbleUpMax_spec {n idx : Nat} {e : Item × P} {s : Store P} {q : Nat} (h : s.HoleTWF n q idx) (he : s.map[idx]? = some e) :
    ∃ s' pos, DQ.bubbleUpMax s q idx = .ok (s', pos) ∧ s'.HoleTWF n pos idx ∧ s'.map = s.map ∧ s'.size = s.size ∧
      (pos = q ∨ Anc pos q) ∧
      (∀ i, level q % 2 = 1 → ChainInv n i (FH s q e.2) q → Final n i (FH s' pos e.2)) := by
  obtain ⟨s', pos, hrun, rest⟩ := climb_spec (par := 1) DQ.climbEq_max
    (fun _ _ _ hl => by rw [if_neg (by omega)]) n idx e.2 (q + 1) s q h (by omega)
  refine ⟨s', pos, ?_, rest⟩
  simp only [DQ.bubbleUpMax, IMap.getIndex, he, unwrapO, bind, Except.bind]
  exact hrun

theorem bubbleUpMin_spec {n idx : Nat} {e : Item × P} {s : Store P} {q : Nat} (h : s.HoleTWF n q idx) (he : s.map[idx]? = some e) :
    ∃ s' pos, DQ.bubbleUpMin s q idx = .ok (s', pos) ∧ s'.HoleTWF n pos idx ∧ s'.map = s.map ∧ s'.size = s.size ∧
      (pos = q ∨ Anc pos q) ∧
      (∀ i, level q % 2 = 0 → ChainInv n i (FH s q e.2) q → Final n i (FH s' pos e.2)) := by
  obtain ⟨s', pos, hrun, rest⟩ := climb_spec DQ.climbEq_min
    (fun _ _ _ hl => by rw [if_pos hl]) n idx e.2 (q + 1) s q h (by omega)
  refine ⟨s', pos, ?_, rest⟩
  simp only [DQ.bubbleUpMin, IMap.getIndex, he, unwrapO, bind, Except.bind]
  exact hrun

/-- the parent comparison of `bubble_up` (everything between reading the priority and the final write) -/
def mid (s : Store P) (position mapPosition : Nat) (priority : P) : R (Store P × Nat) :=
  if position > 0 then do
    let par := parent position
    let pp ← s.prioAt par
    let parentIndex ← getU s.heap par 311
    let s := s.tick
    match decide (level position % 2 = 0), decide (pp < priority) with
    | true, true => do
      let heap ← setU s.heap position parentIndex 312
      let qp ← setU s.qp parentIndex position 313
      DQ.bubbleUpMax { s with heap := heap, qp := qp } par mapPosition
    | true, false => DQ.bubbleUpMin s position mapPosition
    | false, true => DQ.bubbleUpMax s position mapPosition
    | false, false => do
      let heap ← setU s.heap position parentIndex 314
      let qp ← setU s.qp parentIndex position 315
      DQ.bubbleUpMin { s with heap := heap, qp := qp } par mapPosition
  else pure (s, position)

theorem bubbleUp_eq (s : Store P) (i idx : Nat) : DQ.bubbleUp s i idx = (do
    let e ← unwrapO (s.map.getIndex idx) 310
    let (s, position) ← mid s i idx e.2
    let heap ← setU s.heap position idx 316
    let qp ← setU s.qp idx position 317
    pure ({ s with heap := heap, qp := qp }, position)) := by
  unfold DQ.bubbleUp mid
  cases unwrapO (s.map.getIndex idx) 310 with
  | error f => rfl
  | ok e =>
    simp only [bind, Except.bind]
    split
    · cases s.prioAt (parent i) with
      | error f => rfl
      | ok pp =>
        dsimp only
        cases getU s.heap (parent i) 311 with
        | error f => rfl
        | ok pi =>
          dsimp only
          cases decide (level i % 2 = 0) <;> cases decide (pp < e.2) <;> dsimp only
          · cases setU s.tick.heap i pi 314 with
            | error f => rfl
            | ok heap =>
              dsimp only
              cases setU s.tick.qp pi i 315 with
              | error f => rfl
              | ok qp => rfl
          · cases setU s.tick.heap i pi 312 with
            | error f => rfl
            | ok heap =>
              dsimp only
              cases setU s.tick.qp pi i 313 with
              | error f => rfl
              | ok qp => rfl
    · rfl

theorem mid_spec {n i idx : Nat} {e : Item × P} {s : Store P} (h : s.HoleTWF n i idx) (he : s.map[idx]? = some e) :
    ∃ s' pos, mid s i idx e.2 = .ok (s', pos) ∧ s'.HoleTWF n pos idx ∧ s'.map = s.map ∧ s'.size = s.size ∧
      (pos = i ∨ Anc pos i) ∧
      ((∀ a d, Anc a d → d < n → a ≠ i → d ≠ i → RelT (FH s i e.2) a d) → Final n i (FH s' pos e.2)) := by
  have hin := h.hole_lt
  by_cases h0 : i > 0
  · have hpi := parent_lt h0
    have hlp := level_parent h0
    have hanc : Anc (parent i) i := Anc.parent h0
    obtain ⟨ppi, ep, hppi, hppin, hmap, hpr, hprio⟩ := hole_read h (p := parent i) (by omega) (by omega)
    have hq1 : i < s.heap.size := by rw [h.heap_size]; exact hin
    have hq2 : ppi < s.qp.size := by rw [h.qp_size]; exact hppin
    have hstep := HoleTWF.step (h.tick (k := 1)) (pp := parent i) (by omega) (by omega) hppi
    have hFstep := FH_step (h.tick (k := 1)) (pp := parent i) (by omega) hppi e.2
    rw [FH_tick] at hFstep
    have hFp : FH s i e.2 (parent i) = ep.2 := FH_of_pr e.2 (by omega) hpr
    have hFi : FH s i e.2 i = e.2 := FH_hole s i e.2
    simp only [mid]
    rw [if_pos h0]
    simp only [hprio, bind, Except.bind, getU_ok hppi, tick_heap, tick_qp, setU_ok _ hq1, setU_ok _ hq2]
    by_cases hl : level i % 2 = 0
    · by_cases hlt : ep.2 < e.2
      · -- min level, parent smaller: cross to the max chain
        obtain ⟨s', pos, hrun, hH, hm, hsz, hpos, hfin⟩ := bubbleUpMax_spec hstep (e := e) he
        refine ⟨s', pos, ?_, hH, hm, hsz, ?_, ?_⟩
        · simp only [decide_eq_true hl, decide_eq_true hlt]
          exact hrun
        · rcases hpos with e' | e'
          · rw [e']; exact Or.inr hanc
          · exact Or.inr (e'.trans hanc)
        · intro hpre
          apply hfin i (by omega)
          rw [hFstep]
          apply ChainInv.init_cross hin h0 hpre
          rw [if_pos hl, hFp, hFi]; exact hlt
      · -- min level, parent not smaller: climb the min chain
        obtain ⟨s', pos, hrun, hH, hm, hsz, hpos, hfin⟩ := bubbleUpMin_spec (h.tick (k := 1)) (e := e) he
        refine ⟨s', pos, ?_, hH, hm, hsz, hpos, ?_⟩
        · simp only [decide_eq_true hl, decide_eq_false hlt]
          exact hrun
        · intro hpre
          apply hfin i hl
          rw [FH_tick]
          apply ChainInv.init_same hin hpre
          intro _
          simp only [RelT]
          rw [if_neg (by omega), hFp, hFi]; exact hlt
    · by_cases hlt : ep.2 < e.2
      · -- max level, parent smaller: climb the max chain
        obtain ⟨s', pos, hrun, hH, hm, hsz, hpos, hfin⟩ := bubbleUpMax_spec (h.tick (k := 1)) (e := e) he
        refine ⟨s', pos, ?_, hH, hm, hsz, hpos, ?_⟩
        · simp only [decide_eq_false hl, decide_eq_true hlt]
          exact hrun
        · intro hpre
          apply hfin i (by omega)
          rw [FH_tick]
          apply ChainInv.init_same hin hpre
          intro _
          simp only [RelT]
          rw [if_pos (by omega), hFp, hFi]; grind
      · -- max level, parent not smaller: cross to the min chain
        obtain ⟨s', pos, hrun, hH, hm, hsz, hpos, hfin⟩ := bubbleUpMin_spec hstep (e := e) he
        refine ⟨s', pos, ?_, hH, hm, hsz, ?_, ?_⟩
        · simp only [decide_eq_false hl, decide_eq_false hlt]
          exact hrun
        · rcases hpos with e' | e'
          · rw [e']; exact Or.inr hanc
          · exact Or.inr (e'.trans hanc)
        · intro hpre
          apply hfin i (by omega)
          rw [hFstep]
          apply ChainInv.init_cross hin h0 hpre
          rw [if_neg hl, hFp, hFi]; exact hlt
  · refine ⟨s, i, ?_, h, rfl, rfl, Or.inl rfl, ?_⟩
    · simp only [mid]; rw [if_neg h0]; rfl
    · intro hpre
      apply (ChainInv.init_same hin hpre (fun h => absurd h h0)).final
      intro h1; exact absurd h1 h0

/-- reading the order off the filled store -/
theorem rel_of_fill {s : Store P} {n pos idx i : Nat} {e : Item × P} (h : s.HoleTWF n pos idx) (he : s.map[idx]? = some e)
    (hfin : Final n i (FH s pos e.2)) (a d : Nat) (had : Anc a d) (hd : d < n) (hai : a ≠ i) :
    ({ s with heap := s.heap.setIfInBounds pos idx, qp := s.qp.setIfInBounds idx pos } : Store P).Rel a d := by
  intro x y hx hy
  rw [pr_fill h e he] at hx hy
  have r := hfin a d had hd hai
  have e1 : FH s pos e.2 a = x := by simp [FH, hx]
  have e2 : FH s pos e.2 d = y := by simp [FH, hy]
  simp only [RelT, e1, e2] at r
  exact r

/-- **`bubble_up`**, tables and order in one statement -/
theorem bubbleUp_full {s : Store P} {n i idx : Nat} (h : s.TWF n) (hi : s.heap[i]? = some idx) :
    ∃ s' pos, DQ.bubbleUp s i idx = .ok (s', pos) ∧ s'.TWF n ∧ s'.map = s.map ∧ s'.size = s.size ∧ pos ≤ i ∧
      (pos = i ∨ Anc pos i) ∧
      ((∀ a d, Anc a d → d < n → a ≠ i → d ≠ i → s.Rel a d) → ∀ a d, Anc a d → d < n → a ≠ i → s'.Rel a d) := by
  have hH := h.toHole hi
  obtain ⟨e, he⟩ := h.map_some (h.heap_lt hi)
  obtain ⟨s2, pos, hrun, hH2, hm, hsz, hpos, hfin⟩ := mid_spec hH he
  have he2 : s2.map[idx]? = some e := by rw [hm]; exact he
  have hq1 : pos < s2.heap.size := by rw [hH2.heap_size]; exact hH2.hole_lt
  have hq2 : idx < s2.qp.size := by rw [hH2.qp_size]; exact hH2.idx_lt
  refine ⟨{ s2 with heap := s2.heap.setIfInBounds pos idx, qp := s2.qp.setIfInBounds idx pos }, pos, ?_, hH2.fill, hm, hsz, ?_,
    hpos, ?_⟩
  · rw [bubbleUp_eq]
    simp only [IMap.getIndex, he, unwrapO, bind, Except.bind, hrun, setU_ok _ hq1, setU_ok _ hq2, pure, Except.pure]
  · rcases hpos with e' | e'
    · omega
    · exact Nat.le_of_lt e'.lt
  · intro hpre
    apply rel_of_fill hH2 he2
    apply hfin
    intro a d had hd hai hdi
    have hlt := had.lt
    obtain ⟨x, hx⟩ := h.pr_some (p := a) (by omega)
    obtain ⟨y, hy⟩ := h.pr_some hd
    have r := hpre a d had hd hai hdi x y hx hy
    simp only [RelT, FH_of_pr e.2 hai hx, FH_of_pr e.2 hdi hy]
    exact r

/-! ## C. Decidable checkers (for the non-vacuity examples on concrete stores) -/

/-- a computable under-approximation of `Anc`, exact once `d ≤ fuel` -/
def ancB : Nat → Nat → Nat → Bool
  | 0, _, _ => false
  | fuel + 1, a, d => decide (0 < d) && (a == parent d || ancB fuel a (parent d))

theorem ancB_of_anc {a d : Nat} (h : Anc a d) : ∀ fuel, d ≤ fuel → ancB fuel a d = true := by
  induction h with
  | parent hd =>
    intro fuel hf
    cases fuel with
    | zero => omega
    | succ f => simp [ancB, hd]
  | step hd _ ih =>
    intro fuel hf
    cases fuel with
    | zero => omega
    | succ f =>
      have := ih f (by have := parent_lt hd; omega)
      simp [ancB, hd, this]

/-- a computable form of `Store.Rel` -/
def relB (s : Store P) (a d : Nat) : Bool :=
  match s.pr a, s.pr d with
  | some x, some y => if level a % 2 = 0 then !decide (y < x) else !decide (x < y)
  | _, _ => true

theorem rel_of_relB {s : Store P} {a d : Nat} (h : relB s a d = true) : s.Rel a d := by
  intro x y hx hy
  simp only [relB, hx, hy] at h
  split at h <;> rename_i hl
  · rw [if_pos hl]; simpa using h
  · rw [if_neg hl]; simpa using h

/-- all pairs `(a, d)`, `d < n`, selected by `Q` are in order, by a bounded check -/
theorem rel_of_check (s : Store P) (n : Nat) (Q : Nat → Nat → Bool)
    (h : ∀ d, d < n → ∀ a, a < d → (ancB n a d && Q a d) = true → relB s a d = true) :
    ∀ a d, Anc a d → d < n → Q a d = true → s.Rel a d := by
  intro a d had hd hq
  apply rel_of_relB
  apply h d hd a had.lt
  rw [ancB_of_anc had n (by omega), hq]; rfl

theorem twf_of_check {s : Store P} {n : Nat} (h1 : s.map.size = n) (h2 : s.heap.size = n) (h3 : s.qp.size = n)
    (h4 : ∀ p, p < n → (s.heap[p]?).bind (fun i => s.qp[i]?) = some p)
    (h5 : ∀ i, i < n → (s.qp[i]?).bind (fun p => s.heap[p]?) = some i)
    (h6 : ∀ i, i < n → ∀ j, j < n → (s.map[i]?).map (·.1.key) = (s.map[j]?).map (·.1.key) → i = j) : s.TWF n := by
  refine ⟨h1, h2, h3, ?_, ?_, ?_⟩
  · intro p hp
    have := h4 p hp
    rw [Option.bind_eq_some_iff] at this
    exact this
  · intro i hi
    have := h5 i hi
    rw [Option.bind_eq_some_iff] at this
    exact this
  · intro i j a b hi hj hab
    have hi' : i < n := by rw [← h1]; exact lt_size_of_getElem? hi
    have hj' : j < n := by rw [← h1]; exact lt_size_of_getElem? hj
    exact h6 i hi' j hj' (by rw [hi, hj]; simp [hab])

/-- eleven positions, identity tables; priorities by position `[10, 90, 80, 95, 30, 40, 50, 60, 70, 35, 36]`: a min-max
heap in which the priority at position `3` (min level) was raised from `20` to `95` -/
def exU : Store Nat :=
  { map := #[(⟨0, 0⟩, 10), (⟨1, 0⟩, 90), (⟨2, 0⟩, 80), (⟨3, 0⟩, 95), (⟨4, 0⟩, 30), (⟨5, 0⟩, 40), (⟨6, 0⟩, 50),
             (⟨7, 0⟩, 60), (⟨8, 0⟩, 70), (⟨9, 0⟩, 35), (⟨10, 0⟩, 36)],
    heap := #[0, 1, 2, 3, 4, 5, 6, 7, 8, 9, 10], qp := #[0, 1, 2, 3, 4, 5, 6, 7, 8, 9, 10], size := 11 }

theorem exU_WF : exU.WF :=
  twf_of_check rfl rfl rfl (by decide) (by decide) (by decide)

/-- every pair not involving position `3` is in order -/
theorem exU_pre : ∀ a d, Anc a d → d < exU.size → a ≠ 3 → d ≠ 3 → exU.Rel a d := by
  intro a d had hd ha hd3
  exact rel_of_check exU 11 (fun a d => a != 3 && d != 3) (by decide) a d had hd (by simp [ha, hd3])

/-- but `exU` is not a min-max heap: the pair `(1, 3)` is out of order -/
theorem exU_not_heap : ¬ exU.MinMaxHeap := by
  intro hm
  have := hm 1 3 (Anc.of_left 1) (by decide) 90 95 (by decide) (by decide)
  revert this; decide

/-- `push` in flight: seven ordered positions `[10, 90, 80, 20, 30, 40, 50]`, the tables already extended by the new slot
`7` (priority `5`) at position `7`, `size` still `7` -/
def exPush : Store Nat :=
  { map := #[(⟨0, 0⟩, 10), (⟨1, 0⟩, 90), (⟨2, 0⟩, 80), (⟨3, 0⟩, 20), (⟨4, 0⟩, 30), (⟨5, 0⟩, 40), (⟨6, 0⟩, 50), (⟨7, 0⟩, 5)],
    heap := #[0, 1, 2, 3, 4, 5, 6, 7], qp := #[0, 1, 2, 3, 4, 5, 6, 7], size := 7 }

theorem exPush_TWF : exPush.TWF 8 :=
  twf_of_check rfl rfl rfl (by decide) (by decide) (by decide)

theorem exPush_ord : ∀ a d, Anc a d → d < 7 → exPush.Rel a d := by
  intro a d had hd
  exact rel_of_check exPush 7 (fun _ _ => true) (by decide) a d had hd rfl

end Up

namespace DQ
open Up

/-- `bubble_up` on tables of length `n`: never faults, keeps the tables well-formed, leaves map and size alone and
ends at `i` or at an ancestor of `i`. -/
theorem bubbleUp_tables {s : Store P} {n i idx : Nat} (h : s.TWF n) (hi : s.heap[i]? = some idx) :
    ∃ s' pos, bubbleUp s i idx = .ok (s', pos) ∧ s'.TWF n ∧ s'.map = s.map ∧ s'.size = s.size ∧ pos ≤ i ∧
      (pos = i ∨ Anc pos i) := by
  obtain ⟨s', pos, h1, h2, h3, h4, h5, h6, _⟩ := bubbleUp_full h hi
  exact ⟨s', pos, h1, h2, h3, h4, h5, h6⟩

/-- `bubble_up`, order: if every ancestor/descendant pair not involving position `i` is in order (the value at
`i` is arbitrary), then afterwards the only pairs that can be out of order are those whose ANCESTOR is `i`. -/
theorem bubbleUp_order {s : Store P} {n i idx : Nat} (h : s.TWF n) (hi : s.heap[i]? = some idx)
    (hpre : ∀ a d, Anc a d → d < n → a ≠ i → d ≠ i → s.Rel a d) :
    ∃ s' pos, bubbleUp s i idx = .ok (s', pos) ∧ s'.TWF n ∧ s'.map = s.map ∧ s'.size = s.size ∧ pos ≤ i ∧
      (pos = i ∨ Anc pos i) ∧ (∀ a d, Anc a d → d < n → a ≠ i → s'.Rel a d) := by
  obtain ⟨s', pos, h1, h2, h3, h4, h5, h6, h7⟩ := bubbleUp_full h hi
  exact ⟨s', pos, h1, h2, h3, h4, h5, h6, h7 hpre⟩

/-- the leaf case of `bubbleUp_order`: if `i` has no descendant below `n`, the whole order holds afterwards. -/
theorem bubbleUp_order_leaf {s : Store P} {n i idx : Nat} (h : s.TWF n) (hi : s.heap[i]? = some idx) (hleaf : n ≤ left i)
    (hpre : ∀ a d, Anc a d → d < n → a ≠ i → d ≠ i → s.Rel a d) :
    ∃ s' pos, bubbleUp s i idx = .ok (s', pos) ∧ s'.TWF n ∧ s'.map = s.map ∧ s'.size = s.size ∧ pos ≤ i ∧
      (pos = i ∨ Anc pos i) ∧ (∀ a d, Anc a d → d < n → s'.Rel a d) := by
  obtain ⟨s', pos, h1, h2, h3, h4, h5, h6, h7⟩ := bubbleUp_order h hi hpre
  refine ⟨s', pos, h1, h2, h3, h4, h5, h6, ?_⟩
  intro a d had hd
  by_cases hai : a = i
  · subst hai
    exfalso
    rcases had.cases_top with e | e | e | e
    · omega
    · have := right_eq a; omega
    · have := e.lt; omega
    · have := e.lt; have := right_eq a; omega
  · exact h7 a d had hd hai

/-- the sift-up of `push`: the tables are one longer than the ordered part, the new slot `n` sits at the new last
position `n`. -/
theorem bubbleUp_push_spec {s : Store P} (n : Nat) (h : s.TWF (n + 1)) (hlast : s.heap[n]? = some n)
    (hord : ∀ a d, Anc a d → d < n → s.Rel a d) :
    ∃ s' pos, bubbleUp s n n = .ok (s', pos) ∧ s'.TWF (n + 1) ∧ s'.map = s.map ∧ s'.size = s.size ∧
      (∀ a d, Anc a d → d < n + 1 → s'.Rel a d) := by
  obtain ⟨s', pos, h1, h2, h3, h4, _, _, h7⟩ := bubbleUp_order_leaf h hlast (by have := left_gt n; omega)
    (fun a d had hd _ hdn => hord a d had (by omega))
  exact ⟨s', pos, h1, h2, h3, h4, h7⟩

/-! ## Non-vacuity -/

/-- the hypotheses of `bubbleUp_tables` / `bubbleUp_order` hold for `exU` at `i = 3`, a store that is not a min-max heap -/
example : ∃ (s : Store Nat) (n i idx : Nat), s.TWF n ∧ s.heap[i]? = some idx ∧
    (∀ a d, Anc a d → d < n → a ≠ i → d ≠ i → s.Rel a d) ∧ ¬ s.MinMaxHeap :=
  ⟨exU, 11, 3, 3, exU_WF, by decide, exU_pre, exU_not_heap⟩

/-- the model on `exU`: the parent's `90` moves down into position `3`, the `95` ends at position `1`; afterwards the pair
`(3, 7)` — ancestor `3 = i` — is out of order (`90` on a min level above `60`): the exception in `bubbleUp_order` is really needed, and
so is the re-sift of the vacated position in `up_heapify`. -/
example : (bubbleUp exU 3 3).toOption.map (fun r => (r.2, r.1.pr 1, r.1.pr 3, r.1.pr 7)) =
    some (1, some 95, some 90, some 60) := by decide

example : ∃ s' pos, bubbleUp exU 3 3 = .ok (s', pos) ∧ s'.TWF 11 ∧ (∀ a d, Anc a d → d < 11 → a ≠ 3 → s'.Rel a d) := by
  obtain ⟨s', pos, h1, h2, _, _, _, _, h7⟩ := bubbleUp_order exU_WF (i := 3) (idx := 3) (by decide) exU_pre
  exact ⟨s', pos, h1, h2, h7⟩

/-- the hypotheses of `bubbleUp_push_spec` hold for `exPush` (`n = 7`) -/
example : ∃ (s : Store Nat) (n : Nat), s.TWF (n + 1) ∧ s.heap[n]? = some n ∧ (∀ a d, Anc a d → d < n → s.Rel a d) ∧ 0 < n :=
  ⟨exPush, 7, exPush_TWF, by decide, exPush_ord, by decide⟩

/-- the model on `exPush`: the new `5` crosses to the min chain and reaches the root -/
example : (bubbleUp exPush 7 7).toOption.map (fun r => (r.2, r.1.pr 0, r.1.pr 3, r.1.pr 7)) =
    some (0, some 5, some 10, some 20) := by decide

example : ∃ s' pos, bubbleUp exPush 7 7 = .ok (s', pos) ∧ s'.TWF 8 ∧ (∀ a d, Anc a d → d < 8 → s'.Rel a d) := by
  obtain ⟨s', pos, h1, h2, _, _, h5⟩ := bubbleUp_push_spec 7 exPush_TWF (by decide) exPush_ord
  exact ⟨s', pos, h1, h2, h5⟩

end DQ
end PQ
