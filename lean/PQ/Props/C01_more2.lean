import PQ.Lemmas.Contents
import PQ.Lemmas.History
import PQ.Props.C01
import PQ.Props.C02
/-!
# C01 / C02 — supplement 2: harmless leaks, the rebuilding `extend`, `clone_from`

`C01_reach` / `C02_reach` exclude EVERY leaked `iter_mut` guard (`Op.isLeak`) and heal a leak only by the operations of
`Op.rebuilds`.  Three sharper statements:

* (a) a leaked guard whose program writes NO priority (payload writes only, or no write at all, or the empty program) leaves
  every priority at every heap position as it was: the order invariant survives.  `Op.isHarmfulLeak` is the sharper
  exclusion; `C01_step_harmless_leak`, `C01_step_inv` here, `C01_run_inv`, `C01_reach_harmless_leaks`,
  `C02_reach_harmless_leaks` as the replacement-free case of (b).
* (b) `clone_from(&other)` is not an `Op` (it replaces the queue under test by a copy of ANOTHER queue): histories of
  events `Ev = op o | replace r`, `runEv`, `C01_reach_with_replacements` (every replacement satisfies the invariant ⇒ so
  does the final queue), `C01_reach_clone_from` (every replacement is itself reachable from `new()`).
* (c) `extend` with the bulk strategy (`Arith.betterToRebuild size lo = true`, `lo` the lower bound of the iterator's
  `size_hint`) ends in `heap_build`: it re-establishes the order from well-formedness alone, like the members of
  `Op.rebuilds`.  Whether `extend` rebuilds depends on the STATE (the current length), so it cannot be a member of the
  state-free `Op.rebuilds`: `C01_rebuildsAt q op` is the state-dependent extension, `C01_step_extend_rebuild`,
  `C01_step_rebuildAt`, `C01_heal_by_extend`, `C01_heal_at` the healing theorems.
-/
set_option linter.unusedSectionVars false
namespace PQ
open Arith Store

/-- a leaked `iter_mut` guard at least one of whose writes assigns a priority — the only leaks that can disturb the order -/
def Op.isHarmfulLeak {P : Type} : Op P → Bool
  | .iterMut true prog => prog.any (fun cw => cw.2.prio.isSome)
  | _ => false

/-- an operation that is no leak at all is no harmful leak -/
theorem C01_isHarmfulLeak_of_isLeak {P : Type} {op : Op P} (h : op.isLeak = false) : op.isHarmfulLeak = false := by
  cases op <;> try rfl
  case iterMut leak prog =>
    cases leak with
    | true => simp [Op.isLeak] at h
    | false => rfl

theorem C01_harmless_prog {P : Type} {prog : List (ICall × IMWrite P)}
    (h : (Op.iterMut true prog : Op P).isHarmfulLeak = false) : ∀ cw ∈ prog, cw.2.prio = none := by
  intro cw hcw
  simp only [Op.isHarmfulLeak, List.any_eq_false] at h
  have := h cw hcw
  cases hp : cw.2.prio with
  | none => rfl
  | some p => rw [hp] at this; simp at this

variable {P : Type} [LT P] [DecidableLT P] [LE P] [Std.IsLinearPreorder P] [Std.LawfulOrderLT P]

/-! ## (a) a leaked guard that wrote no priority keeps the order -/

/-- **a leaked `iter_mut` guard whose program writes no priority** (any calls, any payload writes): the step succeeds, the
index tables and the length are the very same, the priority at every heap position is the same — and therefore the
invariant of the queue kind is kept -/
theorem C01_step_harmless_leak {q : Q P} (hq : QInv q) (prog : List (ICall × IMWrite P))
    (hp : ∀ cw ∈ prog, cw.2.prio = none) :
    ∃ q' o, step q (.iterMut true prog) = .ok (q', o) ∧ QInv q' ∧ q'.kind = q.kind ∧ q'.s.heap = q.s.heap ∧
      q'.s.qp = q.s.qp ∧ q'.s.size = q.s.size ∧ ∀ p, q'.s.pr p = q.s.pr p := by
  obtain ⟨kind, s⟩ := q
  have h : s.WF := hq.wf
  obtain ⟨outs, m', hrun, hlen, hsz, hslots⟩ :=
    cont_iterMutRun kind s.map.size prog PIterMut.new (DIterMut.new s.map.size) s.map (Nat.zero_le _) (Nat.le_refl _)
  have hkeys : ∀ j : Nat, (m'[j]?).map (fun e : Item × P => e.1.key) = (s.map[j]?).map (fun e : Item × P => e.1.key) :=
    fun j => (hslots j).1
  have hwf1 : ({ s with map := m' } : Store P).WF := wf_of_map_update h hsz (IMap.NoDupKeys.congr_keys h.nodup hkeys)
  have hpr : ∀ p, ({ s with map := m' } : Store P).pr p = s.pr p := by
    intro p
    unfold Store.pr
    show (match s.heap[p]? with | some i => (m'[i]?).map (fun e : Item × P => e.2) | none => none) = _
    cases s.heap[p]? with
    | none => rfl
    | some i => exact (hslots i).2.2.2 hp
  have hstep : step ⟨kind, s⟩ (.iterMut true prog) = .ok (⟨kind, { s with map := m' }⟩, .outs outs) := by
    simp [step, hrun, bind, Except.bind, pure, Except.pure]
  refine ⟨_, _, hstep, ?_, rfl, rfl, rfl, rfl, hpr⟩
  cases kind with
  | pq =>
    have hi : MaxQ.Inv s := hq
    exact (⟨hwf1, MaxQ.maxHeap_of_prefix hi.2 (Nat.le_refl _) (fun p _ => hpr p)⟩ : MaxQ.Inv _)
  | dpq =>
    have hi : DQ.Inv s := hq
    exact (⟨hwf1, DQ.minMaxHeap_congr hpr rfl hi.2⟩ : DQ.Inv _)

/-- **one step keeps `QInv` unless it is a HARMFUL leak** (a leaked guard that wrote a priority) -/
theorem C01_step_inv {q : Q P} {op : Op P} (hq : QInv q) (hl : op.Legal) (hn : op.isHarmfulLeak = false) :
    ∃ q' o, step q op = .ok (q', o) ∧ QInv q' := by
  by_cases hleak : op.isLeak = false
  · exact hist_step_inv hq hl hleak
  · cases op <;> try (exact absurd rfl hleak)
    case iterMut leak prog =>
      cases leak with
      | false => exact absurd rfl hleak
      | true =>
        obtain ⟨q', o, h1, h2, _⟩ := C01_step_harmless_leak hq prog (C01_harmless_prog hn)
        exact ⟨q', o, h1, h2⟩

/-! ## (b) `clone_from`: histories in which the queue under test may be REPLACED by another queue -/

/-- an event of an extended history: a public operation on the queue under test, or the replacement of the queue under
test by (a copy of) another queue — `clone_from(&other)`, `*q = other.clone()`, `mem::swap`/`mem::replace` -/
inductive Ev (P : Type) where
  | op (o : Op P)
  | replace (r : Q P)

/-- run an extended history (a replacement returns `.unit`) -/
def runEv (q : Q P) : List (Ev P) → R (Q P × List (Out P))
  | [] => pure (q, [])
  | .op o :: evs => do
    let (q', out) ← step q o
    let (q'', outs) ← runEv q' evs
    pure (q'', out :: outs)
  | .replace r :: evs => do
    let (q'', outs) ← runEv r evs
    pure (q'', .unit :: outs)

/-- a history of operations is an extended history without replacements -/
theorem C01_runEv_ops (ops : List (Op P)) : ∀ (q : Q P), runEv q (ops.map Ev.op) = run q ops := by
  induction ops with
  | nil => intro q; rfl
  | cons op ops ih => intro q; simp only [List.map_cons, runEv, run, ih]

/-- what is demanded of an event: an operation is legal and not a harmful leak; a replacement queue satisfies the
invariant of its kind -/
def Ev.Good : Ev P → Prop
  | .op o => o.Legal ∧ o.isHarmfulLeak = false
  | .replace r => QInv r

/-- **C01/C02, reachability with replacements** (`clone_from`): if every operation of the extended history is legal and
no leaked guard wrote a priority, and every queue the queue under test is replaced by satisfies the invariant of its
kind, the extended history runs without fault and the final queue satisfies the invariant of its kind -/
theorem C01_reach_with_replacements (evs : List (Ev P)) : ∀ {q : Q P}, QInv q → (∀ ev ∈ evs, ev.Good) →
    ∃ q' outs, runEv q evs = .ok (q', outs) ∧ outs.length = evs.length ∧ QInv q' ∧
      (q'.kind = .pq → MaxQ.Inv q'.s) ∧ (q'.kind = .dpq → DQ.Inv q'.s) := by
  induction evs with
  | nil =>
    intro q hq _
    exact ⟨q, [], rfl, rfl, hq, hq.pq, hq.dpq⟩
  | cons ev evs ih =>
    intro q hq hg
    have hg' : ∀ ev' ∈ evs, ev'.Good := fun ev' h' => hg ev' (List.mem_cons_of_mem _ h')
    cases ev with
    | op o =>
      obtain ⟨hl, hn⟩ : o.Legal ∧ o.isHarmfulLeak = false := hg _ List.mem_cons_self
      obtain ⟨q1, out, h1, hq1⟩ := C01_step_inv hq hl hn
      obtain ⟨q2, outs, h2, hlen, hq2, hpq, hdq⟩ := ih hq1 hg'
      refine ⟨q2, out :: outs, ?_, by simp [hlen], hq2, hpq, hdq⟩
      simp only [runEv, h1, h2, bind, Except.bind, pure, Except.pure]
    | replace r =>
      have hr : QInv r := hg _ List.mem_cons_self
      obtain ⟨q2, outs, h2, hlen, hq2, hpq, hdq⟩ := ih hr hg'
      refine ⟨q2, .unit :: outs, ?_, by simp [hlen], hq2, hpq, hdq⟩
      simp only [runEv, h2, bind, Except.bind, pure, Except.pure]

/-- **histories with harmless leaks keep the invariant**: an extended history without replacements -/
theorem C01_run_inv (ops : List (Op P)) : ∀ {q : Q P}, QInv q → (∀ op ∈ ops, op.Legal) →
    (∀ op ∈ ops, op.isHarmfulLeak = false) →
    ∃ q' outs, run q ops = .ok (q', outs) ∧ QInv q' ∧ outs.length = ops.length := by
  intro q hq hl hn
  obtain ⟨q', outs, hrun, hlen, hinv, _⟩ := C01_reach_with_replacements (ops.map Ev.op) hq (by
    intro ev hev
    obtain ⟨o, ho, rfl⟩ := List.mem_map.1 hev
    exact ⟨hl o ho, hn o ho⟩)
  rw [C01_runEv_ops] at hrun
  exact ⟨q', outs, hrun, hinv, by simpa using hlen⟩

/-- **C01, reachability with harmless leaks.**  From any queue satisfying the invariant of its kind, every history of
legal operations in which no LEAKED guard WROTE A PRIORITY (leaked guards that only looked, or only wrote payloads, are
allowed anywhere) runs without fault and ends in a queue satisfying the invariant of its final kind; a final
`PriorityQueue` is a well-formed binary max-heap.  (`C01_reach` is the special case without any leak.) -/
theorem C01_reach_harmless_leaks (ops : List (Op P)) {q : Q P} (hq : QInv q) (hl : ∀ op ∈ ops, op.Legal)
    (hn : ∀ op ∈ ops, op.isHarmfulLeak = false) :
    ∃ q' outs, run q ops = .ok (q', outs) ∧ outs.length = ops.length ∧ QInv q' ∧ (q'.kind = .pq → MaxQ.Inv q'.s) := by
  obtain ⟨q', outs, hrun, hinv, hlen⟩ := C01_run_inv ops hq hl hn
  exact ⟨q', outs, hrun, hlen, hinv, hinv.pq⟩

/-- **C02, reachability with harmless leaks**: a final `DoublePriorityQueue` is a well-formed min-max heap -/
theorem C02_reach_harmless_leaks (ops : List (Op P)) {q : Q P} (hq : QInv q) (hl : ∀ op ∈ ops, op.Legal)
    (hn : ∀ op ∈ ops, op.isHarmfulLeak = false) :
    ∃ q' outs, run q ops = .ok (q', outs) ∧ outs.length = ops.length ∧ QInv q' ∧ (q'.kind = .dpq → DQ.Inv q'.s) := by
  obtain ⟨q', outs, hrun, hinv, hlen⟩ := C01_run_inv ops hq hl hn
  exact ⟨q', outs, hrun, hlen, hinv, hinv.dpq⟩

/-- `C01_reach` is the case without any leak -/
theorem C01_reach_of_harmless (ops : List (Op P)) {q : Q P} (hq : QInv q) (hl : ∀ op ∈ ops, op.Legal)
    (hn : ∀ op ∈ ops, op.isLeak = false) :
    ∃ q' outs, run q ops = .ok (q', outs) ∧ outs.length = ops.length ∧ QInv q' ∧ (q'.kind = .pq → MaxQ.Inv q'.s) :=
  C01_reach_harmless_leaks ops hq hl (fun op h => C01_isHarmfulLeak_of_isLeak (hn op h))

/-- … in particular **`clone_from` from any REACHABLE queue**: each replacement queue is itself the result of a legal
history without harmful leaks from `new()` of some kind (a clone is an equal copy of the store: `Clone` is derived) -/
theorem C01_reach_clone_from (evs : List (Ev P)) {q : Q P} (hq : QInv q)
    (hops : ∀ o, Ev.op o ∈ evs → o.Legal ∧ o.isHarmfulLeak = false)
    (hrep : ∀ r, Ev.replace r ∈ evs → ∃ (k : Kind) (ops : List (Op P)) (outs : List (Out P)),
      (∀ op ∈ ops, op.Legal) ∧ (∀ op ∈ ops, op.isHarmfulLeak = false) ∧ run (Q.new k) ops = .ok (r, outs)) :
    ∃ q' outs, runEv q evs = .ok (q', outs) ∧ outs.length = evs.length ∧ QInv q' ∧
      (q'.kind = .pq → MaxQ.Inv q'.s) ∧ (q'.kind = .dpq → DQ.Inv q'.s) := by
  refine C01_reach_with_replacements evs hq (fun ev hev => ?_)
  cases ev with
  | op o => exact hops o hev
  | replace r =>
    obtain ⟨k, ops, outs, hl, hn, hrun⟩ := hrep r hev
    obtain ⟨q', outs', hrun', hinv, _⟩ := C01_run_inv ops (hist_new_inv k) hl hn
    rw [hrun] at hrun'
    cases hrun'
    exact hinv

/-! ## (c) the rebuilding `extend` heals a leak -/

/-- `extend` takes its bulk strategy only for a non-zero lower bound: `better_to_rebuild(len, 0)` is false -/
theorem C01_betterToRebuild_lo_ne_zero {n lo : Nat} (h : betterToRebuild n lo = true) : lo ≠ 0 := by
  intro h0
  subst h0
  unfold betterToRebuild at h
  split at h
  · cases h
  · simp [satMul] at h

/-- **`extend` with the bulk strategy** (`better_to_rebuild(len, lo)`), from a merely well-formed queue of either kind
(e.g. after a leaked guard that wrote priorities): no fault, and the result satisfies the full invariant — the strategy
ends in `heap_build` -/
theorem C01_step_extend_rebuild {q : Q P} (hq : QWF q) {lo : Nat} {xs : Array (Item × P)}
    (hl : (Op.extend lo xs : Op P).Legal) (hb : betterToRebuild q.s.size lo = true) :
    ∃ q' o, step q (.extend lo xs) = .ok (q', o) ∧ QInv q' := by
  obtain ⟨k, s⟩ := q
  have h : s.WF := hq
  have hlo : lo < capLimit := Nat.lt_of_le_of_lt hl.1 hl.2
  have hr : (if lo ≠ 0 then betterToRebuild s.size lo else false) = true := by
    rw [if_pos (C01_betterToRebuild_lo_ne_zero hb)]; exact hb
  cases k with
  | pq =>
    obtain ⟨s', he, hwf, _, _, hm⟩ := MaxQ.heapBuild_spec (wf_extend h xs)
    have he' : MaxQ.extend s lo xs = .ok s' := by rw [MaxQ.extend_eval_rebuild xs hlo hr]; exact he
    refine ⟨⟨.pq, s'⟩, .unit, ?_, (⟨hwf, hm⟩ : MaxQ.Inv s')⟩
    simp only [step, he', bind, Except.bind, pure, Except.pure]
  | dpq =>
    obtain ⟨s', he, hwf, _, _, hm⟩ := DQ.heapBuild_spec (wf_extend h xs)
    have he' : DQ.extend s lo xs = .ok s' := by rw [DQ.extend_of_lt xs hlo, if_pos hr]; exact he
    refine ⟨⟨.dpq, s'⟩, .unit, ?_, (⟨hwf, hm⟩ : DQ.Inv s')⟩
    simp only [step, he', bind, Except.bind, pure, Except.pure]

/-- the operations that end in `heap_build` (or empty the queue) WHEN EXECUTED ON `q`: the members of `Op.rebuilds`, and
`extend` when `better_to_rebuild(len, lo)` chooses the bulk strategy -/
def C01_rebuildsAt (q : Q P) : Op P → Bool
  | .extend lo _ => betterToRebuild q.s.size lo
  | op => op.rebuilds

theorem C01_rebuildsAt_of_rebuilds (q : Q P) {op : Op P} (h : op.rebuilds = true) : C01_rebuildsAt q op = true := by
  cases op <;> first | exact h | (simp [Op.rebuilds] at h)

/-- every operation that rebuilds on `q` re-establishes the invariant from well-formedness alone -/
theorem C01_step_rebuildAt {q : Q P} {op : Op P} (hq : QWF q) (hl : op.Legal) (hr : C01_rebuildsAt q op = true) :
    ∃ q' o, step q op = .ok (q', o) ∧ QInv q' := by
  by_cases he : ∃ lo xs, op = .extend lo xs
  · obtain ⟨lo, xs, rfl⟩ := he
    exact C01_step_extend_rebuild hq hl hr
  · have : op.rebuilds = true := by
      cases op <;> first | exact hr | exact absurd ⟨_, _, rfl⟩ he
    exact hist_step_rebuild hq hl this

/-- **a leak is healed by any operation that rebuilds where it is executed** (`hist_run_heal` with the state-dependent
set of rebuilding operations and harmless leaks afterwards) -/
theorem C01_heal_at (pre post : List (Op P)) (op : Op P) {q : Q P} (hq : QWF q)
    (hpre : ∀ o ∈ pre, o.Legal) (hop : op.Legal)
    (hr : ∀ q1 o1, run q pre = .ok (q1, o1) → C01_rebuildsAt q1 op = true)
    (hpost : ∀ o ∈ post, o.Legal) (hn : ∀ o ∈ post, o.isHarmfulLeak = false) :
    ∃ q' outs, run q (pre ++ op :: post) = .ok (q', outs) ∧ QInv q' := by
  obtain ⟨q1, o1, h1, hq1, _⟩ := hist_run_safe pre hq hpre
  obtain ⟨q2, o, h2, hq2⟩ := C01_step_rebuildAt hq1 hop (hr q1 o1 h1)
  obtain ⟨q3, o3, h3, hq3, _⟩ := C01_run_inv post hq2 hpost hn
  refine ⟨q3, o1 ++ o :: o3, ?_, hq3⟩
  rw [hist_run_append pre (op :: post) q q1 o1 h1, cont_run_cons h2 h3]

/-- **a leak is healed by a rebuilding `extend`**: `pre` is ANY legal history (leaked guards that wrote priorities
included), then an `extend` that takes the bulk strategy on the queue `pre` leaves, then a history without harmful leaks:
the final queue satisfies the invariant of its kind -/
theorem C01_heal_by_extend (pre post : List (Op P)) (lo : Nat) (xs : Array (Item × P)) {q : Q P} (hq : QWF q)
    (hpre : ∀ o ∈ pre, o.Legal) (hop : (Op.extend lo xs : Op P).Legal)
    (hb : ∀ q1 o1, run q pre = .ok (q1, o1) → betterToRebuild q1.s.size lo = true)
    (hpost : ∀ o ∈ post, o.Legal) (hn : ∀ o ∈ post, o.isHarmfulLeak = false) :
    ∃ q' outs, run q (pre ++ .extend lo xs :: post) = .ok (q', outs) ∧ QInv q' ∧
      (q'.kind = .pq → MaxQ.Inv q'.s) ∧ (q'.kind = .dpq → DQ.Inv q'.s) := by
  obtain ⟨q', outs, h, hi⟩ := C01_heal_at pre post (.extend lo xs) hq hpre hop hb hpost hn
  exact ⟨q', outs, h, hi, hi.pq, hi.dpq⟩

section Examples

/-- pushes, then a LEAKED guard that walks over three elements and rewrites two payloads (no priority), then pops -/
private def exOpsA : List (Op Nat) :=
  [.push ⟨1, 0⟩ 5, .push ⟨2, 0⟩ 9, .push ⟨3, 0⟩ 7, .push ⟨4, 0⟩ 1,
   .iterMut true [(.next, ⟨none, some 100⟩), (.next, ⟨none, none⟩), (.next, ⟨none, some 300⟩)],
   .iterMut true [], .popFront, .changePriority 4 8]

-- the hypotheses of `C01_reach_harmless_leaks` / `C02_reach_harmless_leaks`: legal, two leaks, none harmful — and the
-- coarser exclusion `isLeak` does NOT hold of this history
example : (∀ op ∈ exOpsA, op.Legal) ∧ (∀ op ∈ exOpsA, op.isHarmfulLeak = false) ∧ ¬ (∀ op ∈ exOpsA, op.isLeak = false) := by
  refine ⟨?_, ?_, ?_⟩
  · intro op h
    simp only [exOpsA, List.mem_cons, List.not_mem_nil, or_false] at h
    rcases h with h | h | h | h | h | h | h | h <;> subst h <;> exact trivial
  · intro op h
    simp only [exOpsA, List.mem_cons, List.not_mem_nil, or_false] at h
    rcases h with h | h | h | h | h | h | h | h <;> subst h <;> rfl
  · intro h
    have := h (.iterMut true []) (by simp [exOpsA])
    simp [Op.isLeak] at this
-- … and the conclusion, evaluated: both kinds end ordered, the payload writes are there
example : hist_okR (run (Q.new .pq) exOpsA) (fun r => MaxQ.Inv r.1.s ∧ r.1.s.size = 3 ∧
    r.1.s.abs 1 = some (⟨1, 100⟩, 5) ∧ r.1.s.abs 3 = some (⟨3, 300⟩, 7) ∧ MaxQ.peek r.1.s = some (⟨4, 0⟩, 8)) := by
  decide +kernel
example : hist_okR (run (Q.new .dpq) exOpsA) (fun r => r.1.s.WF ∧ r.1.s.size = 3 ∧
    r.1.s.abs 2 = some (⟨2, 0⟩, 9) ∧ r.1.s.abs 3 = some (⟨3, 300⟩, 7) ∧
    hist_okR (DQ.peekMin r.1.s) (fun e => e = some (⟨1, 100⟩, 5)) ∧
    hist_okR (DQ.peekMax r.1.s) (fun e => e.2 = some (⟨2, 0⟩, 9))) := by decide +kernel

/-- eight pushes, a HARMFUL leak (the maximum gets the smallest priority: the order is broken) -/
private def exPre : List (Op Nat) :=
  [.push ⟨1, 0⟩ 5, .push ⟨2, 0⟩ 9, .push ⟨3, 0⟩ 7, .push ⟨4, 0⟩ 1, .push ⟨5, 0⟩ 3, .push ⟨6, 0⟩ 6, .push ⟨7, 0⟩ 2,
   .push ⟨8, 0⟩ 8, .iterMut true [(.next, ⟨some 100, none⟩), (.next, ⟨some 0, none⟩)]]

/-- seventeen pairs (two of them for stored keys), announced as seventeen: `better_to_rebuild(8, 17)` holds -/
private def exXs : Array (Item × Nat) := (Array.range 17).map (fun i => (⟨i + 7, 1⟩, 10 * i))

-- the hypotheses of `C01_step_extend_rebuild` / `C01_heal_by_extend`: after `exPre` the queue is well-formed but NOT
-- ordered, has length 8, and `better_to_rebuild(8, 17)` is true; the `extend` is legal
example : betterToRebuild 8 17 = true ∧ (Op.extend 17 exXs : Op Nat).Legal :=
  ⟨by decide +kernel, (by decide +kernel : 17 ≤ exXs.size ∧ exXs.size < capLimit)⟩
example : hist_okR (run (Q.new .pq) exPre) (fun r => r.1.s.WF ∧ ¬ MaxQ.Inv r.1.s ∧ r.1.s.size = 8) := by decide +kernel
-- (the `DoublePriorityQueue` is disordered as well: `peek_max` reports the entry whose priority was overwritten by `0`)
example : hist_okR (run (Q.new .dpq) exPre) (fun r => r.1.s.WF ∧ r.1.s.size = 8 ∧ r.1.s.abs 2 = some (⟨2, 0⟩, 0) ∧
    hist_okR (DQ.peekMin r.1.s) (fun e => e = some (⟨4, 0⟩, 1))) := by decide +kernel
-- … and the conclusion, evaluated: the rebuilding `extend` heals both kinds
example : hist_okR (run (Q.new .pq) (exPre ++ [.extend 17 exXs, .popFront])) (fun r => MaxQ.Inv r.1.s ∧
    r.1.s.size = 22 ∧ r.1.s.abs 7 = some (⟨7, 0⟩, 0) ∧ r.1.s.abs 8 = some (⟨8, 0⟩, 10) ∧
    MaxQ.peek r.1.s = some (⟨22, 1⟩, 150)) := by decide +kernel
example : hist_okR (run (Q.new .dpq) (exPre ++ [.extend 17 exXs])) (fun r => r.1.s.WF ∧ r.1.s.size = 23 ∧
    hist_okR (DQ.peekMin r.1.s) (fun e => e = some (⟨2, 0⟩, 0)) ∧
    hist_okR (DQ.peekMax r.1.s) (fun e => e.2 = some (⟨23, 1⟩, 160))) := by decide +kernel
-- the push strategy (`lo = 0`) does NOT heal: `C01_rebuildsAt` is state- and hint-dependent for a reason
example : hist_okR (run (Q.new .pq) (exPre ++ [.extend 0 #[(⟨20, 0⟩, 4)]])) (fun r => r.1.s.WF ∧ ¬ MaxQ.Inv r.1.s) := by
  decide +kernel

/-- an extended history: operations, a `clone_from` of a `DoublePriorityQueue` built elsewhere, more operations -/
private def exEvs : List (Ev Nat) :=
  [.op (.push ⟨1, 0⟩ 5), .op (.push ⟨2, 0⟩ 9), .replace ⟨.dpq, DQ.exQ⟩, .op .popBack, .op (.iterMut true [(.next, ⟨none, some 1⟩)]),
   .op (.push ⟨1, 7⟩ 0)]

example : ∀ ev ∈ exEvs, ev.Good := by
  intro ev h
  simp only [exEvs, List.mem_cons, List.not_mem_nil, or_false] at h
  rcases h with h | h | h | h | h | h <;> subst h <;> first | exact ⟨trivial, rfl⟩ | exact (DQ.exQ_inv : DQ.Inv DQ.exQ)
example : hist_okR (runEv (Q.new .pq) exEvs) (fun r => r.1.kind = .dpq ∧ r.1.s.WF ∧ r.1.s.size = 7 ∧ r.2.length = 6 ∧
    r.1.s.abs 8 = none ∧ hist_okR (DQ.peekMin r.1.s) (fun e => e = some (⟨1, 1⟩, 0))) := by decide +kernel

end Examples

end PQ

#print axioms PQ.C01_step_harmless_leak
#print axioms PQ.C01_step_inv
#print axioms PQ.C01_run_inv
#print axioms PQ.C01_reach_harmless_leaks
#print axioms PQ.C02_reach_harmless_leaks
#print axioms PQ.C01_reach_of_harmless
#print axioms PQ.C01_step_extend_rebuild
#print axioms PQ.C01_step_rebuildAt
#print axioms PQ.C01_heal_by_extend
#print axioms PQ.C01_heal_at
#print axioms PQ.C01_runEv_ops
#print axioms PQ.C01_reach_with_replacements
#print axioms PQ.C01_reach_clone_from
