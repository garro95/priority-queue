import PQ.Lemmas.Cost
/-!
# C05 — comparison counts

"On a queue of n elements push, pop (either end), pop_if, change_priority, change_priority_by, push_increase,
push_decrease and remove perform a number of priority comparisons bounded by a constant multiple of log2(n) plus a
constant; peek, peek_min, len and the lookups perform none and peek_max at most one.  The bulk operations that
re-establish order (construction from a vector or iterator, append, retain, dropping iter_mut, conversions) perform
O(n) comparisons."

The ghost field `Store.ticks` is incremented by the model exactly where the Rust code calls `Ord::cmp` on two
priorities.  Every theorem below has the form

  *for every store `s` and all arguments, if the operation returns `.ok (s', _)` then
  `s'.ticks ≤ s.ticks + <explicit bound in Nat.log2 / size>`*.

No well-formedness is assumed.  The only hypothesis that appears (for `push`, `push_increase`, `push_decrease`,
`change_priority`, `change_priority_by`, and the per-element strategy of `extend`) is `s.QpLt` — "every position
recorded in the `qp` table is below `size`" — which is one clause of `Store.WF` (`Store.WF.qpLt`): these operations
start their sift-up at the *recorded* position of an existing item, and on an arbitrary (ill-formed) store that
position could be arbitrarily deep.  The general forms (`UpCosts.push`, `UpCosts.changePriority`, …: bound
`log2 N + 2 * log2 size` with `N` any bound on the recorded positions) are in `PQ/Lemmas/Cost.lean`.

`n` below is `s.size` *before* the operation unless stated otherwise.
-/
namespace PQ
open Arith

/-- a small well-formed max-heap (priorities 9, 5, 3 at positions 0, 1, 2) used for the non-vacuity examples -/
def C05.s3 : Store Nat :=
  { map := #[(⟨1, 0⟩, 5), (⟨2, 0⟩, 3), (⟨3, 0⟩, 9)], heap := #[2, 0, 1], qp := #[1, 2, 0], size := 3 }

theorem C05.s3_qpLt : C05.s3.QpLt := Store.qpLt_of_all (by decide +kernel)

/-- the hypothesis `QpLt` of the theorems below is a consequence of the standing invariant `WF` -/
theorem C05_qpLt_of_WF {P : Type} {s : Store P} (h : s.WF) : s.QpLt := h.qpLt

/-- the comparison count of a successful run (for the examples) -/
def C05.ticksOf {P α : Type} (x : R (Store P × α)) : Option Nat := x.toOption.map (·.1.ticks)
def C05.ticksOf' {P : Type} (x : R (Store P)) : Option Nat := x.toOption.map (·.ticks)

section PQ
variable {P : Type} [LT P] [DecidableLT P]
open C05

/-! ## `PriorityQueue` (binary max-heap) -/

/-- `push`: at most `3 * log2 (n + 1)` comparisons (a new item: at most `log2 (n + 1)`, see `UpCosts.push`) -/
theorem C05_pq_push {s s' : Store P} {it : Item} {p : P} {r : Option P} (hq : s.QpLt)
    (h : MaxQ.push s it p = .ok (s', r)) : s'.ticks ≤ s.ticks + 3 * Nat.log2 (s.size + 1) := by
  obtain ⟨a, _, c, _⟩ := MaxQ.push_cost hq h
  have := log2_mono a; omega

example : ticksOf (MaxQ.push s3 ⟨4, 0⟩ 7) = some 2 := by decide +kernel
example : ticksOf (MaxQ.push s3 ⟨2, 0⟩ 10) = some 3 := by decide +kernel

/-- `pop`: at most `2 * log2 n` comparisons (indeed `2 * log2 (n - 1)`) -/
theorem C05_pq_pop {s s' : Store P} {r : Option (Item × P)} (h : MaxQ.pop s = .ok (s', r)) :
    s'.ticks ≤ s.ticks + 2 * Nat.log2 s.size := by
  obtain ⟨a, b⟩ := MaxQ.pop_cost h
  have := log2_mono (show s'.size ≤ s.size by omega); omega

example : ticksOf (MaxQ.pop s3) = some 1 := by decide +kernel

/-- `pop_if`: at most `2 * log2 n` comparisons -/
theorem C05_pq_popIf {s s' : Store P} {f : Item → P → Bool × Item × P} {r : Option (Item × P)}
    (h : MaxQ.popIf s f = .ok (s', r)) : s'.ticks ≤ s.ticks + 2 * Nat.log2 s.size := by
  obtain ⟨a, b⟩ := MaxQ.popIf_cost h
  have := log2_mono a; omega

example : ticksOf (MaxQ.popIf s3 (fun it p => (true, it, p))) = some 1 := by decide +kernel

/-- `change_priority`: at most `3 * log2 n` comparisons -/
theorem C05_pq_changePriority {s s' : Store P} {k : Nat} {p : P} {r : Option P} (hq : s.QpLt)
    (h : MaxQ.changePriority s k p = .ok (s', r)) : s'.ticks ≤ s.ticks + 3 * Nat.log2 s.size := by
  have := (MaxQ.upCosts.changePriority hq h).2.1; omega

example : ticksOf (MaxQ.changePriority s3 2 10) = some 3 := by decide +kernel

/-- `change_priority_by`: at most `3 * log2 n` comparisons -/
theorem C05_pq_changePriorityBy {s s' : Store P} {k : Nat} {g : P → P} {r : Bool} (hq : s.QpLt)
    (h : MaxQ.changePriorityBy s k g = .ok (s', r)) : s'.ticks ≤ s.ticks + 3 * Nat.log2 s.size := by
  have := (MaxQ.upCosts.changePriorityBy hq h).2.1; omega

example : ticksOf (MaxQ.changePriorityBy s3 3 (fun _ => 0)) = some 2 := by decide +kernel

/-- `remove`: at most `3 * log2 n` comparisons; no hypothesis at all (`remove` checks the position itself) -/
theorem C05_pq_remove {s s' : Store P} {k : Nat} {r : Option (Item × P)}
    (h : MaxQ.remove s k = .ok (s', r)) : s'.ticks ≤ s.ticks + 3 * Nat.log2 s.size := by
  obtain ⟨a, b⟩ := MaxQ.upCosts.remove h
  have := log2_mono a; omega

example : ticksOf (MaxQ.remove s3 3) = some 1 := by decide +kernel

/-- `push_increase`: one comparison with the stored priority, then possibly a `push` -/
theorem C05_pq_pushIncrease {s s' : Store P} {it : Item} {p : P} {r : Option P} (hq : s.QpLt)
    (h : MaxQ.pushIncrease s it p = .ok (s', r)) : s'.ticks ≤ s.ticks + 3 * Nat.log2 (s.size + 1) + 1 := by
  obtain ⟨a, _, c⟩ := PushCosts.or_tick (push := MaxQ.push) (f := fun n => 3 * Nat.log2 n) MaxQ.push_cost
    (c := fun q => q < p) hq h
  have := log2_mono a; omega

example : ticksOf (MaxQ.pushIncrease s3 ⟨2, 0⟩ 10) = some 4 := by decide +kernel

/-- `push_decrease`: one comparison with the stored priority, then possibly a `push` -/
theorem C05_pq_pushDecrease {s s' : Store P} {it : Item} {p : P} {r : Option P} (hq : s.QpLt)
    (h : MaxQ.pushDecrease s it p = .ok (s', r)) : s'.ticks ≤ s.ticks + 3 * Nat.log2 (s.size + 1) + 1 := by
  obtain ⟨a, _, c⟩ := PushCosts.or_tick (push := MaxQ.push) (f := fun n => 3 * Nat.log2 n) MaxQ.push_cost
    (c := fun q => p < q) hq h
  have := log2_mono a; omega

example : ticksOf (MaxQ.pushDecrease s3 ⟨3, 0⟩ 1) = some 3 := by decide +kernel

/-- `peek`, `len`, `is_empty`, `get`, `get_priority` are pure reads: in the model they have no store in their result
type (so there is no counter they could advance) and their value does not depend on the counter; `peek_mut` and
`get_mut` (with the caller's write) return a store whose counter is unchanged. -/
theorem C05_pq_peek_free (s : Store P) (k : Nat) :
    MaxQ.peek (s.tick k) = MaxQ.peek s ∧ (s.tick k).len = s.len ∧ (s.tick k).isEmpty = s.isEmpty ∧
    (∀ key, (s.tick k).get key = s.get key) ∧ (∀ key, (s.tick k).getPriority key = s.getPriority key) ∧
    (∀ w s' r, MaxQ.peekMutWrite s w = .ok (s', r) → s'.ticks = s.ticks) ∧
    (∀ key w, (s.getMutWrite key w).1.ticks = s.ticks) := by
  exact ⟨rfl, rfl, rfl, fun _ => rfl, fun _ => rfl, fun w s' r h => (MaxQ.peekMutWrite_cost h).1,
    s.getMutWrite_cost⟩

example : MaxQ.peek s3 = some (⟨3, 0⟩, 9) := by decide +kernel

/-- **`heap_build` is linear** (this is also what dropping `iter_mut` runs): at most `2 * n` comparisons -/
theorem C05_pq_heapBuild_linear {s s' : Store P} (h : MaxQ.heapBuild s = .ok s') :
    s'.ticks ≤ s.ticks + 2 * s.size := (MaxQ.heapBuild_cost h).2

example : ticksOf' (MaxQ.heapBuild { s3 with heap := #[1, 0, 2], qp := #[1, 0, 2] }) = some 2 := by decide +kernel

/-- **the bulk operations are linear**: `from_vec`, `from_iter`, deserialisation (at most `2 * len` comparisons, `len` the
length of the input), `retain`/`retain_mut` and `append` (at most `2 * (final size)`), the conversion from the other
queue type (`2 * n`), and `extend` when it chooses to rebuild (`2 * (final size)`).  For `append` the counter of the
result starts from that of the larger of the two queues (they are swapped first), hence the `max`. -/
theorem C05_pq_bulk_linear :
    (∀ (v : Array (Item × P)) (s' : Store P), MaxQ.fromVec v = .ok s' → s'.ticks ≤ 2 * s'.size ∧ s'.ticks ≤ 2 * v.size) ∧
    (∀ (lo : Nat) (v : Array (Item × P)) (s' : Store P), MaxQ.fromIter lo v = .ok s' → s'.ticks ≤ 2 * s'.size ∧ s'.ticks ≤ 2 * v.size) ∧
    (∀ (hint : Option Nat) (v : Array (Item × P)) (s' : Store P), MaxQ.deserialize hint v = .ok s' → s'.ticks ≤ 2 * s'.size ∧ s'.ticks ≤ 2 * v.size) ∧
    (∀ (s s' : Store P) f, MaxQ.retainMut s f = .ok s' → s'.ticks ≤ s.ticks + 2 * s'.size) ∧
    (∀ (s s' : Store P), MaxQ.ofStore s = .ok s' → s'.ticks ≤ s.ticks + 2 * s.size) ∧
    (∀ (s o s' o' : Store P), MaxQ.append s o = .ok (s', o') → s'.ticks ≤ max s.ticks o.ticks + 2 * s'.size) ∧
    (∀ (s s' : Store P) xs, MaxQ.heapBuild (s.extend xs) = .ok s' →
        s'.ticks ≤ s.ticks + 2 * s'.size ∧ s'.size ≤ s.size + xs.size) := by
  obtain ⟨a, b, c, d⟩ := Rebuilds.bulk (hb := MaxQ.heapBuild (P := P)) MaxQ.heapBuild_cost
  exact ⟨a, fun lo v s' h => b v s' (MaxQ.fromIter_eq_ok.1 h).2,
    fun hint v s' h => c v s' (MaxQ.deserialize_eq hint v ▸ h), d⟩

example : ticksOf' (MaxQ.fromVec #[((⟨1, 0⟩ : Item), 5), (⟨2, 0⟩, 3), (⟨3, 0⟩, 9), (⟨4, 0⟩, 7)]) = some 3 := by
  decide +kernel

/-- `extend` as a whole: linear when it rebuilds, at most `k * 3 * log2 (final size)` when it pushes its `k` elements
one by one -/
theorem C05_pq_extend {s s' : Store P} {lo : Nat} {xs : Array (Item × P)} (hq : s.QpLt)
    (h : MaxQ.extend s lo xs = .ok s') :
    s'.ticks ≤ s.ticks + max (2 * s'.size) (xs.size * (3 * Nat.log2 s'.size)) := (MaxQ.extend_cost hq h).2

example : ticksOf' (MaxQ.extend s3 2 #[((⟨4, 0⟩ : Item), 7), (⟨5, 0⟩, 1)]) = some 3 := by decide +kernel

end PQ

section DPQ
variable {P : Type} [LT P] [DecidableLT P]
open C05

/-! ## `DoublePriorityQueue` (min-max heap)

One round of trickle-down costs at most 7 comparisons (at most 5 to select among the ≤ 6 candidates, one against
the node, one against the parent of the grandchild) and descends two levels; one round of bubble-up costs one
comparison and climbs two levels.  The sharper forms `7 * ((log2 n + 1) / 2)` etc. are in `PQ/Lemmas/Cost.lean`
(`DQ.heapify_cost_log`, `DQ.upHeapify_cost`, `DQ.popMin_cost`, …); below they are rounded to `c1 * log2 n + c2`. -/

/-- a small well-formed min-max heap: priorities 1 | 9 8 | 3 5 4 at positions 0..5 -/
def C05.d6 : Store Nat :=
  { map := #[(⟨1, 0⟩, 1), (⟨2, 0⟩, 9), (⟨3, 0⟩, 8), (⟨4, 0⟩, 3), (⟨5, 0⟩, 5), (⟨6, 0⟩, 4)],
    heap := #[0, 1, 2, 3, 4, 5], qp := #[0, 1, 2, 3, 4, 5], size := 6 }

theorem C05.d6_qpLt : C05.d6.QpLt := Store.qpLt_of_all (by decide +kernel)

/-- `push`: at most `8 * log2 (n + 1) + 8` comparisons (a new item: at most `log2 (n + 1) / 2 + 1`) -/
theorem C05_dpq_push {s s' : Store P} {it : Item} {p : P} {r : Option P} (hq : s.QpLt)
    (h : DQ.push s it p = .ok (s', r)) : s'.ticks ≤ s.ticks + 8 * Nat.log2 (s.size + 1) + 8 := by
  obtain ⟨a, _, c, _⟩ := DQ.push_cost hq h
  have := log2_mono a; omega

example : ticksOf (DQ.push d6 ⟨7, 0⟩ 0) = some 2 := by decide +kernel
example : ticksOf (DQ.push d6 ⟨4, 0⟩ 10) = some 3 := by decide +kernel

/-- `pop_min`: at most `4 * log2 n + 4` comparisons (sharp form: `7 * ((log2 (n - 1) + 1) / 2)`) -/
theorem C05_dpq_popMin {s s' : Store P} {r : Option (Item × P)} (h : DQ.popMin s = .ok (s', r)) :
    s'.ticks ≤ s.ticks + 4 * Nat.log2 s.size + 4 := by
  obtain ⟨a, b⟩ := DQ.popMin_cost h
  have := log2_mono (show s'.size ≤ s.size by omega); omega

example : ticksOf (DQ.popMin d6) = some 5 := by decide +kernel

/-- `pop_max`: at most `4 * log2 n + 5` comparisons (one of them in `find_max`) -/
theorem C05_dpq_popMax {s s' : Store P} {r : Option (Item × P)} (h : DQ.popMax s = .ok (s', r)) :
    s'.ticks ≤ s.ticks + 4 * Nat.log2 s.size + 5 := by
  obtain ⟨a, b⟩ := DQ.popMax_cost h
  have := log2_mono (show s'.size ≤ s.size by omega); omega

example : ticksOf (DQ.popMax d6) = some 3 := by decide +kernel

/-- `pop_min_if`: at most `4 * log2 n + 4` comparisons -/
theorem C05_dpq_popMinIf {s s' : Store P} {f : Item → P → Bool × Item × P} {r : Option (Item × P)}
    (h : DQ.popMinIf s f = .ok (s', r)) : s'.ticks ≤ s.ticks + 4 * Nat.log2 s.size + 4 := by
  obtain ⟨a, b⟩ := DQ.popMinIf_cost h
  have := log2_mono a; omega

example : ticksOf (DQ.popMinIf d6 (fun it p => (true, it, p))) = some 5 := by decide +kernel

/-- `pop_max_if`: at most `7 * log2 n + 9` comparisons (`find_max`, then a full `up_heapify`) -/
theorem C05_dpq_popMaxIf {s s' : Store P} {f : Item → P → Bool × Item × P} {r : Option (Item × P)}
    (h : DQ.popMaxIf s f = .ok (s', r)) : s'.ticks ≤ s.ticks + 7 * Nat.log2 s.size + 9 := by
  obtain ⟨a, b⟩ := DQ.popMaxIf_cost h
  have := log2_mono a; omega

example : ticksOf (DQ.popMaxIf d6 (fun it p => (true, it, p))) = some 4 := by decide +kernel

/-- `change_priority`: at most `8 * log2 n + 8` comparisons -/
theorem C05_dpq_changePriority {s s' : Store P} {k : Nat} {p : P} {r : Option P} (hq : s.QpLt)
    (h : DQ.changePriority s k p = .ok (s', r)) : s'.ticks ≤ s.ticks + 8 * Nat.log2 s.size + 8 := by
  have := (DQ.upCosts.changePriority hq h).2.1; omega

example : ticksOf (DQ.changePriority d6 1 7) = some 6 := by decide +kernel

/-- `change_priority_by`: at most `8 * log2 n + 8` comparisons -/
theorem C05_dpq_changePriorityBy {s s' : Store P} {k : Nat} {g : P → P} {r : Bool} (hq : s.QpLt)
    (h : DQ.changePriorityBy s k g = .ok (s', r)) : s'.ticks ≤ s.ticks + 8 * Nat.log2 s.size + 8 := by
  have := (DQ.upCosts.changePriorityBy hq h).2.1; omega

example : ticksOf (DQ.changePriorityBy d6 1 (fun x => x + 6)) = some 6 := by decide +kernel

/-- `remove`: at most `8 * log2 n + 8` comparisons; no hypothesis at all -/
theorem C05_dpq_remove {s s' : Store P} {k : Nat} {r : Option (Item × P)}
    (h : DQ.remove s k = .ok (s', r)) : s'.ticks ≤ s.ticks + 8 * Nat.log2 s.size + 8 := by
  obtain ⟨a, b⟩ := DQ.upCosts.remove h
  have := log2_mono a; omega

example : ticksOf (DQ.remove d6 2) = some 3 := by decide +kernel

/-- `push_increase`: one comparison with the stored priority, then possibly a `push` -/
theorem C05_dpq_pushIncrease {s s' : Store P} {it : Item} {p : P} {r : Option P} (hq : s.QpLt)
    (h : DQ.pushIncrease s it p = .ok (s', r)) : s'.ticks ≤ s.ticks + 8 * Nat.log2 (s.size + 1) + 9 := by
  obtain ⟨a, _, c⟩ := PushCosts.or_tick (push := DQ.push) (f := fun n => 8 * Nat.log2 n + 8) DQ.push_cost
    (c := fun q => q < p) hq h
  have := log2_mono a; omega

example : ticksOf (DQ.pushIncrease d6 ⟨4, 0⟩ 10) = some 4 := by decide +kernel

/-- `push_decrease`: one comparison with the stored priority, then possibly a `push` -/
theorem C05_dpq_pushDecrease {s s' : Store P} {it : Item} {p : P} {r : Option P} (hq : s.QpLt)
    (h : DQ.pushDecrease s it p = .ok (s', r)) : s'.ticks ≤ s.ticks + 8 * Nat.log2 (s.size + 1) + 9 := by
  obtain ⟨a, _, c⟩ := PushCosts.or_tick (push := DQ.push) (f := fun n => 8 * Nat.log2 n + 8) DQ.push_cost
    (c := fun q => p < q) hq h
  have := log2_mono a; omega

example : ticksOf (DQ.pushDecrease d6 ⟨2, 0⟩ 0) = some 9 := by decide +kernel

/-- `peek_min`, `len`, `is_empty`, `get`, `get_priority` are pure reads (no store in their result type, value independent
of the counter); `peek_min_mut` and `get_mut` return a store with the counter unchanged. -/
theorem C05_dpq_peek_free (s : Store P) (k : Nat) :
    DQ.peekMin (s.tick k) = DQ.peekMin s ∧ (s.tick k).len = s.len ∧ (s.tick k).isEmpty = s.isEmpty ∧
    (∀ key, (s.tick k).get key = s.get key) ∧ (∀ key, (s.tick k).getPriority key = s.getPriority key) ∧
    (∀ w s' r, DQ.peekMinMutWrite s w = .ok (s', r) → s'.ticks = s.ticks) ∧
    (∀ key w, (s.getMutWrite key w).1.ticks = s.ticks) := by
  exact ⟨rfl, rfl, rfl, fun _ => rfl, fun _ => rfl, fun w s' r h => (DQ.peekMinMutWrite_cost h).1,
    s.getMutWrite_cost⟩

example : (DQ.peekMin d6).toOption = some (some (⟨1, 0⟩, 1)) := by decide +kernel

/-- `peek_max` (and `peek_max_mut`): at most one comparison -/
theorem C05_dpq_peekMax_le_one {s s' : Store P} {r : Option (Item × P)} :
    (DQ.peekMax s = .ok (s', r) → s'.ticks ≤ s.ticks + 1) ∧
    (∀ w, DQ.peekMaxMutWrite s w = .ok (s', r) → s'.ticks ≤ s.ticks + 1) :=
  ⟨fun h => (DQ.peekMax_cost h).2, fun _ h => (DQ.peekMaxMutWrite_cost h).1⟩

example : ticksOf (DQ.peekMax d6) = some 1 := by decide +kernel

/-- **`heap_build` of the min-max heap is linear** (also what dropping `iter_mut` runs): at most `7 * n` comparisons -/
theorem C05_dpq_heapBuild_linear {s s' : Store P} (h : DQ.heapBuild s = .ok s') :
    s'.ticks ≤ s.ticks + 7 * s.size := (DQ.heapBuild_cost h).2

example : ticksOf' (DQ.heapBuild { d6 with heap := #[5, 4, 3, 2, 1, 0], qp := #[5, 4, 3, 2, 1, 0] }) = some 9 := by
  decide +kernel

/-- **the bulk operations are linear** (same list as for `PriorityQueue`, constant 7 instead of 2) -/
theorem C05_dpq_bulk_linear :
    (∀ (v : Array (Item × P)) (s' : Store P), DQ.fromVec v = .ok s' → s'.ticks ≤ 7 * s'.size ∧ s'.ticks ≤ 7 * v.size) ∧
    (∀ (lo : Nat) (v : Array (Item × P)) (s' : Store P), DQ.fromIter lo v = .ok s' → s'.ticks ≤ 7 * s'.size ∧ s'.ticks ≤ 7 * v.size) ∧
    (∀ (hint : Option Nat) (v : Array (Item × P)) (s' : Store P), DQ.deserialize hint v = .ok s' → s'.ticks ≤ 7 * s'.size ∧ s'.ticks ≤ 7 * v.size) ∧
    (∀ (s s' : Store P) f, DQ.retainMut s f = .ok s' → s'.ticks ≤ s.ticks + 7 * s'.size) ∧
    (∀ (s s' : Store P), DQ.ofStore s = .ok s' → s'.ticks ≤ s.ticks + 7 * s.size) ∧
    (∀ (s o s' o' : Store P), DQ.append s o = .ok (s', o') → s'.ticks ≤ max s.ticks o.ticks + 7 * s'.size) ∧
    (∀ (s s' : Store P) xs, DQ.heapBuild (s.extend xs) = .ok s' →
        s'.ticks ≤ s.ticks + 7 * s'.size ∧ s'.size ≤ s.size + xs.size) := by
  obtain ⟨a, b, c, d⟩ := Rebuilds.bulk (hb := DQ.heapBuild (P := P)) DQ.heapBuild_cost
  exact ⟨a, fun lo v s' h => b v s' (DQ.fromIter_eq_ok.1 h).2,
    fun hint v s' h => c v s' (DQ.deserialize_eq hint v ▸ h), d⟩

example : ticksOf' (DQ.fromVec #[((⟨1, 0⟩ : Item), 5), (⟨2, 0⟩, 3), (⟨3, 0⟩, 9), (⟨4, 0⟩, 7)]) = some 5 := by
  decide +kernel

/-- `extend` as a whole: linear when it rebuilds, at most `k * (8 * log2 (final size) + 8)` when it pushes its `k`
elements one by one -/
theorem C05_dpq_extend {s s' : Store P} {lo : Nat} {xs : Array (Item × P)} (hq : s.QpLt)
    (h : DQ.extend s lo xs = .ok s') :
    s'.ticks ≤ s.ticks + max (7 * s'.size) (xs.size * (8 * Nat.log2 s'.size + 8)) := (DQ.extend_cost hq h).2

example : ticksOf' (DQ.extend d6 2 #[((⟨7, 0⟩ : Item), 7), (⟨8, 0⟩, 0)]) = some 4 := by decide +kernel

end DPQ
end PQ

#print axioms PQ.C05_pq_push
#print axioms PQ.C05_pq_pop
#print axioms PQ.C05_pq_popIf
#print axioms PQ.C05_pq_changePriority
#print axioms PQ.C05_pq_changePriorityBy
#print axioms PQ.C05_pq_remove
#print axioms PQ.C05_pq_pushIncrease
#print axioms PQ.C05_pq_pushDecrease
#print axioms PQ.C05_pq_peek_free
#print axioms PQ.C05_pq_heapBuild_linear
#print axioms PQ.C05_pq_bulk_linear
#print axioms PQ.C05_pq_extend
#print axioms PQ.C05_dpq_push
#print axioms PQ.C05_dpq_popMin
#print axioms PQ.C05_dpq_popMax
#print axioms PQ.C05_dpq_popMinIf
#print axioms PQ.C05_dpq_popMaxIf
#print axioms PQ.C05_dpq_changePriority
#print axioms PQ.C05_dpq_changePriorityBy
#print axioms PQ.C05_dpq_remove
#print axioms PQ.C05_dpq_pushIncrease
#print axioms PQ.C05_dpq_pushDecrease
#print axioms PQ.C05_dpq_peek_free
#print axioms PQ.C05_dpq_peekMax_le_one
#print axioms PQ.C05_dpq_heapBuild_linear
#print axioms PQ.C05_dpq_bulk_linear
#print axioms PQ.C05_dpq_extend
