import PQ.Props.C10
import PQ.Lemmas.BulkProps
/-!
# C10 (addition) — after `append`, crashed or not, the caller still holds a usable OTHER queue

`a.append(&mut b)` takes the second queue by `&mut`: when the call returns — or when a panic of `Ord::cmp` inside it is
caught — the caller holds BOTH queues.  `C10.lean` speaks about the receiver (the queue `stepF` reports).  This file is
about the other one.

```rust
// store.rs
pub fn append(&mut self, other: &mut Self) {
    if other.size > self.size { std::mem::swap(self, other); }
    if other.size == 0 { return; }
    for (k, v) in other.drain() { if !self.map.contains_key(&k) { … push … } }
}
// priority_queue/mod.rs, double_priority_queue/mod.rs
pub fn append(&mut self, other: &mut Self) { self.store.append(&mut other.store); self.heap_build(); }
```

`Store::append` compares no priorities: it runs to completion before `heap_build` — the only part of `append` that calls
user code (`Ord::cmp`) — starts.  So at EVERY crash point of `append` the other queue's store is already
`(Store.append s o).2` (`Store.append` returns the pair *(new self, new other)*): the smaller of the two stores, untouched if
its `size` is `0`, drained (`Store::drain` resets the tables and the size before the map's drain iterator exists) otherwise.

* `C10_append_other_wf` — `(s.append o).2` is well-formed;
* `C10_append_other_eq`, `C10_append_other_empty` — which store it is exactly, and that it is empty;
* `C10_append_other_pq` / `C10_append_other_dq` — a normal return `.ok (s', o')` of `MaxQ.append` / `DQ.append` has
  `o' = (s.append o).2`, well-formed and empty;
* `C10_appendF_other_pq` / `C10_appendF_other_dq` — the fused twins, EVERY fuse.  The twins `Crash.MaxQ.appendF` /
  `Crash.DQ.appendF` do **not** expose the other store on a crash (`Stop.crashed s'` carries the receiver's store only), so
  the crashed case cannot be stated about a component of their result.  It is stated like this instead: the other store is
  `(s.append o).2` — a term in which `fuse` does not occur, which is what the twin's text says: `let (s, o) := s.append o`
  comes before the fused rebuild, and a normal return hands back exactly that `o` — and the theorem gives, for every fuse,
  its well-formedness and emptiness TOGETHER with the dichotomy "normal return with this other / crash with a well-formed
  receiver";
* `C10_append_crash_both_usable` — the same for the operation `Op.append o` of the alphabet (`stepF`), with the
  continuation: from the other queue every legal history (leaked guards included) runs without fault, and so it does from
  the receiver (by `C10_crash_then_any_history`).
-/
namespace PQ
open PQ.Crash

section Plain
variable {P : Type}

/-- **the other queue after `Store::append`** is well-formed (whichever of the two stores it is after the possible swap) -/
theorem C10_append_other_wf (s o : Store P) (ho : o.WF) (hs : s.WF) : ((s.append o).2).WF :=
  Store.wf_append_snd hs ho

/-- **which store it is**: the smaller of the two (the argument, or — after `mem::swap`, when the argument is strictly
longer — the old receiver); untouched when its size is `0`, cleared (`drain`) otherwise.  No hypothesis. -/
theorem C10_append_other_eq (s o : Store P) :
    (s.append o).2 =
      if o.size > s.size then (if s.size = 0 then s else s.clear) else (if o.size = 0 then o else o.clear) := by
  rw [Store.append_eq]
  unfold Store.appendOrder
  by_cases h : o.size > s.size
  · rw [if_pos h, if_pos h]
    by_cases h0 : s.size = 0
    · rw [if_pos h0, if_pos h0]
    · rw [if_neg h0, if_neg h0]; rfl
  · rw [if_neg h, if_neg h]
    by_cases h0 : o.size = 0
    · rw [if_pos h0, if_pos h0]
    · rw [if_neg h0, if_neg h0]; rfl

/-- **it is empty**: map, both index tables and the size counter -/
theorem C10_append_other_empty (s o : Store P) (ho : o.WF) (hs : s.WF) :
    (s.append o).2.map = #[] ∧ (s.append o).2.heap = #[] ∧ (s.append o).2.qp = #[] ∧ (s.append o).2.size = 0 := by
  obtain ⟨h1, h2, h3, h4, _⟩ := Store.append_snd_tables hs ho
  exact ⟨h1, h2, h3, h4⟩

end Plain

variable {P : Type} [LT P] [DecidableLT P] [LE P] [Std.IsLinearPreorder P] [Std.LawfulOrderLT P]

omit [LE P] [Std.IsLinearPreorder P] [Std.LawfulOrderLT P] in
/-- **`PriorityQueue::append`, normal return**: the other queue handed back is `(s.append o).2`: well-formed and empty.
(That a normal return exists: `C07_append`.) -/
theorem C10_append_other_pq {s o s' o' : Store P} (hs : s.WF) (ho : o.WF) (h : MaxQ.append s o = .ok (s', o')) :
    o' = (s.append o).2 ∧ o'.WF ∧ o'.map = #[] ∧ o'.heap = #[] ∧ o'.qp = #[] ∧ o'.size = 0 := by
  obtain ⟨t, _, ht⟩ := bind_eq_ok.1
    (show (MaxQ.heapBuild (s.append o).1 >>= fun s' => pure (s', (s.append o).2)) = .ok (s', o') from h)
  cases ht
  exact ⟨rfl, C10_append_other_wf s o ho hs, C10_append_other_empty s o ho hs⟩

omit [LE P] [Std.IsLinearPreorder P] [Std.LawfulOrderLT P] in
/-- **`DoublePriorityQueue::append`, normal return** -/
theorem C10_append_other_dq {s o s' o' : Store P} (hs : s.WF) (ho : o.WF) (h : DQ.append s o = .ok (s', o')) :
    o' = (s.append o).2 ∧ o'.WF ∧ o'.map = #[] ∧ o'.heap = #[] ∧ o'.qp = #[] ∧ o'.size = 0 := by
  obtain ⟨t, _, ht⟩ := bind_eq_ok.1
    (show (DQ.heapBuild (s.append o).1 >>= fun s' => pure (s', (s.append o).2)) = .ok (s', o') from h)
  cases ht
  exact ⟨rfl, C10_append_other_wf s o ho hs, C10_append_other_empty s o ho hs⟩

/-- **`PriorityQueue::append` with a panicking comparison, every crash point** (`fuse` arbitrary).  The other queue is
`(s.append o).2` whatever the fuse (the store-level append is complete before the first comparison): it is well-formed and
empty; and the call either returns normally — then the twin's result is the plain result, its second component is this
very store — or crashes into a well-formed receiver holding the union.  (The twin reports only the receiver on a crash:
see the header.) -/
theorem C10_appendF_other_pq (fuse : Nat) {s o : Store P} (hs : s.WF) (ho : o.WF) :
    ((s.append o).2).WF ∧
    ((s.append o).2.map = #[] ∧ (s.append o).2.heap = #[] ∧ (s.append o).2.qp = #[] ∧ (s.append o).2.size = 0) ∧
    ((∃ s', Crash.MaxQ.appendF fuse s o = .ok (s', (s.append o).2) ∧ MaxQ.append s o = .ok (s', (s.append o).2) ∧
        s'.WF) ∨
     (∃ s', Crash.MaxQ.appendF fuse s o = .error (.crashed s') ∧ s'.WF ∧ s'.map = (s.append o).1.map)) := by
  refine ⟨C10_append_other_wf s o ho hs, C10_append_other_empty s o ho hs, ?_⟩
  obtain ⟨t, h1, h2, _⟩ := MaxQ.heapBuild_safe (Store.wf_append_fst hs ho)
  have hp : MaxQ.append s o = .ok (t, (s.append o).2) := by rw [MaxQ.append_eval, h1]; rfl
  rcases (cr_pq_appendF fuse hs ho).cases hp with h | ⟨s', h, hw, hm⟩
  · exact .inl ⟨t, h, hp, h2⟩
  · exact .inr ⟨s', h, hw, hm⟩

/-- **`DoublePriorityQueue::append` with a panicking comparison, every crash point** -/
theorem C10_appendF_other_dq (fuse : Nat) {s o : Store P} (hs : s.WF) (ho : o.WF) :
    ((s.append o).2).WF ∧
    ((s.append o).2.map = #[] ∧ (s.append o).2.heap = #[] ∧ (s.append o).2.qp = #[] ∧ (s.append o).2.size = 0) ∧
    ((∃ s', Crash.DQ.appendF fuse s o = .ok (s', (s.append o).2) ∧ DQ.append s o = .ok (s', (s.append o).2) ∧
        s'.WF) ∨
     (∃ s', Crash.DQ.appendF fuse s o = .error (.crashed s') ∧ s'.WF ∧ s'.map = (s.append o).1.map)) := by
  refine ⟨C10_append_other_wf s o ho hs, C10_append_other_empty s o ho hs, ?_⟩
  obtain ⟨t, h1, h2, _⟩ := DQ.heapBuild_spec (Store.wf_append_fst hs ho)
  have hp : DQ.append s o = .ok (t, (s.append o).2) := by
    show (DQ.heapBuild (s.append o).1 >>= fun s' => pure (s', (s.append o).2)) = _
    rw [h1]; rfl
  rcases (cr_dq_appendF fuse hs ho).cases hp with h | ⟨s', h, hw, hm⟩
  · exact .inl ⟨t, h, hp, h2⟩
  · exact .inr ⟨s', h, hw, hm⟩

/-- **`append` as an operation of the alphabet, every crash point, both queues.**  `q` any well-formed queue of either
kind, `o` any well-formed other queue of the same kind, `fuse` arbitrary.  The OTHER queue the caller holds afterwards —
`⟨q.kind, (q.s.append o).2⟩`, the same whether `append` returned or a panic was caught — is well-formed, empty, and every
legal history from it (leaked `iter_mut` guards included) runs without any fault.  The RECEIVER: either `append` returned
(the fused operation is the plain one, reporting the other queue's four lengths as `0`), or it crashed into a well-formed
queue of the same kind holding the union, from which again every legal history runs without fault; no model fault, and
never `crashedNew`. -/
theorem C10_append_crash_both_usable (fuse : Nat) {q : Q P} {o : Store P} (hq : QWF q) (ho : o.WF) :
    (QWF ⟨q.kind, (q.s.append o).2⟩ ∧
      ((q.s.append o).2.map = #[] ∧ (q.s.append o).2.heap = #[] ∧ (q.s.append o).2.qp = #[] ∧
        (q.s.append o).2.size = 0) ∧
      ∀ ops, (∀ x ∈ ops, x.Legal) → ∃ q'' outs, run ⟨q.kind, (q.s.append o).2⟩ ops = .ok (q'', outs) ∧ QWF q'') ∧
    ((∃ s', stepF fuse q (.append o) = .ok (⟨q.kind, s'⟩, .other 0 0 0 0) ∧
        step q (.append o) = .ok (⟨q.kind, s'⟩, .other 0 0 0 0) ∧ s'.WF) ∨
     (∃ s', stepF fuse q (.append o) = .error (.crashed ⟨q.kind, s'⟩) ∧ s'.WF ∧ s'.map = (q.s.append o).1.map ∧
        ∀ ops, (∀ x ∈ ops, x.Legal) → ∃ q'' outs, run ⟨q.kind, s'⟩ ops = .ok (q'', outs) ∧ QWF q'')) := by
  obtain ⟨k, s⟩ := q
  have hs : s.WF := hq
  have hwo : QWF (⟨k, (s.append o).2⟩ : Q P) := C10_append_other_wf s o ho hs
  obtain ⟨e1, e2, e3, e4⟩ := C10_append_other_empty s o ho hs
  have hcont : ∀ {t : Store P}, t.WF → ∀ ops : List (Op P), (∀ x ∈ ops, x.Legal) →
      ∃ q'' outs, run ⟨k, t⟩ ops = .ok (q'', outs) ∧ QWF q'' := fun {t} ht => hist_continue (q := ⟨k, t⟩) ht
  refine ⟨⟨hwo, ⟨e1, e2, e3, e4⟩, hcont hwo⟩, ?_⟩
  cases k
  · rcases (C10_appendF_other_pq fuse hs ho).2.2 with ⟨s', h1, h2, h3⟩ | ⟨s', h1, h2, h3⟩
    · left
      refine ⟨s', ?_, ?_, h3⟩
      · simp only [stepF, h1, liftQ, bind, Except.bind, pure, Except.pure, e1, e2, e3, e4, Array.size_empty]
      · simp only [step, h2, bind, Except.bind, pure, Except.pure, e1, e2, e3, e4, Array.size_empty]
    · right
      refine ⟨s', ?_, h2, h3, hcont h2⟩
      simp only [stepF, h1, liftQ, bind, Except.bind]
  · rcases (C10_appendF_other_dq fuse hs ho).2.2 with ⟨s', h1, h2, h3⟩ | ⟨s', h1, h2, h3⟩
    · left
      refine ⟨s', ?_, ?_, h3⟩
      · simp only [stepF, h1, liftQ, bind, Except.bind, pure, Except.pure, e1, e2, e3, e4, Array.size_empty]
      · simp only [step, h2, bind, Except.bind, pure, Except.pure, e1, e2, e3, e4, Array.size_empty]
    · right
      refine ⟨s', ?_, h2, h3, hcont h2⟩
      simp only [stepF, h1, liftQ, bind, Except.bind]

/-! ## Non-vacuity: concrete queues (`P := Nat`), both directions of the swap, fuse off and fuse firing

`bp_exW` (5 elements, disordered) and `bp_exO` (2 elements, one key shared with `bp_exW`) are well-formed.  Whichever is
the receiver, the 2-element store ends up as the other queue, drained. -/

example : bp_exW.WF ∧ bp_exO.WF ∧ bp_exW.size = 5 ∧ bp_exO.size = 2 ∧
    (bp_exW.append bp_exO).1.size = 6 ∧ (bp_exW.append bp_exO).2.WF ∧ (bp_exW.append bp_exO).2.map = #[] ∧
    (bp_exW.append bp_exO).2.size = 0 ∧
    -- the argument is longer: `mem::swap`; the other queue handed back is the old (shorter) receiver, drained
    (bp_exO.append bp_exW).1.size = 6 ∧ (bp_exO.append bp_exW).2.WF ∧ (bp_exO.append bp_exW).2.map = #[] ∧
    (bp_exO.append bp_exW).2.heap = #[] ∧ (bp_exO.append bp_exW).2.qp = #[] ∧ (bp_exO.append bp_exW).2.size = 0 := by
  decide +kernel

/-- an other queue of size `0` is handed back untouched -/
example : (bp_exW.append (Store.empty : Store Nat)).2.WF ∧ (bp_exW.append (Store.empty : Store Nat)).1.size = 5 ∧
    ((Store.empty : Store Nat).append bp_exW).2.WF ∧ ((Store.empty : Store Nat).append bp_exW).1.size = 5 := by
  decide +kernel

/-- normal returns of both kinds: the hypothesis of `C10_append_other_pq` / `_dq` is satisfiable -/
example : bp_okR (MaxQ.append bp_exW bp_exO) (fun r => r.1.size = 6 ∧ r.2.WF ∧ r.2.size = 0) ∧
    bp_okR (DQ.append bp_exO bp_exW) (fun r => r.1.size = 6 ∧ r.2.WF ∧ r.2.size = 0) := by decide +kernel

/-- what a fused run gave: `0` = normal return, `1` = crash into a well-formed store of the given size, `2` = anything else -/
private def c10ao_kind (x : CR Nat (Store Nat × Store Nat)) (size : Nat) : Nat :=
  match x with
  | .ok r => if r.1.size = size ∧ r.2.size = 0 then 0 else 2
  | .error (.crashed s') => if s'.WF ∧ s'.size = size ∧ s'.map.size = size then 1 else 2
  | .error _ => 2

/-- the fuse really fires inside `append` (second, third comparison of the rebuild; both kinds; both directions), and
with the fuse off (or beyond the rebuild) the call returns: both disjuncts of `C10_appendF_other_*` occur -/
example : c10ao_kind (Crash.MaxQ.appendF 0 bp_exW bp_exO) 6 = 0 ∧ c10ao_kind (Crash.MaxQ.appendF 2 bp_exW bp_exO) 6 = 1 ∧
    c10ao_kind (Crash.MaxQ.appendF 3 bp_exO bp_exW) 6 = 1 ∧ c10ao_kind (Crash.MaxQ.appendF 1000 bp_exO bp_exW) 6 = 0 ∧
    c10ao_kind (Crash.DQ.appendF 0 bp_exO bp_exW) 6 = 0 ∧ c10ao_kind (Crash.DQ.appendF 2 bp_exW bp_exO) 6 = 1 ∧
    c10ao_kind (Crash.DQ.appendF 3 bp_exO bp_exW) 6 = 1 := by decide +kernel

/-- the same through `stepF`, and a continuation on BOTH queues after the crash: the other queue (empty) takes pushes and
pops, the crashed receiver pops all its 6 elements -/
example :
    (match stepF 2 (⟨.pq, bp_exW⟩ : Q Nat) (.append bp_exO) with
     | .error (.crashed q') => decide (q'.kind = .pq ∧ q'.s.WF ∧ q'.s.size = 6 ∧
         bp_okR (run q' [.popFront, .popFront, .popFront, .popFront, .popFront, .popFront, .popFront])
           (fun r => r.1.s.WF ∧ r.1.s.size = 0))
     | _ => false) = true ∧
    bp_okR (run (⟨.pq, (bp_exW.append bp_exO).2⟩ : Q Nat) [.push ⟨7, 0⟩ 3, .push ⟨8, 0⟩ 9, .popFront, .push ⟨7, 1⟩ 4])
      (fun r => r.1.s.WF ∧ r.1.s.size = 1) := by
  decide +kernel

end PQ

#print axioms PQ.C10_append_other_wf
#print axioms PQ.C10_append_other_eq
#print axioms PQ.C10_append_other_empty
#print axioms PQ.C10_append_other_pq
#print axioms PQ.C10_append_other_dq
#print axioms PQ.C10_appendF_other_pq
#print axioms PQ.C10_appendF_other_dq
#print axioms PQ.C10_append_crash_both_usable

