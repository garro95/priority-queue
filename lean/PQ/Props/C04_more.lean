import PQ.Props.C04
import PQ.Props.C07
import PQ.Lemmas.SortedWF
/-!
# C04 / C07, supplements: sorted consumption after any history; the capacity theorems for LEGAL lower bounds only

## (a) Sorted consumption after any history

`C04_from_any_wf` leaves a well-formed — possibly disordered (leaked `iter_mut` guard) — queue after every legal history;
the `swf_*` lemmas of `PQ/Lemmas/SortedWF.lean` show that the consuming sorted methods (`into_sorted_vec`,
`into_ascending_sorted_vec`, `into_descending_sorted_vec`: they pop until empty, through the unchecked sites of `pop` /
`pop_min` / `pop_max`) need `WF` only.  `C04_sorted_after_history` composes the two: after EVERY legal history from `new()`
of either kind, all three return normally.  (The model's sorted vectors are functions of the store, not of the kind — each
kind of the crate has only its own — so all three are stated for the store reached, whatever the kind; the history theorem
`C04_from_any_wf` has no hypothesis beyond `Op.Legal`, and a legal history never meets the capacity fault, so nothing is
excepted.)

## (b) The capacity theorems restated for LEGAL lower bounds only

`C04_capacity_exactly` and `C07_fromIter` / `C07_extend` / `C07_hint_irrelevant` / `C07_hint_nofault` /
`C07_strategy_irrelevant` quantify over every lower bound `lo < capLimit = 2^61` of the `size_hint`.  **Those `lo < capLimit`
forms describe the MODEL's capacity fault (`Fault.capacity`, `reserveC`: the arithmetic "capacity overflow" check of
`Vec`), not the allocator.**  The real crate leaves the fault-free path earlier for *illegal* announced lower bounds: the
hash table of `IndexMap` panics with "Hash table capacity overflow" from about `2^59` entries on, and the allocator aborts
(`handle_alloc_error`) when the announced amount cannot be granted — `2^30` entries under memory pressure is enough.  Capacity
and memory are not part of the modelled state, so for an over-announcing (illegal) hint below `2^61` the model says "no
fault" where the real program may panic or abort.  Only illegal `size_hint`s are affected: a LEGAL lower bound does not
exceed the number of pairs the iterator actually yields (`LegalLo lo xs`, `PQ/Props/C07.lean`: `lo ≤ xs.size ∧ xs.size <
capLimit`, i.e. `Op.Legal` of `.extend lo xs` / `.fromIter lo xs`), and a program that yields `xs.size` pairs into a queue
needs that memory anyway.  The property itself ("no LEGAL `size_hint` makes them panic", "the outcome does not depend on
the `size_hint`") is therefore not affected; the forms below state it with `LegalLo lo xs` as the ONLY hypothesis on `lo`.
Each is derived from the corresponding `lo < capLimit` theorem by `LegalLo.lt` (`lo ≤ xs.size < capLimit`).
-/
namespace PQ
open Store Arith
variable {P : Type} [LT P] [DecidableLT P] [LE P] [Std.IsLinearPreorder P] [Std.LawfulOrderLT P]

/-- **C04, the consuming sorted methods from any well-formed state**: after every history of legal operations from a
well-formed queue — leaked guards allowed, so the state reached may be disordered — `into_sorted_vec`,
`into_ascending_sorted_vec` and `into_descending_sorted_vec` return normally, and each returns a permutation of the stored
entries (every element exactly once; nothing is said about the order, there is none on a disordered queue). -/
theorem C04_sorted_from_any_wf (ops : List (Op P)) {q : Q P} (hq : QWF q) (hl : ∀ op ∈ ops, op.Legal) :
    ∃ q' outs, run q ops = .ok (q', outs) ∧ QWF q' ∧
      (∃ l, MaxQ.intoSortedVec q'.s = .ok l ∧ l.Perm q'.s.map.toList ∧ l.length = q'.s.size) ∧
      (∃ l, DQ.intoAscendingSortedVec q'.s = .ok l ∧ l.Perm q'.s.map.toList ∧ l.length = q'.s.size) ∧
      (∃ l, DQ.intoDescendingSortedVec q'.s = .ok l ∧ l.Perm q'.s.map.toList ∧ l.length = q'.s.size) := by
  obtain ⟨q', outs, h1, _, h3⟩ := C04_from_any_wf ops hq hl
  have hwf : q'.s.WF := h3
  obtain ⟨l1, a1, a2, a3, _⟩ := swf_pq_sorted_vec hwf
  obtain ⟨l2, b1, b2, b3, _⟩ := swf_dpq_ascending hwf
  obtain ⟨l3, c1, c2, c3, _⟩ := swf_dpq_descending hwf
  exact ⟨q', outs, h1, h3, ⟨l1, a1, a2, a3⟩, ⟨l2, b1, b2, b3⟩, ⟨l3, c1, c2, c3⟩⟩

/-- **C04, the consuming sorted methods after every history**: from `new()` of either kind, after every history of legal
operations (leaked `iter_mut` guards included), `into_sorted_vec`, `into_ascending_sorted_vec` and
`into_descending_sorted_vec` of the queue reached return normally — no fault of any sort in the pops they perform. -/
theorem C04_sorted_after_history (ops : List (Op P)) (hl : ∀ op ∈ ops, op.Legal) (k : Kind) :
    ∃ q' outs, run (Q.new k) ops = .ok (q', outs) ∧
      (∃ l, MaxQ.intoSortedVec q'.s = .ok l) ∧
      (∃ l, DQ.intoAscendingSortedVec q'.s = .ok l) ∧
      (∃ l, DQ.intoDescendingSortedVec q'.s = .ok l) := by
  obtain ⟨q', outs, h1, _, ⟨l1, a1, _⟩, ⟨l2, b1, _⟩, ⟨l3, c1, _⟩⟩ := C04_sorted_from_any_wf ops (hist_new_wf k) hl
  exact ⟨q', outs, h1, ⟨l1, a1⟩, ⟨l2, b1⟩, ⟨l3, c1⟩⟩

section ExamplesA

/-- nine elements, then a leaked guard that turns the order upside down, then two more operations on the disordered queue -/
private def exHist : List (Op Nat) :=
  [.fromVec (Array.ofFn (n := 9) fun i => (⟨i.val, 0⟩, 3 * i.val)),
   .iterMut true ((List.range 9).map fun i => (ICall.next, (⟨some (40 - 4 * i), none⟩ : IMWrite Nat))),
   .getMut 4 (fun it => ⟨it.key, 7⟩), .capacityOp]

example : ∀ op ∈ exHist, op.Legal := by
  intro op h
  simp only [exHist, List.mem_cons, List.not_mem_nil, or_false] at h
  rcases h with h | h | h | h <;> subst h <;> first | exact trivial | (intro _; rfl)

-- the history ends in a well-formed, DISORDERED queue of nine elements (both kinds); all three sorted vectors are returned,
-- with all nine elements, and they are not sorted
example : hist_okR (run (Q.new .pq) exHist) (fun r => r.1.s.WF ∧ ¬ MaxQ.Inv r.1.s ∧ r.1.s.size = 9 ∧
    bp_okR (MaxQ.intoSortedVec r.1.s) (fun l => l.length = 9 ∧ l.map (·.2) ≠ [40, 36, 32, 28, 24, 20, 16, 12, 8]) ∧
    bp_okR (DQ.intoAscendingSortedVec r.1.s) (fun l => l.length = 9) ∧
    bp_okR (DQ.intoDescendingSortedVec r.1.s) (fun l => l.length = 9)) := by decide +kernel
example : hist_okR (run (Q.new .dpq) exHist) (fun r => r.1.s.WF ∧ r.1.s.size = 9 ∧
    bp_okR (MaxQ.intoSortedVec r.1.s) (fun l => l.length = 9) ∧
    bp_okR (DQ.intoAscendingSortedVec r.1.s) (fun l => l.length = 9 ∧ l.map (·.2) ≠ [8, 12, 16, 20, 24, 28, 32, 36, 40]) ∧
    bp_okR (DQ.intoDescendingSortedVec r.1.s) (fun l => l.length = 9)) := by decide +kernel

end ExamplesA

/-- **C04, capacity, legal operations only.**  On a well-formed queue a LEGAL operation — for `extend` / `from_iter` that
means: the announced lower bound does not exceed the number of pairs yielded, `LegalLo lo xs`, and nothing else is assumed
of `lo` — never meets the capacity fault, and succeeds leaving a well-formed queue; stated also for `.extend lo xs` /
`.fromIter lo xs` directly.  (`C04_capacity_exactly` says more — "`Fault.capacity` iff `capLimit ≤ lo`" — but about lower
bounds that only an illegal hint can have, where the model's fault is not the whole story: see the header.) -/
theorem C04_capacity_legal {q : Q P} (hq : QWF q) :
    (∀ {op : Op P}, op.Legal → step q op ≠ .error .capacity ∧ ∃ q' o, step q op = .ok (q', o) ∧ QWF q') ∧
    (∀ lo (xs : Array (Item × P)), LegalLo lo xs →
      (∃ q' o, step q (.extend lo xs) = .ok (q', o) ∧ QWF q') ∧
      (∃ q' o, step q (.fromIter lo xs) = .ok (q', o) ∧ QWF q')) := by
  have h1 : ∀ {op : Op P}, op.Legal → step q op ≠ .error .capacity ∧ ∃ q' o, step q op = .ok (q', o) ∧ QWF q' := by
    intro op hl
    have hn : ¬ ∃ lo xs, (op = .extend lo xs ∨ op = .fromIter lo xs) ∧ capLimit ≤ lo := by
      rintro ⟨lo, xs, rfl | rfl, hlo⟩
      · have h : LegalLo lo xs := hl
        have := h.lt; omega
      · have h : LegalLo lo xs := hl
        have := h.lt; omega
    obtain ⟨q', o, h, hwf⟩ := (C04_capacity_exactly hq (.inl hl)).2 hn
    exact ⟨fun he => (by rw [h] at he; cases he), q', o, h, hwf⟩
  exact ⟨h1, fun lo xs hl => ⟨(h1 (op := .extend lo xs) hl).2, (h1 (op := .fromIter lo xs) hl).2⟩⟩

/-- … conversely: whenever `step` answers the capacity fault (on a well-formed queue, for an operation that is legal except
possibly for its `size_hint`), the operation is `extend` / `from_iter` with an ILLEGAL hint. -/
theorem C04_capacity_only_illegal {q : Q P} {op : Op P} (hq : QWF q)
    (hl : op.Legal ∨ ∃ lo xs, op = .extend lo xs ∨ op = .fromIter lo xs) (h : step q op = .error .capacity) :
    ∃ lo xs, (op = .extend lo xs ∨ op = .fromIter lo xs) ∧ ¬ LegalLo lo xs := by
  obtain ⟨lo, xs, hop, hlo⟩ := (C04_capacity_exactly hq hl).1.1 h
  exact ⟨lo, xs, hop, fun hleg => by have := hleg.lt; omega⟩

/-- **`FromIterator`, legal hints**: for every pair sequence and every LEGAL lower bound of the `size_hint`: a correctly
ordered queue holding, for each key, the LAST pair given for it -/
theorem C07_legal_fromIter (lo : Nat) (xs : Array (Item × P)) (hl : LegalLo lo xs) :
    (∃ s', MaxQ.fromIter lo xs = .ok s' ∧ MaxQ.Inv s' ∧
      (∀ k, s'.abs k = xs.toList.reverse.find? (fun e => e.1.key == k)) ∧
      s'.size = (xs.toList.map (·.1.key)).eraseDups.length) ∧
    (∃ s', DQ.fromIter lo xs = .ok s' ∧ DQ.Inv s' ∧
      (∀ k, s'.abs k = xs.toList.reverse.find? (fun e => e.1.key == k)) ∧
      s'.size = (xs.toList.map (·.1.key)).eraseDups.length) :=
  C07_fromIter lo xs hl.lt

/-- **`extend`, legal hints**: for every LEGAL lower bound it succeeds, the result is correctly ordered, its contents are the
fold of `Store.absStep` over the pairs (closed form and length as in `C07_extend`) -/
theorem C07_legal_extend (xs : Array (Item × P)) :
    (∀ {s : Store P}, MaxQ.Inv s → ∀ lo, LegalLo lo xs → ∃ s', MaxQ.extend s lo xs = .ok s' ∧ MaxQ.Inv s' ∧
      s'.abs = xs.foldl Store.absStep s.abs ∧
      (∀ k, s'.abs k =
        match xs.toList.reverse.find? (fun e => e.1.key == k) with
        | none => s.abs k
        | some b => some ((((s.abs k).or (xs.toList.find? (fun e => e.1.key == k))).map (·.1)).getD b.1, b.2)) ∧
      s'.size = s.size + ((xs.toList.map (·.1.key)).filter (fun k => !IMap.contains s.map k)).eraseDups.length) ∧
    (∀ {s : Store P}, DQ.Inv s → ∀ lo, LegalLo lo xs → ∃ s', DQ.extend s lo xs = .ok s' ∧ DQ.Inv s' ∧
      s'.abs = xs.foldl Store.absStep s.abs ∧
      (∀ k, s'.abs k =
        match xs.toList.reverse.find? (fun e => e.1.key == k) with
        | none => s.abs k
        | some b => some ((((s.abs k).or (xs.toList.find? (fun e => e.1.key == k))).map (·.1)).getD b.1, b.2)) ∧
      s'.size = s.size + ((xs.toList.map (·.1.key)).filter (fun k => !IMap.contains s.map k)).eraseDups.length) :=
  ⟨fun h lo hl => (C07_extend xs).1 h lo hl.lt, fun h lo hl => (C07_extend xs).2 h lo hl.lt⟩

/-- **the outcome does not depend on the `size_hint`, legal hints**: for any two LEGAL lower bounds both `extend` calls
succeed, both results are correctly ordered, with the same contents and length; `fromIter` returns literally the same
queue.  (The same statement as `C07_hint_irrelevant_legal`.) -/
theorem C07_legal_hint_irrelevant (xs : Array (Item × P)) (lo lo' : Nat) (hl : LegalLo lo xs) (hl' : LegalLo lo' xs) :
    (∀ {s : Store P}, MaxQ.Inv s → ∃ s1 s2, MaxQ.extend s lo xs = .ok s1 ∧ MaxQ.extend s lo' xs = .ok s2 ∧
      MaxQ.Inv s1 ∧ MaxQ.Inv s2 ∧ s1.abs = s2.abs ∧ s1.size = s2.size) ∧
    (∀ {s : Store P}, DQ.Inv s → ∃ s1 s2, DQ.extend s lo xs = .ok s1 ∧ DQ.extend s lo' xs = .ok s2 ∧
      DQ.Inv s1 ∧ DQ.Inv s2 ∧ s1.abs = s2.abs ∧ s1.size = s2.size) ∧
    (MaxQ.fromIter lo xs = MaxQ.fromIter lo' xs ∧ DQ.fromIter lo xs = DQ.fromIter lo' xs) :=
  C07_hint_irrelevant_legal xs lo lo' hl hl'

/-- **no LEGAL `size_hint` makes `extend` or `FromIterator` panic**: from a well-formed queue (order not needed) `extend` and
`fromIter` succeed for EVERY legal lower bound and every pair sequence, on both kinds, and so do the public operations -/
theorem C07_legal_hint_nofault (xs : Array (Item × P)) :
    (∀ {s : Store P}, s.WF → ∀ lo, LegalLo lo xs →
      (∃ s', MaxQ.extend s lo xs = .ok s') ∧ (∃ s', DQ.extend s lo xs = .ok s')) ∧
    (∀ lo, LegalLo lo xs → (∃ s', MaxQ.fromIter lo xs = .ok s') ∧ (∃ s', DQ.fromIter lo xs = .ok s')) ∧
    (∀ (q : Q P), q.s.WF → ∀ lo, LegalLo lo xs → (∃ q', step q (.extend lo xs) = .ok (q', .unit)) ∧
      (∃ q', step q (.fromIter lo xs) = .ok (q', .unit))) :=
  ⟨fun h lo hl => (C07_hint_nofault xs).1 h lo hl.lt, fun lo hl => (C07_hint_nofault xs).2.1 lo hl.lt,
    fun q hq lo hl => (C07_hint_nofault xs).2.2 q hq lo hl⟩

/-- **the outcome of `extend` does not depend on the internal strategy, legal hints**: per-element pushes and
extend-then-rebuild both succeed with a correctly ordered queue of the same contents and length, and for every LEGAL lower
bound `extend` is one of the two -/
theorem C07_legal_strategy_irrelevant (xs : Array (Item × P)) :
    (∀ {s : Store P}, MaxQ.Inv s → ∃ s1 s2, MaxQ.pushAll xs.toList s = .ok s1 ∧
      MaxQ.heapBuild (Store.extend s xs) = .ok s2 ∧ MaxQ.Inv s1 ∧ MaxQ.Inv s2 ∧ s1.abs = s2.abs ∧ s1.size = s2.size ∧
      ∀ lo, LegalLo lo xs → MaxQ.extend s lo xs = .ok s1 ∨ MaxQ.extend s lo xs = .ok s2) ∧
    (∀ {s : Store P}, DQ.Inv s → ∃ s1 s2, DQ.pushAll xs.toList s = .ok s1 ∧
      DQ.heapBuild (Store.extend s xs) = .ok s2 ∧ DQ.Inv s1 ∧ DQ.Inv s2 ∧ s1.abs = s2.abs ∧ s1.size = s2.size ∧
      ∀ lo, LegalLo lo xs → DQ.extend s lo xs = .ok s1 ∨ DQ.extend s lo xs = .ok s2) := by
  constructor
  · intro s h
    obtain ⟨s1, s2, a1, a2, a3, a4, a5, a6, a7⟩ := (C07_strategy_irrelevant xs).1 h
    exact ⟨s1, s2, a1, a2, a3, a4, a5, a6, fun lo hl => a7 lo hl.lt⟩
  · intro s h
    obtain ⟨s1, s2, a1, a2, a3, a4, a5, a6, a7⟩ := (C07_strategy_irrelevant xs).2 h
    exact ⟨s1, s2, a1, a2, a3, a4, a5, a6, fun lo hl => a7 lo hl.lt⟩

section ExamplesB

/-- seventeen pairs over three keys -/
private def exB17 : Array (Item × Nat) := Array.ofFn (n := 17) fun i => (⟨2 + 7 * (i.val % 3), i.val⟩, i.val)

-- legal hints exist and differ in the strategy they select (0: per-element pushes; 17: rebuild, on an eight-element queue);
-- an over-announcing hint is not legal although it is far below `capLimit`
example : LegalLo 0 exB17 ∧ LegalLo 17 exB17 ∧ ¬ LegalLo 18 exB17 ∧ ¬ LegalLo (2 ^ 30) exB17 ∧ 2 ^ 30 < capLimit ∧
    DQ.exQ.size = 8 ∧ betterToRebuild 8 17 = true := by
  rw [DQ.exQ_eq]
  decide +kernel
-- `C04_capacity_legal`: a well-formed DISORDERED queue, a legal `extend` / `from_iter`: `step` succeeds, result well-formed
example : QWF (⟨.pq, bp_exW⟩ : Q Nat) ∧ ¬ MaxQ.Inv bp_exW ∧ LegalLo 17 exB17 ∧
    hist_okR (step ⟨.pq, bp_exW⟩ (.extend 17 exB17)) (fun r => r.1.s.WF ∧ r.1.s.size = 7) ∧
    hist_okR (step ⟨.dpq, bp_exW⟩ (.fromIter 17 exB17)) (fun r => r.1.s.WF ∧ r.1.s.size = 3) := by
  refine ⟨bp_exW_wf, ?_⟩
  decide +kernel
-- `C04_capacity_only_illegal`: the capacity fault does occur, with an illegal hint
example : ¬ LegalLo (2 ^ 61) #[((⟨1, 0⟩ : Item), (1 : Nat))] ∧
    (match step (Q.new .pq) (.extend (2 ^ 61) #[((⟨1, 0⟩ : Item), 1)] : Op Nat) with
      | .error .capacity => true | _ => false) = true := by decide +kernel
-- `C07_legal_fromIter`, `C07_legal_extend`, `C07_legal_hint_irrelevant`, `C07_legal_hint_nofault`
example : bp_okR (MaxQ.fromIter 17 exB17) (fun s' => MaxQ.Inv s' ∧ s'.size = 3 ∧ s'.abs 9 = some (⟨9, 16⟩, 16)) ∧
    bp_okR (DQ.fromIter 5 exB17) (fun s' => s'.size = 3 ∧ s'.abs 2 = some (⟨2, 15⟩, 15)) := by decide +kernel
example : MaxQ.Inv bp_exP ∧ LegalLo 3 #[((⟨4, 0⟩ : Item), (9 : Nat)), (⟨7, 0⟩, 2), (⟨7, 1⟩, 6)] ∧
    bp_okR (MaxQ.extend bp_exP 3 #[(⟨4, 0⟩, 9), (⟨7, 0⟩, 2), (⟨7, 1⟩, 6)]) (fun s' =>
      MaxQ.Inv s' ∧ s'.size = 6 ∧ s'.abs 4 = some (⟨4, 40⟩, 9) ∧ s'.abs 7 = some (⟨7, 0⟩, 6)) := by decide +kernel
example : bp_okR (DQ.extend DQ.exQ 0 exB17) (fun s1 =>
      bp_okR (DQ.extend DQ.exQ 17 exB17) (fun s2 =>
        s1.size = s2.size ∧ s1.size = 10 ∧ ∀ k, k < 20 → s1.abs k = s2.abs k)) := by
  rw [DQ.exQ_eq]
  decide +kernel
example : bp_exW.WF ∧ bp_okR (MaxQ.extend bp_exW 17 exB17) (fun _ => True) ∧
    bp_okR (DQ.extend bp_exW 1 exB17) (fun _ => True) := by decide +kernel
-- `C07_legal_strategy_irrelevant`: both strategies on `bp_exP`, same contents
example : bp_okR (MaxQ.pushAll exB17.toList bp_exP) (fun s1 =>
    bp_okR (MaxQ.heapBuild (Store.extend bp_exP exB17)) (fun s2 =>
      MaxQ.Inv s1 ∧ MaxQ.Inv s2 ∧ s1.size = s2.size ∧ s1.size = 7 ∧ ∀ k, k < 20 → s1.abs k = s2.abs k)) := by decide +kernel

end ExamplesB

end PQ

#print axioms PQ.C04_sorted_from_any_wf
#print axioms PQ.C04_sorted_after_history
#print axioms PQ.C04_capacity_legal
#print axioms PQ.C04_capacity_only_illegal
#print axioms PQ.C07_legal_fromIter
#print axioms PQ.C07_legal_extend
#print axioms PQ.C07_legal_hint_irrelevant
#print axioms PQ.C07_legal_hint_nofault
#print axioms PQ.C07_legal_strategy_irrelevant
