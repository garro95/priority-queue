import PQ.Lemmas.CursorStore
import PQ.Lemmas.SortedIterLemmas
/-!
# C13 — supplement: the cursor as ENTRIES of a store; the sorted iterators WITH their `len` / `size_hint`
-/
namespace PQ
variable {P : Type} [LT P] [DecidableLT P] [LE P] [Std.IsLinearPreorder P] [Std.LawfulOrderLT P]

/-- **`iter` / `into_iter` / `drain` yield each stored element exactly once**, as entries of the store (not just as slot
numbers): for every call sequence the handed-out slots are pairwise distinct stored slots, `min len (#advancing calls)` of
them; with at least `len` advancing calls the handed-out entries are a permutation of the stored entries; on a
well-formed store their keys are pairwise distinct. -/
theorem C13_cursor_yields_store_entries (s : Store P) (calls : List ICall) :
    (slots (Cursor.run (Cursor.new s.map.size) calls)).Nodup ∧
    (∀ i ∈ slots (Cursor.run (Cursor.new s.map.size) calls), i < s.map.size) ∧
    (Cursor.entries s.map calls).length = min s.map.size (adv calls) ∧
    (s.map.size ≤ adv calls → (Cursor.entries s.map calls).Perm s.map.toList) ∧
    (s.WF → ((Cursor.entries s.map calls).map (·.1.key)).Nodup) :=
  ⟨(Cursor.entries_sub s.map calls).1, (Cursor.entries_sub s.map calls).2.1, (Cursor.entries_sub s.map calls).2.2,
    Cursor.entries_perm s.map calls, fun h => Cursor.entries_keys_nodup s.map h.nodup calls⟩

/-- **the `DoublePriorityQueue` sorted iterator (declares `ExactSizeIterator` + `FusedIterator` + `DoubleEndedIterator`)
reports an exact size at every step**, on ANY well-formed queue (no order assumption) and for every interleaving of `next`,
`next_back`, `len`, `size_hint`: the run returns; every `len` answer is the number of elements still held (the stored number
minus the elements handed out before); every `size_hint` answer is `(that number, Some(that number))` — lower = upper =
`len`, the agreement the default body of `ExactSizeIterator::len` (called by `Rev`, `Enumerate::next_back`, `Zip`)
`assert_eq!`s on; an advancing call answers `None` exactly when nothing is held, and once `None`, always `None`; the entries handed
out are those of `DQ.sortedCalls` on the advancing calls (so `C13_sorted_dpq_any_wf` and `C06_dpq_deque` apply). -/
theorem C13_sorted_dpq_exact_size : type_of% @sit_dpq_exact := @sit_dpq_exact

/-- after any prefix of calls, `size_hint()` then `len()` answer `(n, Some(n))` and `n`, `n` = the number of elements held -/
theorem C13_sorted_dpq_hint_eq_len : type_of% @sit_dpq_hint_eq_len := @sit_dpq_hint_eq_len

/-- every element once through the iterator with `len` / `size_hint` calls interleaved (transfers `C13_sorted_dpq_any_wf`) -/
theorem C13_sorted_dpq_once : type_of% @sit_dpq_once := @sit_dpq_once

/-- **the `PriorityQueue` sorted iterator** (declares neither an exact size nor a back end): `size_hint` is always the
default `(0, None)`, `len` / `next_back` are not offered, and the entries are those of repeated `pop` -/
theorem C13_sorted_pq_shape : type_of% @sit_pq_exact := @sit_pq_exact

end PQ

#print axioms PQ.C13_cursor_yields_store_entries
#print axioms PQ.C13_sorted_dpq_exact_size
#print axioms PQ.C13_sorted_dpq_hint_eq_len
#print axioms PQ.C13_sorted_dpq_once
#print axioms PQ.C13_sorted_pq_shape
