import PQ.Lemmas.EqvBy
import PQ.Driver
import PQ.Props.C14
/-!
# C14 — supplement: equality for a priority type whose `==` is coarser than identity; what the driver's `eq` computes

`Props/C14.lean` is about `IMap.eqv`, which compares priorities with Lean's `=`.  Rust's `PartialEq for Store` compares the
maps with IndexMap's order-insensitive `==`, which uses the PRIORITY TYPE's `PartialEq` — and for a priority whose `Ord` is
only a total preorder (ties between distinguishable values, which is what the other theorems quantify over) `==` is coarser
than identity.  `IMap.eqvBy peq` is the same comparison with the priority's `==` as a parameter.
-/
namespace PQ
variable {P : Type}

/-- **equality depends only on the (item, priority) set, for ANY priority `==`**: two duplicate-free maps are `==` iff they
have the same number of entries and every key is bound on both sides or on neither, to `==`-equal priorities — no reference
to slot order, heap arrangement, history, capacity or hasher; with `peq := (· = ·)` this is `C14_eqv_iff`. -/
theorem C14_eqvBy_iff : type_of% @eqvBy_iff := @eqvBy_iff

theorem C14_eqvBy_at_eq [DecidableEq P] : IMap.eqvBy (fun x y : P => decide (x = y)) = IMap.eqv := eqvBy_decide_eq

/-- **reflexive, symmetric and transitive on well-formed queues whenever the priority's `==` is** (Rust: `P: Eq`) -/
theorem C14_eqvBy_equivalence : type_of% @eqvBy_store_equivalence := @eqvBy_store_equivalence

/-- **what the driver's `eq` computes is Rust's `==` for the harness's priority type**: the driver compares the
rank-normalised stores with `Store.eqv`; that equals `Store.eqvBy` at "equal rank", the `PartialEq` of the harness's `Pri`
(`harness/src/types.rs`: `rank(self.0) == rank(o.0)`). -/
theorem C14_driver_eq_is_rank_equality (s t : Store Driver.Pr) :
    Store.eqvBy (fun x y : Driver.Pr => decide (x.rank = y.rank)) s t =
      Store.eqv { s with map := s.map.map fun e => (e.1, e.2.norm) } { t with map := t.map.map fun e => (e.1, e.2.norm) } :=
  eqvBy_store_norm (norm := Driver.Pr.norm) (fun x y => by
    simp only [Driver.Pr.norm]
    by_cases h : x.rank = y.rank
    · simp [h]
    · have : (⟨x.rank⟩ : Driver.Pr) ≠ ⟨y.rank⟩ := fun hc => h (by injection hc)
      simp [h, this]) s t

-- two queues whose priorities differ only in their tags: equal for Rust's `==`, different for Lean's `=`
example :
    let a : Store Driver.Pr := Store.fromVec #[(⟨1, 0⟩, ⟨Driver.tagBase + 8 * 5 + 1⟩), (⟨2, 0⟩, ⟨Driver.tagBase + 8 * 6⟩)]
    let b : Store Driver.Pr := Store.fromVec #[(⟨2, 7⟩, ⟨Driver.tagBase + 8 * 6 + 3⟩), (⟨1, 1⟩, ⟨Driver.tagBase + 8 * 5⟩)]
    Store.eqvBy (fun x y : Driver.Pr => decide (x.rank = y.rank)) a b = true ∧ Store.eqv a b = false := by
  decide +kernel

end PQ

#print axioms PQ.C14_eqvBy_iff
#print axioms PQ.C14_eqvBy_at_eq
#print axioms PQ.C14_eqvBy_equivalence
#print axioms PQ.C14_driver_eq_is_rank_equality
