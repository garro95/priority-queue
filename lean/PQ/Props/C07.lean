import PQ.Lemmas.BulkProps
/-!
# C07 — Bulk construction, extend and append give the specified contents

> `From<Vec>` keeps the first priority given for each distinct item, `FromIterator` and `extend` keep the last,
> `append` moves every element of the other queue whose item is not already present (on a clash the receiver's
> priority stays unless the other queue was longer, when either may stay) and leaves the other queue empty, and
> conversion between the two queue kinds preserves the contents; the result is always a correctly ordered queue.
> For `FromIterator` and `extend` the outcome depends only on the sequence of pairs the iterator yields, never on its
> `size_hint` or on which internal strategy is chosen, and no legal `size_hint` makes them panic.

The theorems about a single operation are stated for BOTH queue kinds (first conjunct `PriorityQueue` = `MaxQ`, second
`DoublePriorityQueue` = `DQ`); those about `step` quantify over the kind of the queue.  Contents are `Store.abs s k` (the stored `(item, priority)` of key `k`, payload of the item included).
`append` is stated for ANY two well-formed stores (`C07_append`) and as the operation `Op.append o` of the alphabet, whose
argument is an arbitrary well-formed other queue (`C07_append_step`).
In the model `extend s lo xs` / `fromIter lo xs` receive the pairs `xs` the iterator yields and the lower bound `lo` of its
`size_hint` — the only part the code reads: `extend` calls `self.reserve(lo)` and chooses its strategy from it,
`Store::from_iter` calls `with_capacity(lo)`.  The upper bound of the hint is never read by the code and is not part of the
model.  A `size_hint` is LEGAL (`LegalLo lo xs`, which is `Op.Legal` of `.extend lo xs` / `.fromIter lo xs`) when its lower
bound does not exceed the number of pairs actually yielded (`Iterator::size_hint`'s contract) and that number is one a
`Vec` can hold (`< capLimit = 2^61`).  Every theorem below holds for every lower bound `lo < capLimit`, in particular for
every legal one (`LegalLo.lt`); a lower bound `≥ capLimit` — necessarily an illegal hint — is the documented
"capacity overflow" panic of `reserve` / `with_capacity` and nothing else (`C07_illegal_lower_bound_is_capacity_panic`).
-/
namespace PQ
open Store Arith
variable {P : Type} [LT P] [DecidableLT P] [LE P] [Std.IsLinearPreorder P] [Std.LawfulOrderLT P]

/-- a LEGAL `size_hint` lower bound `lo` for an iterator that yields the pairs `xs`: it does not exceed the number of pairs
yielded, and that number is below the capacity limit.  This is `Op.Legal` of `.extend lo xs` and of `.fromIter lo xs`. -/
def LegalLo {α : Type} (lo : Nat) (xs : Array α) : Prop := lo ≤ xs.size ∧ xs.size < capLimit

omit [LT P] [DecidableLT P] [LE P] [Std.IsLinearPreorder P] [Std.LawfulOrderLT P] in
theorem LegalLo.iff_legal (lo : Nat) (xs : Array (Item × P)) :
    (LegalLo lo xs ↔ (Op.extend lo xs : Op P).Legal) ∧ (LegalLo lo xs ↔ (Op.fromIter lo xs : Op P).Legal) :=
  ⟨Iff.rfl, Iff.rfl⟩

instance {α : Type} (lo : Nat) (xs : Array α) : Decidable (LegalLo lo xs) :=
  inferInstanceAs (Decidable (lo ≤ xs.size ∧ xs.size < capLimit))

theorem LegalLo.lt {α : Type} {lo : Nat} {xs : Array α} (h : LegalLo lo xs) : lo < capLimit :=
  Nat.lt_of_le_of_lt h.1 h.2

/-- **`From<Vec>`**, for EVERY vector: a correctly ordered queue holding, for each key, the FIRST pair given for it;
its length is the number of distinct keys -/
theorem C07_fromVec (v : Array (Item × P)) :
    (∃ s', MaxQ.fromVec v = .ok s' ∧ MaxQ.Inv s' ∧ (∀ k, s'.abs k = v.toList.find? (fun e => e.1.key == k)) ∧
      s'.size = (v.toList.map (·.1.key)).eraseDups.length) ∧
    (∃ s', DQ.fromVec v = .ok s' ∧ DQ.Inv s' ∧ (∀ k, s'.abs k = v.toList.find? (fun e => e.1.key == k)) ∧
      s'.size = (v.toList.map (·.1.key)).eraseDups.length) := by
  constructor
  · obtain ⟨s', hrun, hwf, hmap, hsz, hm⟩ := MaxQ.heapBuild_spec (wf_fromVec v)
    refine ⟨s', hrun, ⟨hwf, hm⟩, fun k => ?_, by rw [hsz, size_fromVec]⟩
    show IMap.lookup s'.map k = _
    rw [hmap]; exact lookup_fromVec v k
  · exact DQ.fromVec_spec v

example : bp_okR (MaxQ.fromVec #[(⟨1, 0⟩, 5), (⟨1, 9⟩, 7), (⟨2, 0⟩, 8)]) (fun s' => MaxQ.Inv s' ∧ s'.size = 2 ∧
      s'.abs 1 = some (⟨1, 0⟩, 5)) ∧
    bp_okR (DQ.fromVec #[(⟨1, 0⟩, 5), (⟨1, 9⟩, 7), (⟨2, 0⟩, 8)]) (fun s' => s'.size = 2 ∧
      s'.abs 1 = some (⟨1, 0⟩, 5)) := by decide +kernel

/-- **`FromIterator`**, for EVERY sequence and every lower bound `lo < capLimit` of the `size_hint` (in particular every
legal one): a correctly ordered queue holding, for each key, the LAST pair given for it (with that pair's item) -/
theorem C07_fromIter (lo : Nat) (xs : Array (Item × P)) (hlo : lo < capLimit) :
    (∃ s', MaxQ.fromIter lo xs = .ok s' ∧ MaxQ.Inv s' ∧
      (∀ k, s'.abs k = xs.toList.reverse.find? (fun e => e.1.key == k)) ∧
      s'.size = (xs.toList.map (·.1.key)).eraseDups.length) ∧
    (∃ s', DQ.fromIter lo xs = .ok s' ∧ DQ.Inv s' ∧
      (∀ k, s'.abs k = xs.toList.reverse.find? (fun e => e.1.key == k)) ∧
      s'.size = (xs.toList.map (·.1.key)).eraseDups.length) := by
  constructor
  · obtain ⟨s', hrun, hwf, hmap, hsz, hm⟩ := MaxQ.heapBuild_spec (wf_fromIter xs)
    refine ⟨s', by rw [MaxQ.fromIter_of_lt xs hlo]; exact hrun, ⟨hwf, hm⟩, fun k => ?_, by rw [hsz, size_fromIter]⟩
    show IMap.lookup s'.map k = _
    rw [hmap]; exact lookup_fromIter xs k
  · exact DQ.fromIter_spec lo xs hlo

example : LegalLo 3 #[((⟨1, 0⟩ : Item), 5), (⟨1, 9⟩, 7), (⟨2, 0⟩, 8)] ∧
    bp_okR (MaxQ.fromIter 3 #[(⟨1, 0⟩, 5), (⟨1, 9⟩, 7), (⟨2, 0⟩, 8)]) (fun s' => MaxQ.Inv s' ∧ s'.size = 2 ∧
      s'.abs 1 = some (⟨1, 9⟩, 7)) ∧
    bp_okR (DQ.fromIter 0 #[(⟨1, 0⟩, 5), (⟨1, 9⟩, 7), (⟨2, 0⟩, 8)]) (fun s' => s'.size = 2 ∧
      s'.abs 1 = some (⟨1, 9⟩, 7)) := by decide +kernel

/-- **`extend`**, for EVERY lower bound `lo < capLimit` (in particular every legal hint): it succeeds, the result is correctly ordered, its contents are the fold of the
abstract step `Store.absStep` over the pairs; closed form: a key that occurs among the pairs gets the priority of
the LAST pair given for it and keeps the item that was stored (else: the item of the FIRST pair given), every other
key is untouched; the length grows by the number of distinct new keys -/
theorem C07_extend (xs : Array (Item × P)) :
    (∀ {s : Store P}, MaxQ.Inv s → ∀ lo, lo < capLimit → ∃ s', MaxQ.extend s lo xs = .ok s' ∧ MaxQ.Inv s' ∧
      s'.abs = xs.foldl Store.absStep s.abs ∧
      (∀ k, s'.abs k =
        match xs.toList.reverse.find? (fun e => e.1.key == k) with
        | none => s.abs k
        | some b => some ((((s.abs k).or (xs.toList.find? (fun e => e.1.key == k))).map (·.1)).getD b.1, b.2)) ∧
      s'.size = s.size + ((xs.toList.map (·.1.key)).filter (fun k => !IMap.contains s.map k)).eraseDups.length) ∧
    (∀ {s : Store P}, DQ.Inv s → ∀ lo, lo < capLimit → ∃ s', DQ.extend s lo xs = .ok s' ∧ DQ.Inv s' ∧
      s'.abs = xs.foldl Store.absStep s.abs ∧
      (∀ k, s'.abs k =
        match xs.toList.reverse.find? (fun e => e.1.key == k) with
        | none => s.abs k
        | some b => some ((((s.abs k).or (xs.toList.find? (fun e => e.1.key == k))).map (·.1)).getD b.1, b.2)) ∧
      s'.size = s.size + ((xs.toList.map (·.1.key)).filter (fun k => !IMap.contains s.map k)).eraseDups.length) := by
  constructor
  · intro s h lo hlo
    obtain ⟨s', hrun, hinv, habs⟩ := MaxQ.extend_spec h lo xs hlo
    obtain ⟨h1, h2⟩ := bp_extend_common h.1 hinv.1 xs habs
    exact ⟨s', hrun, hinv, habs, h1, h2⟩
  · intro s h lo hlo
    obtain ⟨s', hrun, hinv, habs⟩ := DQ.extend_spec h lo xs hlo
    obtain ⟨h1, h2⟩ := bp_extend_common h.1 hinv.1 xs habs
    exact ⟨s', hrun, hinv, habs, h1, h2⟩

example : MaxQ.Inv bp_exP ∧ bp_okR (MaxQ.extend bp_exP 0 #[(⟨4, 0⟩, 9), (⟨7, 0⟩, 2), (⟨7, 1⟩, 6)]) (fun s' =>
      MaxQ.Inv s' ∧ s'.size = 6 ∧ s'.abs 4 = some (⟨4, 40⟩, 9) ∧ s'.abs 7 = some (⟨7, 0⟩, 6)) :=
  ⟨bp_exP_inv, by decide +kernel⟩
example : DQ.Inv DQ.exQ ∧ bp_okR (DQ.extend DQ.exQ 0 #[(⟨2, 7⟩, 1), (⟨9, 1⟩, 2), (⟨9, 2⟩, 3)]) (fun s' =>
      s'.size = 9 ∧ s'.abs 2 = some (⟨2, 0⟩, 1) ∧ s'.abs 9 = some (⟨9, 1⟩, 3)) := ⟨DQ.exQ_inv, by decide +kernel⟩

omit [LT P] [DecidableLT P] [LE P] [Std.IsLinearPreorder P] [Std.LawfulOrderLT P] in
theorem c07_same_abs {s1 s2 : Store P} {f : Nat → Option (Item × P)} (h1 : s1.WF) (h2 : s2.WF) (ha1 : s1.abs = f)
    (ha2 : s2.abs = f) : s1.abs = s2.abs ∧ s1.size = s2.size :=
  ⟨ha1.trans ha2.symm, bp_size_eq_of_abs_eq h1 h2 fun k => by rw [ha1, ha2]⟩

/-- **the outcome of `extend` and of `FromIterator` does not depend on the `size_hint`**: for any two LEGAL lower bounds
`lo`, `lo'` (more generally: any two below `capLimit`; the upper bound is never read) both `extend` calls succeed, both
results are correctly ordered and they have the same contents — item payloads included — and the same length; and
`fromIter` returns literally the same queue -/
theorem C07_hint_irrelevant (xs : Array (Item × P)) (lo lo' : Nat) (hlo : lo < capLimit) (hlo' : lo' < capLimit) :
    (∀ {s : Store P}, MaxQ.Inv s → ∃ s1 s2, MaxQ.extend s lo xs = .ok s1 ∧ MaxQ.extend s lo' xs = .ok s2 ∧
      MaxQ.Inv s1 ∧ MaxQ.Inv s2 ∧ s1.abs = s2.abs ∧ s1.size = s2.size) ∧
    (∀ {s : Store P}, DQ.Inv s → ∃ s1 s2, DQ.extend s lo xs = .ok s1 ∧ DQ.extend s lo' xs = .ok s2 ∧
      DQ.Inv s1 ∧ DQ.Inv s2 ∧ s1.abs = s2.abs ∧ s1.size = s2.size) ∧
    (MaxQ.fromIter lo xs = MaxQ.fromIter lo' xs ∧ DQ.fromIter lo xs = DQ.fromIter lo' xs) := by
  refine ⟨?_, ?_, ?_⟩
  · intro s h
    obtain ⟨s1, hr1, hi1, ha1⟩ := MaxQ.extend_spec h lo xs hlo
    obtain ⟨s2, hr2, hi2, ha2⟩ := MaxQ.extend_spec h lo' xs hlo'
    exact ⟨s1, s2, hr1, hr2, hi1, hi2, c07_same_abs hi1.1 hi2.1 ha1 ha2⟩
  · intro s h
    obtain ⟨s1, hr1, hi1, ha1⟩ := DQ.extend_spec h lo xs hlo
    obtain ⟨s2, hr2, hi2, ha2⟩ := DQ.extend_spec h lo' xs hlo'
    exact ⟨s1, s2, hr1, hr2, hi1, hi2, c07_same_abs hi1.1 hi2.1 ha1 ha2⟩
  · exact ⟨by rw [MaxQ.fromIter_of_lt xs hlo, MaxQ.fromIter_of_lt xs hlo'],
      by rw [DQ.fromIter_of_lt xs hlo, DQ.fromIter_of_lt xs hlo']⟩

/-- … in the form "for any two LEGAL hints" -/
theorem C07_hint_irrelevant_legal (xs : Array (Item × P)) (lo lo' : Nat) (hl : LegalLo lo xs) (hl' : LegalLo lo' xs) :
    (∀ {s : Store P}, MaxQ.Inv s → ∃ s1 s2, MaxQ.extend s lo xs = .ok s1 ∧ MaxQ.extend s lo' xs = .ok s2 ∧
      MaxQ.Inv s1 ∧ MaxQ.Inv s2 ∧ s1.abs = s2.abs ∧ s1.size = s2.size) ∧
    (∀ {s : Store P}, DQ.Inv s → ∃ s1 s2, DQ.extend s lo xs = .ok s1 ∧ DQ.extend s lo' xs = .ok s2 ∧
      DQ.Inv s1 ∧ DQ.Inv s2 ∧ s1.abs = s2.abs ∧ s1.size = s2.size) ∧
    (MaxQ.fromIter lo xs = MaxQ.fromIter lo' xs ∧ DQ.fromIter lo xs = DQ.fromIter lo' xs) :=
  C07_hint_irrelevant xs lo lo' hl.lt hl'.lt

/-- seventeen pairs over three keys -/
private def ex17 : Array (Item × Nat) := Array.ofFn (n := 17) fun i => (⟨2 + 7 * (i.val % 3), i.val⟩, i.val)

/-- two LEGAL hints (an iterator yielding the seventeen pairs, announcing none / all of them) select different strategies on
an eight-element queue; the results agree -/
example : LegalLo 0 ex17 ∧ LegalLo 17 ex17 ∧ DQ.exQ.size = 8 ∧
    (if (0 : Nat) ≠ 0 then betterToRebuild 8 0 else false) = false ∧
    (if (17 : Nat) ≠ 0 then betterToRebuild 8 17 else false) = true ∧
    bp_okR (DQ.extend DQ.exQ 0 ex17) (fun s1 =>
      bp_okR (DQ.extend DQ.exQ 17 ex17) (fun s2 =>
        s1.size = s2.size ∧ s1.size = 10 ∧ ∀ k, k < 20 → s1.abs k = s2.abs k)) := by
  decide +kernel

/-- **no LEGAL `size_hint` makes `extend` or `FromIterator` panic**: from a well-formed queue (order is not even needed)
`extend` and `fromIter` succeed for EVERY lower bound `lo < capLimit` — in particular every legal one, `LegalLo.lt` — and
EVERY pair sequence, on both kinds; at the level of the public operations: `step` succeeds on every `.extend lo xs` /
`.fromIter lo xs` that is `Op.Legal` -/
theorem C07_hint_nofault (xs : Array (Item × P)) :
    (∀ {s : Store P}, s.WF → ∀ lo, lo < capLimit →
      (∃ s', MaxQ.extend s lo xs = .ok s') ∧ (∃ s', DQ.extend s lo xs = .ok s')) ∧
    (∀ lo, lo < capLimit → (∃ s', MaxQ.fromIter lo xs = .ok s') ∧ (∃ s', DQ.fromIter lo xs = .ok s')) ∧
    (∀ (q : Q P), q.s.WF → ∀ lo, (Op.extend lo xs : Op P).Legal → (∃ q', step q (.extend lo xs) = .ok (q', .unit)) ∧
      (∃ q', step q (.fromIter lo xs) = .ok (q', .unit))) := by
  have hfi : ∀ lo, lo < capLimit → (∃ s', MaxQ.fromIter lo xs = .ok s') ∧ (∃ s', DQ.fromIter lo xs = .ok s') := by
    intro lo hlo
    obtain ⟨⟨s1, h1, _⟩, ⟨s2, h2, _⟩⟩ := C07_fromIter lo xs hlo
    exact ⟨⟨s1, h1⟩, ⟨s2, h2⟩⟩
  have hext : ∀ {s : Store P}, s.WF → ∀ lo, lo < capLimit →
      (∃ s', MaxQ.extend s lo xs = .ok s') ∧ (∃ s', DQ.extend s lo xs = .ok s') := by
    intro s h lo hlo
    obtain ⟨s1, h1, _⟩ := MaxQ.extend_safe h lo xs hlo
    obtain ⟨s2, h2, _⟩ := DQ.extend_safe h lo xs hlo
    exact ⟨⟨s1, h1⟩, ⟨s2, h2⟩⟩
  refine ⟨hext, hfi, fun q hq lo hl => ?_⟩
  have hlo : lo < capLimit := LegalLo.lt hl
  obtain ⟨⟨s1, h1⟩, ⟨s2, h2⟩⟩ := hext hq lo hlo
  obtain ⟨⟨t1, g1⟩, ⟨t2, g2⟩⟩ := hfi lo hlo
  obtain ⟨kind, s⟩ := q
  cases kind
  · exact ⟨⟨{ kind := .pq, s := s1 }, bind_of_ok h1 _⟩, ⟨{ kind := .pq, s := t1 }, bind_of_ok g1 _⟩⟩
  · exact ⟨⟨{ kind := .dpq, s := s2 }, bind_of_ok h2 _⟩, ⟨{ kind := .dpq, s := t2 }, bind_of_ok g2 _⟩⟩

-- a well-formed but disordered queue; a legal hint (2 of 2 announced), and a hint that over-announces (1000000 > 2: NOT
-- legal, but below the capacity limit): neither panics
example : bp_exW.WF ∧ ¬ MaxQ.Inv bp_exW ∧ LegalLo 2 #[((⟨4, 0⟩ : Item), 9), (⟨7, 0⟩, 2)] ∧
    bp_okR (MaxQ.extend bp_exW 2 #[(⟨4, 0⟩, 9), (⟨7, 0⟩, 2)]) (fun _ => True) ∧
    bp_okR (MaxQ.extend bp_exW 1000000 #[(⟨4, 0⟩, 9), (⟨7, 0⟩, 2)]) (fun _ => True) ∧
    bp_okR (DQ.extend bp_exW 1 #[(⟨4, 0⟩, 9), (⟨7, 0⟩, 2)]) (fun _ => True) := ⟨bp_exW_wf, by decide +kernel⟩

omit [LE P] [Std.IsLinearPreorder P] [Std.LawfulOrderLT P] in
/-- **an (illegal) lower bound `≥ capLimit` is the documented capacity-overflow panic, and nothing else**: `extend` and
`FromIterator` of both kinds answer `Fault.capacity` — the panic of `reserve(lo)` / `with_capacity(lo)`, raised before the
iterator is asked for a single element and before anything is written — for EVERY store (well-formed or not) and every
pair sequence; likewise the public operations.  The state is untouched: the operation returns no new queue (`run` stops
with the fault), the queue the caller holds is the one it had.  Such a bound is never legal (`LegalLo lo xs → lo <
capLimit`). -/
theorem C07_illegal_lower_bound_is_capacity_panic (xs : Array (Item × P)) (lo : Nat) (hlo : lo ≥ capLimit) :
    (∀ s : Store P, MaxQ.extend s lo xs = .error .capacity ∧ DQ.extend s lo xs = .error .capacity) ∧
    ((MaxQ.fromIter lo xs : R (Store P)) = .error .capacity ∧ (DQ.fromIter lo xs : R (Store P)) = .error .capacity) ∧
    (∀ q : Q P, step q (.extend lo xs) = .error .capacity ∧ step q (.fromIter lo xs) = .error .capacity) ∧
    ¬ LegalLo lo xs := by
  refine ⟨fun s => ⟨MaxQ.extend_of_ge xs hlo, DQ.extend_of_ge xs hlo⟩,
    ⟨MaxQ.fromIter_of_ge xs hlo, DQ.fromIter_of_ge xs hlo⟩, fun q => ?_, fun hl => ?_⟩
  · obtain ⟨kind, s⟩ := q
    cases kind
    · exact ⟨bind_of_error (MaxQ.extend_of_ge xs hlo) _, bind_of_error (MaxQ.fromIter_of_ge xs hlo) _⟩
    · exact ⟨bind_of_error (DQ.extend_of_ge xs hlo) _, bind_of_error (DQ.fromIter_of_ge xs hlo) _⟩
  · have := hl.lt; omega

private def isCapacity {α : Type} (r : R α) : Bool := match r with | .error .capacity => true | _ => false

example : isCapacity (MaxQ.extend bp_exW (2 ^ 61) #[(⟨4, 0⟩, 9)]) = true ∧
    isCapacity (DQ.fromIter (P := Nat) (2 ^ 64 - 1) #[(⟨4, 0⟩, 9)]) = true ∧
    isCapacity (step ⟨.dpq, bp_exW⟩ (.extend (2 ^ 61) #[(⟨4, 0⟩, 9)])) = true ∧
    isCapacity (MaxQ.extend bp_exW (2 ^ 61 - 1) #[(⟨4, 0⟩, 9)]) = false := by decide +kernel

/-- **the outcome of `extend` does not depend on the internal strategy**: pushing the pairs one by one (`pushAll`) and
extending the store followed by a rebuild (`heapBuild (Store.extend …)`) both succeed, both give a correctly ordered
queue, with the same contents (payloads included) and length; and for every `lo < capLimit`, `extend` is one of the two -/
theorem C07_strategy_irrelevant (xs : Array (Item × P)) :
    (∀ {s : Store P}, MaxQ.Inv s → ∃ s1 s2, MaxQ.pushAll xs.toList s = .ok s1 ∧
      MaxQ.heapBuild (Store.extend s xs) = .ok s2 ∧ MaxQ.Inv s1 ∧ MaxQ.Inv s2 ∧ s1.abs = s2.abs ∧ s1.size = s2.size ∧
      ∀ lo, lo < capLimit → MaxQ.extend s lo xs = .ok s1 ∨ MaxQ.extend s lo xs = .ok s2) ∧
    (∀ {s : Store P}, DQ.Inv s → ∃ s1 s2, DQ.pushAll xs.toList s = .ok s1 ∧
      DQ.heapBuild (Store.extend s xs) = .ok s2 ∧ DQ.Inv s1 ∧ DQ.Inv s2 ∧ s1.abs = s2.abs ∧ s1.size = s2.size ∧
      ∀ lo, lo < capLimit → DQ.extend s lo xs = .ok s1 ∨ DQ.extend s lo xs = .ok s2) := by
  constructor
  · intro s h
    obtain ⟨s1, hr1, hi1, ha1⟩ := MaxQ.pushAll_spec xs.toList h
    obtain ⟨s2, hr2, hwf2, hmap2, _, hm2⟩ := MaxQ.heapBuild_spec (wf_extend h.1 xs)
    obtain ⟨ha, hz⟩ := c07_same_abs hi1.1 hwf2 (ha1.trans (Array.foldl_toList _))
      ((abs_of_map_eq hmap2).trans (lookup_extend s xs))
    refine ⟨s1, s2, hr1, hr2, hi1, ⟨hwf2, hm2⟩, ha, hz, fun lo hlo => ?_⟩
    rw [MaxQ.extend_of_lt xs hlo]
    cases (if lo ≠ 0 then betterToRebuild s.size lo else false)
    · exact .inl hr1
    · exact .inr hr2
  · intro s h
    obtain ⟨s1, hr1, hi1, ha1⟩ := DQ.pushAll_spec h xs.toList
    obtain ⟨s2, hr2, hwf2, hmap2, _, hm2⟩ := DQ.heapBuild_spec (wf_extend h.1 xs)
    obtain ⟨ha, hz⟩ := c07_same_abs hi1.1 hwf2 (ha1.trans (Array.foldl_toList _))
      ((abs_of_map_eq hmap2).trans (lookup_extend s xs))
    refine ⟨s1, s2, hr1, hr2, hi1, ⟨hwf2, hm2⟩, ha, hz, fun lo hlo => ?_⟩
    rw [DQ.extend_of_lt xs hlo]
    cases (if lo ≠ 0 then betterToRebuild s.size lo else false)
    · exact .inl hr1
    · exact .inr hr2

example : bp_okR (MaxQ.pushAll [(⟨4, 0⟩, 9), (⟨7, 0⟩, 2), (⟨7, 1⟩, 6)] bp_exP) (fun s1 =>
    bp_okR (MaxQ.heapBuild (Store.extend bp_exP #[(⟨4, 0⟩, 9), (⟨7, 0⟩, 2), (⟨7, 1⟩, 6)])) (fun s2 =>
      MaxQ.Inv s1 ∧ MaxQ.Inv s2 ∧ s1.size = s2.size ∧ ∀ k, k < 9 → s1.abs k = s2.abs k)) := by decide +kernel

/-- **`append`** of two well-formed queues (order not needed): it succeeds; the receiver is correctly ordered and holds
the union — on a clash the receiver's entry stays, unless the other queue was strictly longer, in which case (the two
are swapped first) the other queue's entry stays; the other queue is left empty: all four of its tables -/
theorem C07_append {s o : Store P} (hs : s.WF) (ho : o.WF) :
    (∃ s' o', MaxQ.append s o = .ok (s', o') ∧ MaxQ.Inv s' ∧ MaxQ.Inv o' ∧
      o'.map = #[] ∧ o'.heap = #[] ∧ o'.qp = #[] ∧ o'.size = 0 ∧
      (∀ k, s'.abs k = if o.size > s.size then (o.abs k).or (s.abs k) else (s.abs k).or (o.abs k))) ∧
    (∃ s' o', DQ.append s o = .ok (s', o') ∧ DQ.Inv s' ∧ DQ.Inv o' ∧
      o'.map = #[] ∧ o'.heap = #[] ∧ o'.qp = #[] ∧ o'.size = 0 ∧
      (∀ k, s'.abs k = if o.size > s.size then (o.abs k).or (s.abs k) else (s.abs k).or (o.abs k))) := by
  constructor
  · obtain ⟨s', o', hrun, hi, hio, t1, t2, t3, t4, habs⟩ := MaxQ.append_spec hs ho
    exact ⟨s', o', hrun, hi, hio, t1, t3, t4, t2, habs⟩
  · obtain ⟨s', o', hrun, hi, hio, hsz, _, habs⟩ := DQ.append_spec hs ho
    obtain ⟨t1, t2, t3⟩ := hio.1.tables_empty_of_size_zero hsz
    exact ⟨s', o', hrun, hi, hio, t1, t2, t3, hsz, habs⟩

example : bp_exW.WF ∧ bp_exO.WF ∧
    bp_okR (MaxQ.append bp_exW bp_exO) (fun r => MaxQ.Inv r.1 ∧ r.1.size = 6 ∧ r.2.size = 0 ∧ r.2.map = #[] ∧
      r.1.abs 1 = some (⟨1, 10⟩, 5) ∧ r.1.abs 9 = some (⟨9, 90⟩, 2)) ∧
    bp_okR (DQ.append bp_exO bp_exW) (fun r => r.1.size = 6 ∧ r.2.size = 0 ∧ r.2.map = #[] ∧
      r.1.abs 1 = some (⟨1, 10⟩, 5) ∧ r.1.abs 9 = some (⟨9, 90⟩, 2)) := ⟨bp_exW_wf, bp_exO_wf, by decide +kernel⟩

/-- **`append` as an operation of the alphabet**: `Op.append o` takes ANY other queue `o` of the same kind, given by its
store; it is legal exactly when `o` is well-formed (it need not be ordered, and its index tables need not be the identity:
e.g. a queue built by pushes, or one left disordered by a leaked guard).  From any well-formed receiver `step` succeeds,
reports the other queue as empty (`Out.other 0 0 0 0`: its length and the lengths of its map and of both index tables),
and leaves a correctly ordered queue of the same kind holding the union (clash rule as in `C07_append`). -/
theorem C07_append_step {q : Q P} {o : Store P} (hq : q.s.WF) (hl : (Op.append o).Legal) :
    ∃ s', step q (.append o) = .ok (⟨q.kind, s'⟩, .other 0 0 0 0) ∧
      (match q.kind with | .pq => MaxQ.Inv s' | .dpq => DQ.Inv s') ∧
      (∀ k, s'.abs k = if o.size > q.s.size then (o.abs k).or (q.s.abs k) else (q.s.abs k).or (o.abs k)) := by
  have ho : o.WF := hl
  obtain ⟨kind, s⟩ := q
  obtain ⟨⟨s1, o1, h1, hi1, _, a1, a2, a3, a4, hu1⟩, ⟨s2, o2, h2, hi2, _, b1, b2, b3, b4, hu2⟩⟩ := C07_append hq ho
  cases kind
  · refine ⟨s1, (bind_of_ok h1 _).trans ?_, hi1, hu1⟩
    show Except.ok (_, Out.other o1.size o1.map.size o1.heap.size o1.qp.size) = _
    rw [a1, a2, a3, a4]; rfl
  · refine ⟨s2, (bind_of_ok h2 _).trans ?_, hi2, hu2⟩
    show Except.ok (_, Out.other o2.size o2.map.size o2.heap.size o2.qp.size) = _
    rw [b1, b2, b3, b4]; rfl

/-- an other queue that is a real heap built by seven pushes (index tables NOT the identity), LONGER than `bp_exW` -/
private def exOth7 : Store Nat :=
  match MaxQ.pushAll [(⟨1, 11⟩, 8), (⟨9, 90⟩, 2), (⟨10, 0⟩, 30), (⟨11, 0⟩, 4), (⟨12, 0⟩, 50), (⟨13, 0⟩, 6), (⟨14, 0⟩, 70)]
      Store.empty with
  | .ok s => s
  | .error _ => Store.empty

-- hypotheses: legal (well-formed), not an identity-table store, longer than the receiver
example : (Op.append exOth7).Legal ∧ exOth7.heap ≠ Array.range 7 ∧ exOth7.size = 7 ∧ bp_exW.size = 5 ∧
    ¬ MaxQ.Inv bp_exW := by
  refine ⟨?_, ?_⟩
  · show Store.WF _; decide +kernel
  · decide +kernel
-- the stores are swapped: on the clash (key 1) the entry of the LONGER other queue stays; the result is ordered; the other
-- queue is reported empty — on both kinds
example : bp_okR (step ⟨.pq, bp_exW⟩ (.append exOth7)) (fun r => MaxQ.Inv r.1.s ∧ r.1.s.size = 11 ∧
      r.1.s.abs 1 = some (⟨1, 11⟩, 8) ∧ r.1.s.abs 2 = some (⟨2, 20⟩, 0) ∧ r.1.s.abs 14 = some (⟨14, 0⟩, 70) ∧
      r.1.s.map.extract 0 7 = exOth7.map ∧ r.2 matches .other 0 0 0 0) ∧
    bp_okR (step ⟨.dpq, bp_exW⟩ (.append exOth7)) (fun r => r.1.s.WF ∧ r.1.s.size = 11 ∧
      r.1.s.abs 1 = some (⟨1, 11⟩, 8) ∧ r.2 matches .other 0 0 0 0) := by decide +kernel

/-- **conversion between the two kinds** (`From<DoublePriorityQueue> for PriorityQueue` and back): every well-formed
store — in particular a correctly ordered queue of the OTHER kind (`MaxQ.Inv s` and `DQ.Inv s` both contain `s.WF` as
their first component) — is turned into a correctly ordered queue of the
target kind with exactly the same map (same entries in the same slots) and length -/
theorem C07_convert {s : Store P} (h : s.WF) :
    (∃ s', MaxQ.ofStore s = .ok s' ∧ MaxQ.Inv s' ∧ s'.map = s.map ∧ s'.abs = s.abs ∧ s'.size = s.size) ∧
    (∃ s', DQ.ofStore s = .ok s' ∧ DQ.Inv s' ∧ s'.map = s.map ∧ s'.abs = s.abs ∧ s'.size = s.size) := by
  constructor
  · obtain ⟨s', hrun, hwf, hmap, hsz, hm⟩ := MaxQ.heapBuild_spec h
    exact ⟨s', hrun, ⟨hwf, hm⟩, hmap, by funext k; show IMap.lookup s'.map k = _; rw [hmap], hsz⟩
  · obtain ⟨s', hrun, hwf, hmap, hsz, hm⟩ := DQ.heapBuild_spec h
    exact ⟨s', hrun, ⟨hwf, hm⟩, hmap, by funext k; show IMap.lookup s'.map k = _; rw [hmap], hsz⟩

example : MaxQ.Inv bp_exP ∧ bp_okR (DQ.ofStore bp_exP) (fun s' => s'.map = bp_exP.map ∧ s'.size = 5 ∧
      bp_okR (MaxQ.ofStore s') (fun s'' => MaxQ.Inv s'' ∧ s''.map = bp_exP.map)) := ⟨bp_exP_inv, by decide +kernel⟩

end PQ

#print axioms PQ.C07_fromVec
#print axioms PQ.C07_fromIter
#print axioms PQ.C07_extend
#print axioms PQ.C07_hint_irrelevant
#print axioms PQ.C07_hint_irrelevant_legal
#print axioms PQ.C07_hint_nofault
#print axioms PQ.C07_illegal_lower_bound_is_capacity_panic
#print axioms PQ.C07_strategy_irrelevant
#print axioms PQ.C07_append
#print axioms PQ.C07_append_step
#print axioms PQ.C07_convert
