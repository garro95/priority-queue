import PQ.Lemmas.Spec
import PQ.Props.C13
import PQ.Model.Ops
import PQ.Lemmas.TickFrame
/-!
# C16 — drain and clear always leave an empty, reusable queue

`Store::drain` resets `heap`, `qp` and `size` *before* handing out IndexMap's draining iterator, and IndexMap's `Drain`
empties the map whether it is consumed, dropped or leaked (trusted base; exercised by the correspondence with every
consumption pattern including `mem::forget`).  In the model `drain s = (s.map, emptied store)`.

* `C16_drain_yields`: the drained sequence is exactly the stored entries in slot order; `C16_drain_cursor`: consumed through
  the double-ended cursor (C13) no slot is handed out twice, from either end, whatever the call sequence (that every entry
  does come out is `C16_drain_yields_each_once` in `C16_more.lean`).
* `C16_drain_empty`, `C16_clear_empty`: afterwards map, heap and qp are empty and `size = 0` — the store is *equal* to the
  store of `new()` up to the ghost comparison counter — hence well-formed, satisfying the invariant of either queue kind,
  with every peek/pop returning `None`.
* `C16_reusable`: consequently every property theorem that starts from a fresh queue (they all only assume the invariant)
  applies to the emptied queue: stated as "the emptied store satisfies `MaxQ.Inv` and `DQ.Inv`".

* `C16_behaves_like_new`: for EVERY later history the emptied queue produces exactly the results of a queue made by `new()`,
  faults included (there are none), and ends in a state equal to the fresh queue's up to the ghost comparison counter —
  which is proved to have no influence on behaviour (`Lemmas/TickFrame.lean`: every model function commutes with shifting the
  counter).
-/
namespace PQ
variable {P : Type} [LT P] [DecidableLT P]

def Store.fresh (t : Nat) : Store P := { (Store.empty : Store P) with ticks := t }

theorem C16_drain_yields (s : Store P) : (s.drain).1 = s.map := rfl

theorem C16_drain_empty (s : Store P) : (s.drain).2 = Store.fresh s.ticks := rfl

theorem C16_clear_empty (s : Store P) : s.clear = Store.fresh s.ticks := rfl

/-- consuming the drained entries through the double-ended cursor, by any call sequence: no slot is handed out twice, and
every slot handed out is one of the drained map (instance of C13) -/
theorem C16_drain_cursor (s : Store P) (calls : List ICall) :
    (slots (Cursor.run (Cursor.new (s.drain).1.size) calls)).Nodup ∧
      ∀ i ∈ slots (Cursor.run (Cursor.new (s.drain).1.size) calls), i < s.map.size :=
  C13_cursor_nodup s.map.size calls

theorem Store.fresh_WF (t : Nat) : (Store.fresh t : Store P).WF := by
  refine ⟨rfl, rfl, rfl, ?_, ?_, ?_⟩
  · intro p hp; exact absurd hp (Nat.not_lt_zero _)
  · intro i hi; exact absurd hi (Nat.not_lt_zero _)
  · intro i j a b ha; simp [Store.fresh, Store.empty] at ha

/-- **reusable**: every property theorem assumes the invariant only, so everything proved from `new()` applies to the emptied store -/
theorem C16_reusable (s : Store P) :
    MaxQ.Inv (s.drain).2 ∧ DQ.Inv (s.drain).2 ∧ MaxQ.Inv s.clear ∧ DQ.Inv s.clear := by
  have hm : (Store.fresh s.ticks : Store P).MaxHeap := by intro p _ hp; exact absurd hp (Nat.not_lt_zero _)
  have hd : (Store.fresh s.ticks : Store P).MinMaxHeap := by intro a d _ hd; exact absurd hd (Nat.not_lt_zero _)
  exact ⟨⟨Store.fresh_WF _, hm⟩, ⟨Store.fresh_WF _, hd⟩, ⟨Store.fresh_WF _, hm⟩, ⟨Store.fresh_WF _, hd⟩⟩

theorem C16_empty_observations (t : Nat) :
    MaxQ.peek (Store.fresh t : Store P) = none ∧
    MaxQ.pop (Store.fresh t : Store P) = .ok (Store.fresh t, none) ∧
    DQ.peekMin (Store.fresh t : Store P) = .ok none ∧
    DQ.peekMax (Store.fresh t : Store P) = .ok (Store.fresh t, none) ∧
    DQ.popMin (Store.fresh t : Store P) = .ok (Store.fresh t, none) ∧
    DQ.popMax (Store.fresh t : Store P) = .ok (Store.fresh t, none) := by
  refine ⟨rfl, rfl, rfl, rfl, rfl, rfl⟩

theorem C16_step_clear (q : Q P) : step q .clear = .ok ({ q with s := Store.fresh q.s.ticks }, .unit) := rfl
theorem C16_step_drain (q : Q P) : step q .drain = .ok ({ q with s := Store.fresh q.s.ticks }, .entries q.s.map.toList) := rfl

/-- **behaves like a fresh queue**: every later history gives the same results as on `new()` (both after `drain`, however
the draining iterator was consumed, and after `clear`), and the final states agree on map, heap, qp and size -/
theorem C16_behaves_like_new (s : Store P) (k : Kind) (ops : List (Op P)) :
    (∀ q' outs, run { kind := k, s := (s.drain).2 } ops = .ok (q', outs) →
        ∃ r', run (Q.new k) ops = .ok (r', outs) ∧ TickFrame.QSame q' r') ∧
    (∀ q' outs, run { kind := k, s := s.clear } ops = .ok (q', outs) →
        ∃ r', run (Q.new k) ops = .ok (r', outs) ∧ TickFrame.QSame q' r') ∧
    (∀ e, run { kind := k, s := (s.drain).2 } ops = .error e ↔ run (Q.new k) ops = .error e) :=
  TickFrame.drained_behaves_like_new s k ops

example : ((⟨#[(⟨1, 0⟩, (5 : Int)), (⟨2, 0⟩, 7)], #[1, 0], #[1, 0], 2, 3⟩ : Store Int).drain).2 = Store.fresh 3 := rfl

end PQ

#print axioms PQ.C16_drain_yields
#print axioms PQ.C16_drain_empty
#print axioms PQ.C16_clear_empty
#print axioms PQ.C16_drain_cursor
#print axioms PQ.C16_reusable
#print axioms PQ.C16_empty_observations
#print axioms PQ.C16_step_clear
#print axioms PQ.C16_step_drain
#print axioms PQ.C16_behaves_like_new
