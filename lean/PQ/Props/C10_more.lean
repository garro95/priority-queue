import PQ.Props.C10
/-!
# C10 — supplement: a panicking `Drop` inside `clear()` (finding F9)

`Drop` of an item or priority is user code too.  The only place where the crate drops stored elements *between* two
updates of its own tables is `Store::clear` (`drain` resets tables and size before the map's drain is handed out; the
elements `retain` rejects are dropped inside `IndexMap::retain`, before the crate touches its tables; the clashing pairs of
`append` / `extend` are dropped at iteration boundaries).  `IndexMap::clear` empties the map even when a `Drop` panics
(`Vec::clear` sets the length to zero first and keeps dropping — std's documented behaviour, trusted and exercised by the
harness's `!dr<k>` fuse), so what unwinding leaves is determined by the ORDER of the four statements of `clear`:

* tables, then `size = 0`, then `map.clear()` (the crate's order) — the crash state IS the result of `clear`: well-formed;
* tables, then `map.clear()`, then `size = 0` (the order before commit `14d71ec` of the crate) — the size is stale over empty tables, and the very
  next `peek_min` reads `heap[0]` through `get_unchecked` on an empty vector: `Fault.oob`, undefined behaviour in the real code
  (confirmed on the real crate: abort "unsafe precondition(s) violated: slice::get_unchecked").
-/
namespace PQ
variable {P : Type} [LT P] [DecidableLT P] [LE P] [Std.IsLinearPreorder P] [Std.LawfulOrderLT P]

/-- what a panicking `Drop` inside `clear()` leaves, with the crate's statement order -/
def clearDropCrash (s : Store P) : Store P := { s with heap := #[], qp := #[], size := 0, map := #[] }

/-- … and with `self.size = 0` as the last statement (never reached) -/
def clearDropCrashOriginal (s : Store P) : Store P := { s with heap := #[], qp := #[], map := #[] }

omit [LT P] [DecidableLT P] [LE P] [Std.IsLinearPreorder P] [Std.LawfulOrderLT P] in
/-- the state a panicking `Drop` leaves is exactly the result of `clear` -/
theorem C10_clear_drop_crash_is_clear (s : Store P) : clearDropCrash s = s.clear := rfl

/-- … hence well-formed, and every continuation (any legal history, leaked guards included) is fault-free -/
theorem C10_clear_drop_crash_then_any_history (k : Kind) (s : Store P) (ops : List (Op P)) (hops : ∀ o ∈ ops, o.Legal) :
    (clearDropCrash s).WF ∧ ∃ q'' outs, run (⟨k, clearDropCrash s⟩ : Q P) ops = .ok (q'', outs) ∧ QWF q'' := by
  have hw : (clearDropCrash s).WF := by rw [C10_clear_drop_crash_is_clear]; exact Store.wf_clear s
  exact ⟨hw, hist_continue (q := ⟨k, clearDropCrash s⟩) hw ops hops⟩

omit [LE P] [Std.IsLinearPreorder P] [Std.LawfulOrderLT P] in
/-- **F9**: with `size = 0` as the last statement, on ANY non-empty queue, the crash state makes the next `peek_min`
perform an out-of-bounds unchecked read (site 327) — whatever the elements and their order -/
theorem C10_original_clear_drop_crash_is_unsafe (s : Store P) (h : 0 < s.size) :
    DQ.peekMin (clearDropCrashOriginal s) = .error (.oob 327) := by
  have hs : (clearDropCrashOriginal s).size ≠ 0 := by simp [clearDropCrashOriginal]; omega
  simp only [DQ.peekMin, DQ.findMin, if_neg hs]
  simp [DQ.entryAt, clearDropCrashOriginal, getU, bind, Except.bind]

end PQ

#print axioms PQ.C10_clear_drop_crash_is_clear
#print axioms PQ.C10_clear_drop_crash_then_any_history
#print axioms PQ.C10_original_clear_drop_crash_is_unsafe
