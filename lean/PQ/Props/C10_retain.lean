import PQ.Lemmas.TablesOnlyPQ
import PQ.Lemmas.TablesOnlyDQ
import PQ.Model.Ops
import PQ.Lemmas.PQSafe
import PQ.Lemmas.History
/-!
# C10 — supplement: a panic of the closure of `retain` / `retain_mut` (or of the `Drop` of a rejected element)

`Store::retain_mut` is

```rust
self.map.retain2(|i, p| f(i, p));                 // (1) user code runs in here
if self.map.len() != self.size { … rebuild heap, qp, size … }   // (2)
```

The closure (and the `Drop` of every element it rejects) runs *inside* `IndexMap::retain` (1), before the crate touches
its own tables (2).  `IndexMap::retain` is `Vec::retain_mut` on the entry vector; when the closure panics at entry `j`,
`Vec::retain_mut`'s drop guard closes the gap: the vector is left holding **the kept images of the entries `0..j`
followed by the unprocessed entries `j..`** (the panicking entry included; a panicking `Drop` of the rejected entry `j`
is the same with `j+1` for `j`).  Statement (2) is never reached, so `heap`, `qp` and `size` are those of the old queue:
the map is SHORTER than the tables say.  This is the one reachable family of states of the crate that is NOT well-formed
(`Store.WF`) — every other panic point leaves a well-formed store (`C10_crash_state_wf`, `C10_callback_crash_state_wf`,
`C10_clear_drop_crash_is_clear`).

What remains true is `Store.TablesOnlyWF` (`PQ/Lemmas/TablesOnly.lean`): the two index tables are mutually inverse
bijections of `0..size`, have length `size`, and the map has AT MOST `size` entries.  The crash state satisfies it whatever
the predicate did (`C10_retain_pred_crash_twf`); from ANY store with that invariant EVERY operation of both kinds either
returns a store with it again or stops with `Fault.unwrapNone` — the crate's own `Option::unwrap()` on
`map.get_index(..)`, an ordinary panic — never with `Fault.oob` (an unchecked access out of bounds: undefined behaviour),
`Fault.arith`, `Fault.indexPanic`, `Fault.fuel` or `Fault.capacity` (`C10_tables_only_step`), hence so does every history
(`C10_tables_only_history`).  `retain` with a key-preserving closure repairs: it returns a queue satisfying its FULL
invariant (`C10_tables_only_retain_repairs`; this part uses a total preorder on priorities, like every ordering theorem);
`clear`, `drain` and the constructors return a well-formed queue whatever the state was.  (`From<other kind>` and a dropped
`iter_mut` guard rebuild the heap but not the tables: they keep the tables-only invariant and do not repair.)

Up to the histories no hypothesis on the priorities' order is used (`[LT P] [DecidableLT P]` only: any `Ord`, lawful or not),
and of `Op.Legal` only `o.WF` for the other queue of `append` and the legality of the `size_hint` of `extend` / `from_iter`:
the invariant does not mention keys, so closures may even change the identity of items.

Why `Fault.arith` cannot happen: `size -= 1` (sites 108, 118) is reached only behind `size != 0` (`pop*`: the `match` on
`size` / `find_min` / `find_max`) or behind a successful map lookup (`remove`: the map is non-empty, and `map.len() ≤ size`
is part of the invariant — this is where `map_le` is needed); `parent(i)` (sites 208, 302, 305, 307, 309, 326) is reached with
`size ≥ 2` resp. on a grandchild; the `IterMut` length subtractions (401, 402) only depend on the cursors.

Scope: the model's `IMap` is a consistent IndexMap.  After a panic inside `IndexMap::retain` the real IndexMap's *hash
index* is stale too (its rebuild is skipped like the crate's); IndexMap is safe code and the trusted base — its lookups
then panic (bounds-checked) or answer a slot `< map.len()`.  The theorems below do not depend on WHICH slot a lookup answers,
only on its being a slot of the map (`find?_lt_size`), which is why they are stated for an arbitrary shorter map.
-/
namespace PQ
open TO
variable {P : Type}

/-- what a panic of the closure of `retain` / `retain_mut` **on entry** `j` leaves: the kept (possibly rewritten) images of
the first `j` entries, then the unprocessed entries `j..`; tables and `size` untouched.  (A panicking `Drop` of the
rejected entry `j` is `retainPredCrash s f (j+1)`.) -/
def retainPredCrash (s : Store P) (f : Item → P → Bool × Item × P) (j : Nat) : Store P :=
  { s with map := IMap.retain (s.map.extract 0 j) f ++ s.map.extract j s.map.size }

/-- … when the closure first wrote through the `&mut I` / `&mut P` it was handed and only then panicked: entry `j` is
left as `e'` -/
def retainPredCrashW (s : Store P) (f : Item → P → Bool × Item × P) (j : Nat) (e' : Item × P) : Store P :=
  { s with map := IMap.retain (s.map.extract 0 j) f ++ #[e'] ++ s.map.extract (j + 1) s.map.size }

/-- the general form: tables and `size` of a well-formed store over ANY map that is not longer -/
theorem C10_retain_crash_any_shorter_map {s : Store P} (h : s.WF) (m' : IMap P) (hm : m'.size ≤ s.map.size) :
    ({ s with map := m' } : Store P).TablesOnlyWF :=
  towf_map_update (towf_of_wf h) hm

theorem retainPredCrash_map_size (s : Store P) (f : Item → P → Bool × Item × P) (j : Nat) :
    (retainPredCrash s f j).map.size = (IMap.retain (s.map.extract 0 j) f).size + (s.map.size - j) := by
  simp [retainPredCrash]

/-- the state left by a panic of the `retain` closure at any entry `j`, for any closure `f`, satisfies the
tables-only invariant -/
theorem C10_retain_pred_crash_twf {s : Store P} (h : s.WF) (f : Item → P → Bool × Item × P) {j : Nat}
    (hj : j ≤ s.map.size) : (retainPredCrash s f j).TablesOnlyWF := by
  refine C10_retain_crash_any_shorter_map h _ ?_
  have h1 := IMap.size_retain_le (s.map.extract 0 j) f
  have h2 : (s.map.extract 0 j).size = j := by simp; omega
  simp only [Array.size_append, Array.size_extract]
  omega

/-- … also when the closure wrote to the entry it panicked on -/
theorem C10_retain_pred_crashW_twf {s : Store P} (h : s.WF) (f : Item → P → Bool × Item × P) {j : Nat}
    (hj : j < s.map.size) (e' : Item × P) : (retainPredCrashW s f j e').TablesOnlyWF := by
  refine C10_retain_crash_any_shorter_map h _ ?_
  have h1 := IMap.size_retain_le (s.map.extract 0 j) f
  have h2 : (s.map.extract 0 j).size = j := by simp; omega
  simp only [Array.size_append, Array.size_extract, List.size_toArray, List.length_cons, List.length_nil]
  omega

/-- the crash state is NOT well-formed as soon as one of the processed entries was rejected (the map is strictly shorter
than `size`): the family is genuinely outside the reach of the `WF`-based theorems -/
theorem C10_retain_pred_crash_not_wf {s : Store P} (h : s.WF) (f : Item → P → Bool × Item × P) {j : Nat}
    (hj : j ≤ s.map.size) (hrej : (IMap.retain (s.map.extract 0 j) f).size < j) : ¬ (retainPredCrash s f j).WF := by
  intro hw
  have h1 : (retainPredCrash s f j).map.size = s.size := hw.map_size
  rw [retainPredCrash_map_size s f j, ← h.map_size] at h1
  omega

/-- statement (2) of `retain_mut` is never reached: tables, `size` and tick counter of the crash state are the old ones -/
theorem C10_retain_pred_crash_tables (s : Store P) (f : Item → P → Bool × Item × P) (j : Nat) :
    (retainPredCrash s f j).heap = s.heap ∧ (retainPredCrash s f j).qp = s.qp ∧
      (retainPredCrash s f j).size = s.size ∧ (retainPredCrash s f j).ticks = s.ticks := ⟨rfl, rfl, rfl, rfl⟩

theorem to_keys_filterMap_sublist (f : Item → P → Bool × Item × P) (hf : ∀ it p, (f it p).2.1.key = it.key) :
    ∀ l : List (Item × P), ((l.filterMap (IMap.retainStep f)).map (·.1.key)).Sublist (l.map (·.1.key)) := by
  intro l
  induction l with
  | nil => exact List.Sublist.refl _
  | cons e l ih =>
    rw [List.filterMap_cons]
    cases hr : IMap.retainStep f e with
    | none => simp only [List.map_cons]; exact ih.cons _
    | some b =>
      have hb : b.1.key = e.1.key := by
        unfold IMap.retainStep at hr
        dsimp only at hr
        split at hr
        · cases hr; exact hf _ _
        · cases hr
      simp only [List.map_cons, hb]
      exact ih.cons_cons _

theorem C10_retain_pred_crash_nodup {s : Store P} (h : s.WF) (f : Item → P → Bool × Item × P)
    (hf : ∀ it p, (f it p).2.1.key = it.key) (j : Nat) : (retainPredCrash s f j).map.NoDupKeys := by
  rw [IMap.noDupKeys_iff_nodup]
  have hn := IMap.noDupKeys_iff_nodup.1 h.nodup
  refine List.Nodup.sublist ?_ hn
  have hsplit : s.map.toList = (s.map.extract 0 j).toList ++ (s.map.extract j s.map.size).toList := by
    simp only [Array.toList_extract, List.extract_eq_take_drop, List.drop_zero, Nat.sub_zero]
    rw [List.take_of_length_le (i := s.map.size - j) (l := List.drop j s.map.toList) (by simp), List.take_append_drop]
  rw [hsplit]
  simp only [retainPredCrash, Array.toList_append, List.map_append, IMap.toList_retain']
  exact List.Sublist.append (to_keys_filterMap_sublist f hf _) (List.Sublist.refl _)


theorem to_size_applyWrite (m : IMap P) (i : Nat) (w : IMWrite P) : (IMap.applyWrite m i w).size = m.size := by
  unfold IMap.applyWrite
  split
  · exact Array.size_setIfInBounds ..
  · rfl

theorem to_dIterMut_step (n : Nat) (it : DIterMut) (c : ICall) (h : it.pos ≤ it.back) :
    SafeR (fun r => r.1.pos ≤ r.1.back) (it.step n c) := by
  cases c <;> simp only [DIterMut.step]
  · split
    · exact SafeR.pure h
    · exact SafeR.pure (by show it.pos + 1 ≤ it.back; omega)
  · split
    · exact SafeR.pure h
    · exact SafeR.pure (by show it.pos ≤ it.back - 1; omega)
  · rw [if_neg (by omega)]; exact SafeR.pure h
  · rw [if_neg (by omega)]; exact SafeR.pure h

theorem to_iterMutRun_cons (kind : Kind) (n : Nat) (c : ICall) (w : IMWrite P) (rest : List (ICall × IMWrite P))
    (pit : PIterMut) (dit : DIterMut) (m : IMap P) :
    iterMutRun kind n ((c, w) :: rest) pit dit m =
      ((match kind with
        | .pq => pure ((pit.step n c).1, dit, (pit.step n c).2)
        | .dpq => dit.step n c >>= fun r => pure (pit, r.1, r.2) : R (PIterMut × DIterMut × IOut)) >>= fun r =>
        iterMutRun kind n rest r.1 r.2.1
            (match r.2.2 with | .slot (some i) => IMap.applyWrite m i w | _ => m) >>= fun r2 =>
          pure (r.2.2 :: r2.1, r2.2)) := by
  cases kind
  · rfl
  · simp only [iterMutRun]
    cases dit.step n c <;> rfl

theorem to_iterMutRun (kind : Kind) (n : Nat) : ∀ (prog : List (ICall × IMWrite P)) (pit : PIterMut) (dit : DIterMut)
    (m : IMap P), dit.pos ≤ dit.back → SafeR (fun r => r.2.size = m.size) (iterMutRun kind n prog pit dit m) := by
  intro prog
  induction prog with
  | nil => intro pit dit m _; exact SafeR.pure rfl
  | cons cw rest ih =>
    intro pit dit m hd
    obtain ⟨c, w⟩ := cw
    rw [to_iterMutRun_cons]
    refine SafeR.bind (Q := fun r => r.2.1.pos ≤ r.2.1.back) ?_ fun r hr => ?_
    · cases kind
      · exact SafeR.pure hd
      · exact SafeR.bind (to_dIterMut_step n dit c hd) fun r hr => SafeR.pure hr
    · refine SafeR.bind (ih r.1 r.2.1 _ hr) fun r2 hr2 => ?_
      refine SafeR.pure ?_
      show r2.2.size = m.size
      rw [hr2]
      split
      · exact to_size_applyWrite ..
      · rfl

section Step
variable [LT P] [DecidableLT P]

theorem to_heapBuildK {s : Store P} (kind : Kind) (h : s.TablesOnlyWF) :
    SafeR Store.TablesOnlyWF (heapBuildK kind s) := by
  cases kind
  · exact TO.MaxQ.heapBuild_to h
  · exact TO.DQ.heapBuild_to h

/-- `step` wraps the store-level result of the kind's operation into a queue and an output -/
theorem to_lift {α β : Type} {x : R α} {f : α → β} {post : β → Prop} (hx : SafeR (fun a => post (f a)) x) :
    SafeR post (x >>= fun a => pure (f a)) :=
  SafeR.bind hx fun _ ha => SafeR.pure ha

/-- from the tables-only invariant, every operation `op` of either queue kind (`Op.Legal` as everywhere: the
other queue of `append` is a queue, the `size_hint` of `extend`/`from_iter` is a legal one) either returns a store with
the tables-only invariant, or stops with the ordinary panic `unwrapNone` -/
theorem C10_tables_only_step {q : Q P} {op : Op P} (h : q.s.TablesOnlyWF) (hl : op.Legal) :
    SafeR (fun r => r.1.s.TablesOnlyWF) (step q op) := by
  obtain ⟨kind, s⟩ := q
  change s.TablesOnlyWF at h
  cases op with
  | push it p =>
    cases kind
    · exact to_lift (TO.MaxQ.push_to h it p)
    · exact to_lift (TO.DQ.push_to h it p)
  | pushIncrease it p =>
    cases kind
    · exact to_lift (TO.MaxQ.pushIncrease_to h it p)
    · exact to_lift (TO.DQ.pushIncrease_to h it p)
  | pushDecrease it p =>
    cases kind
    · exact to_lift (TO.MaxQ.pushDecrease_to h it p)
    · exact to_lift (TO.DQ.pushDecrease_to h it p)
  | changePriority k p =>
    cases kind
    · exact to_lift (TO.MaxQ.changePriority_to h k p)
    · exact to_lift (TO.DQ.changePriority_to h k p)
  | changePriorityBy k g =>
    cases kind
    · exact to_lift (TO.MaxQ.changePriorityBy_to h k g)
    · exact to_lift (TO.DQ.changePriorityBy_to h k g)
  | remove k =>
    cases kind
    · exact to_lift (TO.MaxQ.remove_to h k)
    · exact to_lift (TO.DQ.remove_to h k)
  | getMut k w => exact SafeR.pure (getMutWrite_to h k w)
  | popFront =>
    cases kind
    · exact to_lift (TO.MaxQ.pop_to h)
    · exact to_lift (TO.DQ.popMin_to h)
  | popBack =>
    cases kind
    · exact SafeR.pure h
    · exact to_lift (TO.DQ.popMax_to h)
  | popFrontIf f =>
    cases kind
    · exact to_lift (TO.MaxQ.popIf_to h f)
    · exact to_lift (TO.DQ.popMinIf_to h f)
  | popBackIf f =>
    cases kind
    · exact SafeR.pure h
    · exact to_lift (TO.DQ.popMaxIf_to h f)
  | peekFrontMut w =>
    cases kind
    · exact to_lift (TO.MaxQ.peekMutWrite_to h w)
    · exact to_lift (TO.DQ.peekMinMutWrite_to h w)
  | peekBackMut w =>
    cases kind
    · exact SafeR.pure h
    · exact to_lift (TO.DQ.peekMaxMutWrite_to h w)
  | retainMut f =>
    cases kind
    · exact to_lift (TO.MaxQ.retainMut_to h f)
    · exact to_lift (TO.DQ.retainMut_to h f)
  | iterMut leak prog =>
    unfold step
    dsimp only
    refine SafeR.bind (to_iterMutRun kind s.map.size prog PIterMut.new (DIterMut.new s.map.size) s.map
      (Nat.zero_le _)) fun r hr => ?_
    have h1 : ({ s with map := r.2 } : Store P).TablesOnlyWF := towf_map_update h (Nat.le_of_eq hr)
    cases leak
    · exact to_lift (to_heapBuildK kind h1)
    · exact SafeR.pure h1
  | extend lo xs =>
    have hlo : lo < capLimit := Nat.lt_of_le_of_lt hl.1 hl.2
    cases kind
    · exact to_lift (TO.MaxQ.extend_to h hlo xs)
    · exact to_lift (TO.DQ.extend_to h hlo xs)
  | append o =>
    cases kind
    · exact to_lift (TO.MaxQ.append_to h (towf_of_wf hl))
    · exact to_lift (TO.DQ.append_to h (towf_of_wf hl))
  | fromVec xs =>
    cases kind
    · exact to_lift (TO.MaxQ.heapBuild_to (towf_of_wf (Store.wf_fromVec xs)))
    · exact to_lift (TO.DQ.heapBuild_to (towf_of_wf (Store.wf_fromVec xs)))
  | fromIter lo xs =>
    have hlo : lo < capLimit := Nat.lt_of_le_of_lt hl.1 hl.2
    have h0 : (Store.fromIter xs).TablesOnlyWF := towf_of_wf (Store.wf_fromIter xs)
    cases kind
    · refine to_lift ?_
      rw [PQ.MaxQ.fromIter_of_lt xs hlo]
      exact TO.MaxQ.heapBuild_to h0
    · refine to_lift ?_
      rw [PQ.DQ.fromIter_of_lt xs hlo]
      exact TO.DQ.heapBuild_to h0
  | deserialize hint xs =>
    have h0 : (Store.visitSeq xs).TablesOnlyWF := towf_of_wf (Store.wf_visitSeq xs)
    cases kind
    · refine to_lift ?_
      rw [PQ.MaxQ.deserialize_eq]
      exact TO.MaxQ.heapBuild_to h0
    · refine to_lift ?_
      rw [PQ.DQ.deserialize_eq]
      exact TO.DQ.heapBuild_to h0
  | convert =>
    cases kind
    · exact to_lift (TO.DQ.ofStore_to h)
    · exact to_lift (TO.MaxQ.ofStore_to h)
  | clear => exact SafeR.pure (towf_clear s)
  | drain => exact SafeR.pure (towf_drain s)
  | capacityOp => exact SafeR.pure h

/-- `C10_tables_only_step` spelled out.  From the tables-only invariant and for every legal operation of either kind:
no unchecked access is out of bounds (`Fault.oob`, any site), no checked subtraction underflows (`Fault.arith`, any
site), the only fault there can be is `unwrapNone` (so none of `indexPanic`, `fuel`, `capacity`, `userPanic` either), and a
returned store satisfies the tables-only invariant again -/
theorem C10_tables_only_never_oob {q : Q P} {op : Op P} (h : q.s.TablesOnlyWF) (hl : op.Legal) :
    (∀ site, step q op ≠ .error (.oob site)) ∧ (∀ site, step q op ≠ .error (.arith site)) ∧
    (∀ f, step q op = .error f → ∃ site, f = .unwrapNone site) ∧
    (∀ q' o, step q op = .ok (q', o) → q'.s.TablesOnlyWF) :=
  have hs := C10_tables_only_step h hl
  ⟨hs.not_oob, hs.not_arith, fun _ hf => hs.of_error hf, fun _ _ hok => hs.of_ok hok⟩

/-- the operations that do not look at the old tables give back full well-formedness, whatever the state was -/
theorem C10_tables_only_reset_wf (q : Q P) :
    (∃ q', step q .clear = .ok (q', .unit) ∧ q'.s.WF) ∧
    (∃ q', step q .drain = .ok (q', .entries q.s.map.toList) ∧ q'.s.WF) :=
  ⟨⟨_, rfl, Store.wf_clear q.s⟩, ⟨_, rfl, Store.wf_drain q.s⟩⟩

/-- every history of legal operations from a tables-only state — `run` ends the history at the first fault, which
can only be the ordinary panic `unwrapNone` — ends in a tables-only state or in that panic -/
theorem C10_tables_only_history (ops : List (Op P)) : ∀ {q : Q P}, q.s.TablesOnlyWF → (∀ op ∈ ops, op.Legal) →
    SafeR (fun r => r.1.s.TablesOnlyWF) (run q ops) := by
  induction ops with
  | nil => intro q h _; exact SafeR.pure h
  | cons op ops ih =>
    intro q h hl
    unfold run
    refine SafeR.bind (C10_tables_only_step h (hl op (List.mem_cons_self ..))) fun r hr => ?_
    obtain ⟨q', o⟩ := r
    dsimp only at hr ⊢
    refine SafeR.bind (ih hr fun op' hop' => hl op' (List.mem_cons_of_mem _ hop')) fun r2 hr2 => ?_
    exact SafeR.pure hr2

/-- … in particular no history of legal operations from a tables-only state ever performs an out-of-bounds unchecked
access, nor an arithmetic underflow: if it stops, it stops with `unwrapNone` -/
theorem C10_tables_only_history_never_oob (ops : List (Op P)) {q : Q P} (h : q.s.TablesOnlyWF)
    (hl : ∀ op ∈ ops, op.Legal) :
    (∀ site, run q ops ≠ .error (.oob site)) ∧ (∀ site, run q ops ≠ .error (.arith site)) ∧
    (∀ f, run q ops = .error f → ∃ site, f = .unwrapNone site) ∧
    (∀ q' outs, run q ops = .ok (q', outs) → q'.s.TablesOnlyWF) :=
  have hs := C10_tables_only_history ops h hl
  ⟨hs.not_oob, hs.not_arith, fun _ hf => hs.of_error hf, fun _ _ hok => hs.of_ok hok⟩

/-- the whole scenario: a well-formed queue of either kind, `retain` / `retain_mut` with ANY closure panicking at ANY
entry, then ANY history of legal operations: never an out-of-bounds unchecked access -/
theorem C10_retain_pred_crash_then_any_history (k : Kind) {s : Store P} (h : s.WF) (f : Item → P → Bool × Item × P)
    {j : Nat} (hj : j ≤ s.map.size) (ops : List (Op P)) (hl : ∀ op ∈ ops, op.Legal) :
    (∀ site, run (⟨k, retainPredCrash s f j⟩ : Q P) ops ≠ .error (.oob site)) ∧
    (∀ site, run (⟨k, retainPredCrash s f j⟩ : Q P) ops ≠ .error (.arith site)) ∧
    (∀ flt, run (⟨k, retainPredCrash s f j⟩ : Q P) ops = .error flt → ∃ site, flt = .unwrapNone site) ∧
    (∀ q' outs, run (⟨k, retainPredCrash s f j⟩ : Q P) ops = .ok (q', outs) → q'.s.TablesOnlyWF) :=
  C10_tables_only_history_never_oob ops (q := ⟨k, retainPredCrash s f j⟩) (C10_retain_pred_crash_twf h f hj) hl

end Step

section Repair
variable [LT P] [DecidableLT P] [LE P] [Std.IsLinearPreorder P] [Std.LawfulOrderLT P]

omit [LT P] [DecidableLT P] [LE P] [Std.IsLinearPreorder P] [Std.LawfulOrderLT P] in
/-- the store-level `retain_mut` on a tables-only state with unique keys gives a WELL-FORMED store: the map of such a state
is shorter than `size` (or the state is well-formed already), so the tables are rebuilt from scratch -/
theorem C10_tables_only_retainMut_wf {s : Store P} (h : s.TablesOnlyWF) (hn : s.map.NoDupKeys)
    {g : Item → P → Bool × Item × P} (hg : ∀ it p, (g it p).2.1.key = it.key) : (s.retainMut g).WF := by
  by_cases hm : s.map.size = s.size
  · exact Store.wf_retainMut (wf_iff_towf.2 ⟨h, hm, hn⟩) hg
  · have hlt : (s.map.retain g).size ≠ s.size := by
      have h1 := IMap.size_retain_le s.map g
      have h2 := h.map_le
      omega
    rw [Store.retainMut_of_size_ne hlt]
    exact Store.wf_identity (hn.retain hg) s.ticks

/-- **`retain` repairs.**  On a tables-only state with unique keys, `retain` / `retain_mut` with any key-preserving closure
`g` runs without any fault and returns a queue satisfying the FULL invariant of its kind (well-formed and correctly
ordered) that holds exactly the entries `g` keeps -/
theorem C10_tables_only_retain_repairs {q : Q P} (h : q.s.TablesOnlyWF) (hn : q.s.map.NoDupKeys)
    (g : Item → P → Bool × Item × P) (hg : (Op.retainMut g).Legal) :
    ∃ q', step q (.retainMut g) = .ok (q', .unit) ∧ QInv q' ∧ q'.kind = q.kind ∧ q'.s.map = q.s.map.retain g := by
  obtain ⟨kind, s⟩ := q
  have hw := C10_tables_only_retainMut_wf h hn hg
  cases kind
  · obtain ⟨s', h1, h2, h3, _, h5⟩ := MaxQ.heapBuild_spec hw
    refine ⟨⟨.pq, s'⟩, ?_, ⟨h2, h5⟩, rfl, by show s'.map = _; rw [h3, Store.retainMut_map]⟩
    show (MaxQ.retainMut s g >>= _) = _
    unfold MaxQ.retainMut
    rw [h1]; rfl
  · obtain ⟨s', h1, h2, h3, _, h5⟩ := DQ.heapBuild_spec hw
    refine ⟨⟨.dpq, s'⟩, ?_, ⟨h2, h5⟩, rfl, by show s'.map = _; rw [h3, Store.retainMut_map]⟩
    show (DQ.retainMut s g >>= _) = _
    unfold DQ.retainMut
    rw [h1]; rfl

/-- the scenario: a well-formed queue, `retain` with a key-preserving closure `f` that panics at entry `j`, the panic is
caught, `retain` is called again with any key-preserving closure `g`: no fault, and the queue satisfies its full invariant
again -/
theorem C10_retain_pred_crash_repaired_by_retain (k : Kind) {s : Store P} (h : s.WF) (f : Item → P → Bool × Item × P)
    (hf : ∀ it p, (f it p).2.1.key = it.key) {j : Nat} (hj : j ≤ s.map.size) (g : Item → P → Bool × Item × P)
    (hg : ∀ it p, (g it p).2.1.key = it.key) :
    ∃ q', step (⟨k, retainPredCrash s f j⟩ : Q P) (.retainMut g) = .ok (q', .unit) ∧ QInv q' ∧
      q'.s.map = (retainPredCrash s f j).map.retain g :=
  have ⟨q', h1, h2, _, h4⟩ := C10_tables_only_retain_repairs (q := ⟨k, retainPredCrash s f j⟩)
    (C10_retain_pred_crash_twf h f hj) (C10_retain_pred_crash_nodup h f hf j) g hg
  ⟨q', h1, h2, h4⟩

/-- the constructors do not look at the old state at all: on ANY queue (tables-only or worse) `From<Vec>`,
`FromIterator` (legal `size_hint`) and `Deserialize` (any announced length) run without fault and return a well-formed
queue -/
theorem C10_tables_only_constructors_wf (q : Q P) :
    (∀ xs, ∃ q', step q (.fromVec xs) = .ok (q', .unit) ∧ q'.s.WF) ∧
    (∀ lo xs, (Op.fromIter lo xs : Op P).Legal → ∃ q', step q (.fromIter lo xs) = .ok (q', .unit) ∧ q'.s.WF) ∧
    (∀ hint xs, ∃ q', step q (.deserialize hint xs) = .ok (q', .unit) ∧ q'.s.WF) := by
  obtain ⟨kind, s⟩ := q
  refine ⟨fun xs => ?_, fun lo xs hl => ?_, fun hint xs => ?_⟩
  · cases kind
    · obtain ⟨s', h1, h2, _⟩ := MaxQ.fromVec_safe xs
      exact ⟨⟨.pq, s'⟩, by show (MaxQ.fromVec xs >>= _) = _; rw [h1]; rfl, h2⟩
    · obtain ⟨s', h1, h2, _⟩ := DQ.fromVec_safe xs
      exact ⟨⟨.dpq, s'⟩, by show (DQ.fromVec xs >>= _) = _; rw [h1]; rfl, h2⟩
  · have hlo : lo < capLimit := Nat.lt_of_le_of_lt hl.1 hl.2
    cases kind
    · obtain ⟨s', h1, h2, _⟩ := MaxQ.fromIter_safe lo xs hlo
      exact ⟨⟨.pq, s'⟩, by show (MaxQ.fromIter lo xs >>= _) = _; rw [h1]; rfl, h2⟩
    · obtain ⟨s', h1, h2, _⟩ := DQ.fromIter_safe lo xs hlo
      exact ⟨⟨.dpq, s'⟩, by show (DQ.fromIter lo xs >>= _) = _; rw [h1]; rfl, h2⟩
  · cases kind
    · obtain ⟨s', h1, h2, _⟩ := MaxQ.deserialize_safe hint xs
      exact ⟨⟨.pq, s'⟩, by show (MaxQ.deserialize hint xs >>= _) = _; rw [h1]; rfl, h2⟩
    · obtain ⟨s', h1, h2, _⟩ := DQ.deserialize_safe hint xs
      exact ⟨⟨.dpq, s'⟩, by show (DQ.deserialize hint xs >>= _) = _; rw [h1]; rfl, h2⟩

end Repair

/-! ## Non-vacuity: a five-element queue, a predicate that panics at the third element -/
section Examples

/-- five entries, heap order `9 7 8 1 5` (a max-heap), non-identity tables -/
def rc_s5 : Store Nat :=
  { map := #[(⟨1, 10⟩, 5), (⟨2, 20⟩, 9), (⟨3, 30⟩, 1), (⟨4, 40⟩, 8), (⟨5, 50⟩, 7)],
    heap := #[1, 4, 3, 2, 0], qp := #[4, 0, 3, 2, 1], size := 5 }

/-- keep the entries whose priority is not a multiple of 3, bump the payload; the panic comes at the third entry (`j = 2`) -/
def rc_f : Item → Nat → Bool × Item × Nat := fun it p => (p % 3 != 0, ⟨it.key, it.payload + 1⟩, p)

/-- the crash state: entry 0 kept (rewritten), entry 1 rejected, entries 2.. unprocessed; four entries under tables of five -/
def rc_crash : Store Nat := retainPredCrash rc_s5 rc_f 2

example : rc_s5.WF ∧ MaxQ.Inv rc_s5 := by decide +kernel
example : rc_crash.map = #[(⟨1, 11⟩, 5), (⟨3, 30⟩, 1), (⟨4, 40⟩, 8), (⟨5, 50⟩, 7)] ∧ rc_crash.heap = rc_s5.heap ∧
    rc_crash.qp = rc_s5.qp ∧ rc_crash.size = 5 := by decide +kernel
example : rc_crash.TablesOnlyWF ∧ ¬ rc_crash.WF := by decide +kernel
example : (IMap.retain (rc_s5.map.extract 0 2) rc_f).size < 2 := by decide +kernel

private def rcNoOob {α : Type} (r : R α) : Bool :=
  match r with
  | .ok _ => true
  | .error (.unwrapNone _) => true
  | .error _ => false

private def rcIsUnwrap {α : Type} (r : R α) : Bool :=
  match r with
  | .error (.unwrapNone _) => true
  | _ => false

private def rcOkTO (r : R (Q Nat × Out Nat)) : Prop :=
  match r with
  | .ok (q', _) => q'.s.TablesOnlyWF
  | .error _ => False

private instance (r : R (Q Nat × Out Nat)) : Decidable (rcOkTO r) := by unfold rcOkTO; split <;> infer_instance

private def rcOkWF (r : R (Q Nat × Out Nat)) (n : Nat) : Prop :=
  match r with
  | .ok (q', _) => q'.s.WF ∧ q'.s.size = n
  | .error _ => False

private instance (r : R (Q Nat × Out Nat)) (n : Nat) : Decidable (rcOkWF r n) := by unfold rcOkWF; split <;> infer_instance

/-- `pop` on the crash state does not fault with `oob`: it stops with the ordinary panic `unwrapNone` (the slot at the root is
slot 1, whose entry is now `(3, 1)`; the sift-down reads slot 4, which the map no longer has) -/
example : rcNoOob (MaxQ.pop rc_crash) = true ∧ rcIsUnwrap (MaxQ.pop rc_crash) = true := by decide +kernel
example : rcNoOob (DQ.popMin rc_crash) = true ∧ rcNoOob (DQ.popMax rc_crash) = true := by decide +kernel
private def rcRunTO (r : R (Q Nat × List (Out Nat))) (m n : Nat) : Prop :=
  match r with
  | .ok (q', _) => q'.s.TablesOnlyWF ∧ q'.s.map.size = m ∧ q'.s.size = n
  | .error _ => False

private instance (r : R (Q Nat × List (Out Nat))) (m n : Nat) : Decidable (rcRunTO r m n) := by
  unfold rcRunTO; split <;> infer_instance

/-- most operations on THIS crash state stop with `unwrapNone` (heap position 1 holds slot 4, which the map no longer has) -/
example : rcIsUnwrap (step ⟨.pq, rc_crash⟩ (.changePriority 3 0)) = true ∧
    rcIsUnwrap (step ⟨.pq, rc_crash⟩ (.push ⟨9, 0⟩ 4)) = true ∧
    rcIsUnwrap (step ⟨.dpq, rc_crash⟩ (.peekBackMut id)) = true ∧
    rcIsUnwrap (step ⟨.dpq, rc_crash⟩ .popBack) = true := by decide +kernel
/-- operations that succeed on the crash state and keep the invariant (the state stays NOT well-formed: 3 entries under
tables of 4, then 2 under 3) -/
example : rcOkTO (step ⟨.pq, rc_crash⟩ (.remove 1)) ∧ rcOkTO (step ⟨.dpq, rc_crash⟩ (.remove 1)) := by decide +kernel
example : rcRunTO (run ⟨.pq, rc_crash⟩ [.remove 1, .getMut 3 id, .iterMut true [], .peekFrontMut id]) 3 4 := by
  decide +kernel
example : rcRunTO (run ⟨.pq, rc_crash⟩ [.remove 1, .remove 4]) 2 3 ∧
    rcRunTO (run ⟨.dpq, rc_crash⟩ [.remove 1, .remove 4]) 2 3 := by decide +kernel
/-- `retain` (any predicate) rebuilds the tables: the queue is well-formed again, and stays so -/
example : rcOkWF (step ⟨.pq, rc_crash⟩ (.retainMut fun it p => (true, it, p))) 4 := by decide +kernel
example : rcOkWF (step ⟨.dpq, rc_crash⟩ (.retainMut fun it p => (true, it, p))) 4 := by decide +kernel
example : rcRunTO (run ⟨.pq, rc_crash⟩ [.remove 1, .retainMut (fun it p => (true, it, p)), .push ⟨9, 0⟩ 4, .popFront])
    3 3 := by decide +kernel
/-- whole histories on the crash state (both kinds) that stop: with `unwrapNone` -/
example : rcIsUnwrap (run ⟨.pq, rc_crash⟩ [.remove 1, .remove 3, .popFront]) = true := by decide +kernel
example : rcIsUnwrap (run ⟨.dpq, rc_crash⟩ [.remove 1, .remove 5, .push ⟨9, 0⟩ 4]) = true := by decide +kernel
/-- the hypotheses of `C10_tables_only_retain_repairs` hold of the crash state (`rc_f` keeps keys) -/
example : rc_crash.TablesOnlyWF ∧ rc_crash.map.NoDupKeys ∧ ∀ it p, (rc_f it p).2.1.key = it.key :=
  ⟨by decide +kernel, by decide +kernel, fun _ _ => rfl⟩
/-- the closure wrote to the entry it panicked on -/
example : (retainPredCrashW rc_s5 rc_f 2 (⟨3, 99⟩, 100)).TablesOnlyWF ∧ ¬ (retainPredCrashW rc_s5 rc_f 2 (⟨3, 99⟩, 100)).WF := by
  decide +kernel
example : (Op.changePriority 3 0 : Op Nat).Legal ∧ (Op.popFront : Op Nat).Legal := ⟨trivial, trivial⟩

end Examples
end PQ

#print axioms PQ.C10_retain_crash_any_shorter_map
#print axioms PQ.C10_retain_pred_crash_twf
#print axioms PQ.C10_retain_pred_crashW_twf
#print axioms PQ.C10_retain_pred_crash_not_wf
#print axioms PQ.C10_retain_pred_crash_tables
#print axioms PQ.C10_retain_pred_crash_nodup
#print axioms PQ.C10_tables_only_step
#print axioms PQ.C10_tables_only_never_oob
#print axioms PQ.C10_tables_only_reset_wf
#print axioms PQ.C10_tables_only_history
#print axioms PQ.C10_tables_only_history_never_oob
#print axioms PQ.C10_retain_pred_crash_then_any_history
#print axioms PQ.C10_tables_only_retainMut_wf
#print axioms PQ.C10_tables_only_retain_repairs
#print axioms PQ.C10_retain_pred_crash_repaired_by_retain
#print axioms PQ.C10_tables_only_constructors_wf
