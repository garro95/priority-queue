import PQ.Props.C02
/-!
# C02, supplement: the two ends together

`Props/C02.lean` states the two peeks separately.  Here they are stated together — what a client that reads both ends
relies on: on a non-empty `DoublePriorityQueue` both peeks answer stored entries `a` (minimum) and `b` (maximum) with
`a ≤ b`, and EVERY stored priority lies between them (`C02_sandwich`); after every legal leak-free history of public
operations from any queue satisfying its invariant (from `new()`: `C02_sandwich_after_history_new`) that ends in a
`DoublePriorityQueue`, either the queue is empty and both peeks answer `None`, or the sandwich holds
(`C02_sandwich_after_history`).
-/
namespace PQ
open Store
variable {P : Type} [LT P] [DecidableLT P] [LE P] [Std.IsLinearPreorder P] [Std.LawfulOrderLT P]

/-- **C02, both ends at once.**  On a non-empty queue satisfying the invariant `peek_min` and `peek_max` answer stored
entries `a`, `b` with `a ≤ b` and every stored priority between the two; `peek_max` compares at most once. -/
theorem C02_sandwich {s : Store P} (h : DQ.Inv s) (hn : 0 < s.size) :
    ∃ a b k, DQ.peekMin s = .ok (some a) ∧ DQ.peekMax s = .ok (s.tick k, some b) ∧ k ≤ 1 ∧ s.Mem a ∧ s.Mem b ∧
      a.2 ≤ b.2 ∧ ∀ e, s.Mem e → a.2 ≤ e.2 ∧ e.2 ≤ b.2 := by
  obtain ⟨a, ha, hma, _, hmin⟩ := (C02_peekMin_min h).2 hn
  obtain ⟨k, b, hb, hk, hmb, _, hmax⟩ := (C02_peekMax_max h).2 hn
  exact ⟨a, b, k, ha, hb, hk, hma, hmb, hmin b hmb, fun e he => ⟨hmin e he, hmax e he⟩⟩

/-- **C02, both ends after any history** ending in a `DoublePriorityQueue`: both peeks answer `None` on the empty
queue, otherwise the sandwich of `C02_sandwich`. -/
theorem C02_sandwich_after_history (ops : List (Op P)) {q : Q P} (hq : QInv q) (hl : ∀ op ∈ ops, op.Legal)
    (hn : ∀ op ∈ ops, op.isLeak = false) :
    ∃ q' outs, run q ops = .ok (q', outs) ∧
      (q'.kind = .dpq →
        (q'.s.size = 0 ∧ DQ.peekMin q'.s = .ok none ∧ DQ.peekMax q'.s = .ok (q'.s, none)) ∨
        (0 < q'.s.size ∧ ∃ a b k, DQ.peekMin q'.s = .ok (some a) ∧ DQ.peekMax q'.s = .ok (q'.s.tick k, some b) ∧ k ≤ 1 ∧
          q'.s.Mem a ∧ q'.s.Mem b ∧ a.2 ≤ b.2 ∧ ∀ e, q'.s.Mem e → a.2 ≤ e.2 ∧ e.2 ≤ b.2)) := by
  obtain ⟨q', outs, hrun, _, _, hd⟩ := C02_reach ops hq hl hn
  refine ⟨q', outs, hrun, fun hk => ?_⟩
  have h := hd hk
  rcases Nat.eq_zero_or_pos q'.s.size with hz | hp
  · exact .inl ⟨hz, (C02_peekMin_min h).1 hz, (C02_peekMax_max h).1 hz⟩
  · exact .inr ⟨hp, C02_sandwich h hp⟩

/-- … in particular from `new()` of either kind -/
theorem C02_sandwich_after_history_new (ops : List (Op P)) (k : Kind) (hl : ∀ op ∈ ops, op.Legal)
    (hn : ∀ op ∈ ops, op.isLeak = false) :
    ∃ q' outs, run (Q.new k) ops = .ok (q', outs) ∧
      (q'.kind = .dpq →
        (q'.s.size = 0 ∧ DQ.peekMin q'.s = .ok none ∧ DQ.peekMax q'.s = .ok (q'.s, none)) ∨
        (0 < q'.s.size ∧ ∃ a b k, DQ.peekMin q'.s = .ok (some a) ∧ DQ.peekMax q'.s = .ok (q'.s.tick k, some b) ∧ k ≤ 1 ∧
          q'.s.Mem a ∧ q'.s.Mem b ∧ a.2 ≤ b.2 ∧ ∀ e, q'.s.Mem e → a.2 ≤ e.2 ∧ e.2 ≤ b.2)) :=
  C02_sandwich_after_history ops (hist_new_inv k) hl hn

-- the premises are satisfiable: the eight-element example queue satisfies the invariant and is not empty
example : DQ.Inv DQ.exQ ∧ 0 < DQ.exQ.size := ⟨DQ.exQ_inv, by rw [DQ.exQ_eq]; decide +kernel⟩

end PQ

#print axioms PQ.C02_sandwich
#print axioms PQ.C02_sandwich_after_history
#print axioms PQ.C02_sandwich_after_history_new
