import PQ.Lemmas.BulkProps
/-!
# C06 — Sorted consumption yields every element once, in monotone priority order

> `into_sorted_iter` and `into_sorted_vec` of a `PriorityQueue` yield every stored element exactly once in
> non-increasing priority order; `into_ascending_sorted_vec` and `into_descending_sorted_vec` of a
> `DoublePriorityQueue` yield every element once in non-decreasing respectively non-increasing order.  The
> `DoublePriorityQueue` sorted iterator may be advanced from both ends in any interleaving: `next` always yields a
> minimum and `next_back` a maximum of what remains, the two ends never return the same element, and its reported
> length is the number of elements remaining.

Model: `MaxQ.intoSortedVec` / `DQ.intoAscendingSortedVec` / `DQ.intoDescendingSortedVec` pop until empty;
the PQ sorted iterator is `bp_popCalls n` (`n` calls of `next`, `next = pop`); the DPQ sorted iterator is
`DQ.sortedCalls calls` (`false` = `next` = `pop_min`, `true` = `next_back` = `pop_max`).  Both sorted iterators own
the queue.  The DoublePriorityQueue one declares `ExactSizeIterator`: its `len()` is `pq.len()` and its `size_hint()` is
`(len, Some(len))` — what it reports is the `size` of the store it still holds (the statement about those answers is
`C13_sorted_dpq_exact_size`, on the machine the driver runs, `Model/SortedIter.lean`).  The PriorityQueue one implements only
`next` (no `len`, the default `size_hint() = (0, None)`), as `Model/SortedIter.lean` has it.

"Every stored element exactly once" is `l.Perm s.map.toList` (the list is a permutation of the entry list of the map);
`a` before `b` in a non-increasing list is `¬ a.2 < b.2`, in a non-decreasing one `¬ b.2 < a.2`.
All theorems hold for EVERY state satisfying the invariant and EVERY call list (calls after exhaustion included).
-/
namespace PQ
open Store
variable {P : Type} [LT P] [DecidableLT P] [LE P] [Std.IsLinearPreorder P] [Std.LawfulOrderLT P]

/-- **`into_sorted_vec` of a `PriorityQueue`**: never faults, yields a permutation of the stored entries (every element
exactly once: as many as `len`, the stored ones, with pairwise distinct items) in non-increasing priority order -/
theorem C06_pq_sorted_vec {s : Store P} (h : MaxQ.Inv s) :
    ∃ l, MaxQ.intoSortedVec s = .ok l ∧ l.Perm s.map.toList ∧ l.length = s.size ∧ (∀ e, e ∈ l ↔ s.Mem e) ∧
      (l.map (·.1.key)).Nodup ∧ l.Pairwise (fun a b => ¬ a.2 < b.2) := by
  obtain ⟨l, hl, hlen, hmem, hsorted, hnd⟩ := MaxQ.intoSortedVec_spec h
  exact ⟨l, hl, bp_perm_of_mem h.1 hnd hmem, hlen, hmem, hnd, hsorted⟩

example : MaxQ.Inv bp_exP ∧ bp_okR (MaxQ.intoSortedVec bp_exP)
    (fun l => l = [(⟨2, 20⟩, 9), (⟨3, 30⟩, 7), (⟨1, 10⟩, 5), (⟨5, 50⟩, 3), (⟨4, 40⟩, 1)]) :=
  ⟨bp_exP_inv, by decide +kernel⟩

/-- **`into_sorted_iter` of a `PriorityQueue`, consumed from the front**: with `l` the sorted vector, ANY number `n` of
`next` calls never faults and answers the first `n` elements of `l` (all of `l` when `n ≥ len`) and then `None`
forever; the iterator then holds a correctly ordered queue of `len - n` elements (the `size` of the store it holds; this iterator implements neither `len` nor `size_hint`) whose
own sorted vector is the rest of `l` -/
theorem C06_pq_sorted_iter {s : Store P} (h : MaxQ.Inv s) :
    ∃ l, MaxQ.intoSortedVec s = .ok l ∧ l.Perm s.map.toList ∧ l.Pairwise (fun a b => ¬ a.2 < b.2) ∧
      ∀ n, ∃ s', bp_popCalls n s = .ok ((l.take n).map some ++ List.replicate (n - l.length) none, s') ∧
        MaxQ.Inv s' ∧ s'.size = s.size - n ∧ MaxQ.intoSortedVec s' = .ok (l.drop n) := by
  obtain ⟨l, hl, hperm, _, _, _, hsorted⟩ := C06_pq_sorted_vec h
  refine ⟨l, hl, hperm, hsorted, fun n => ?_⟩
  obtain ⟨l', s', hl', hrun, hinv, hsz, hrest⟩ := bp_popCalls_spec n h
  rw [hl] at hl'; cases hl'
  exact ⟨s', hrun, hinv, hsz, hrest⟩

example : bp_okR (bp_popCalls 7 bp_exP) (fun r => r.1.map (fun o => o.map (·.2)) =
    [some 9, some 7, some 5, some 3, some 1, none, none] ∧ r.2.size = 0) ∧
    bp_okR (bp_popCalls 2 bp_exP) (fun r => r.1.map (fun o => o.map (·.2)) = [some 9, some 7] ∧ r.2.size = 3) := by
  decide +kernel

/-- **`into_ascending_sorted_vec` of a `DoublePriorityQueue`**: a permutation of the stored entries in non-decreasing
priority order -/
theorem C06_dpq_ascending {s : Store P} (h : DQ.Inv s) :
    ∃ l, DQ.intoAscendingSortedVec s = .ok l ∧ l.Perm s.map.toList ∧ l.length = s.size ∧ (∀ e, e ∈ l ↔ s.Mem e) ∧
      (l.map (·.1.key)).Nodup ∧ l.Pairwise (fun a b => ¬ b.2 < a.2) := by
  obtain ⟨l, hl, hlen, hmem, hsorted, hnd⟩ := DQ.intoAscendingSortedVec_spec h
  exact ⟨l, hl, bp_perm_of_mem h.1 hnd hmem, hlen, hmem, hnd, hsorted⟩

example : DQ.Inv DQ.exQ ∧ bp_okR (DQ.intoAscendingSortedVec DQ.exQ)
    (fun l => l.map (·.2) = [10, 20, 30, 40, 50, 60, 70, 80]) := ⟨DQ.exQ_inv, by decide +kernel⟩

/-- **`into_descending_sorted_vec` of a `DoublePriorityQueue`**: a permutation of the stored entries in non-increasing
priority order -/
theorem C06_dpq_descending {s : Store P} (h : DQ.Inv s) :
    ∃ l, DQ.intoDescendingSortedVec s = .ok l ∧ l.Perm s.map.toList ∧ l.length = s.size ∧ (∀ e, e ∈ l ↔ s.Mem e) ∧
      (l.map (·.1.key)).Nodup ∧ l.Pairwise (fun a b => ¬ a.2 < b.2) := by
  obtain ⟨l, hl, hlen, hmem, hsorted, hnd⟩ := DQ.intoDescendingSortedVec_spec h
  exact ⟨l, hl, bp_perm_of_mem h.1 hnd hmem, hlen, hmem, hnd, hsorted⟩

example : bp_okR (DQ.intoDescendingSortedVec DQ.exQ) (fun l => l.map (·.2) = [80, 70, 60, 50, 40, 30, 20, 10]) := by
  decide +kernel

/-- **the double-ended sorted iterator of a `DoublePriorityQueue`**, for EVERY interleaving `calls` of `next`
(`false`) and `next_back` (`true`), calls after exhaustion included.  It never faults.  With `outs` the answers:

* the entries handed out have pairwise distinct items (the two ends never return the same element), each was stored
  at the start and is not held afterwards;
* `SortedRun ExtremeQ`: each answer is a minimum (`next`) / maximum (`next_back`) of what was held at that moment and
  exactly that item is removed; `none` is answered exactly when nothing is held;
* call by call: before call `j` the iterator holds `sj`, the state after the first `j` calls; `sj` is a correctly
  ordered queue whose length (= what `len`/`size_hint` report) is the original length minus the number of entries
  handed out so far; if `sj` is empty call `j` AND EVERY LATER CALL answer `None`; otherwise call `j` answers an entry
  that is a minimum of `sj` for `next` and a maximum of `sj` for `next_back`;
* afterwards the iterator holds a correctly ordered queue of `len - (number of entries handed out)` elements. -/
theorem C06_dpq_deque {s : Store P} (h : DQ.Inv s) (calls : List Bool) :
    ∃ outs s', DQ.sortedCalls calls s = .ok (outs, s') ∧ DQ.Inv s' ∧ outs.length = calls.length ∧
      ((outs.filterMap id).map (·.1.key)).Nodup ∧
      (∀ e, some e ∈ outs → s.Mem e ∧ ¬ s'.Mem e) ∧
      DQ.SortedRun DQ.ExtremeQ s.abs calls outs s'.abs ∧
      s'.size = s.size - (outs.filterMap id).length ∧ (outs.filterMap id).length = min s.size calls.length ∧
      (∀ j, j < calls.length →
        ∃ sj, DQ.sortedCalls (calls.take j) s = .ok (outs.take j, sj) ∧ DQ.Inv sj ∧
          sj.size = s.size - ((outs.take j).filterMap id).length ∧
          (sj.size = 0 → ∀ j', j ≤ j' → j' < calls.length → outs[j']? = some none) ∧
          (0 < sj.size → ∃ e, outs[j]? = some (some e) ∧
            if calls[j]? = some true then sj.IsMax e else sj.IsMin e)) := by
  obtain ⟨outs, s', hrun, hinv, hlen, hsr, hnd, hsz⟩ := DQ.sortedCalls_spec h calls
  have hcount := bp_sortedCalls_count calls h.1 hrun
  have hheld := (DQ.SortedRun.held (fun b f e hq => (DQ.ExtremeQ.held hq)) hsr).1
  refine ⟨outs, s', hrun, hinv, hlen, hnd, fun e he => ?_, hsr, by omega, by omega, fun j hj => ?_⟩
  · obtain ⟨h1, h2⟩ := hheld e he
    refine ⟨(DQ.mem_iff_abs h.1).2 h1, fun hm => ?_⟩
    rw [(DQ.mem_iff_abs hinv.1).1 hm] at h2; cases h2
  · obtain ⟨sj, h1, h2, h3, h4, h5⟩ := bp_sortedCalls_at h hrun j hj
    exact ⟨sj, h1, h2, by omega, h4, h5⟩

example : DQ.Inv DQ.exQ ∧ bp_okR (DQ.sortedCalls [false, true, false, true, true, false, false, true, false, true] DQ.exQ)
    (fun r => r.1.map (fun o => o.map (·.2)) =
      [some 10, some 80, some 20, some 70, some 60, some 30, some 40, some 50, none, none] ∧ r.2.size = 0) :=
  ⟨DQ.exQ_inv, by decide +kernel⟩

end PQ

#print axioms PQ.C06_pq_sorted_vec
#print axioms PQ.C06_pq_sorted_iter
#print axioms PQ.C06_dpq_ascending
#print axioms PQ.C06_dpq_descending
#print axioms PQ.C06_dpq_deque
