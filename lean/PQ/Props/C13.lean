import PQ.Props.C09
import PQ.Lemmas.SortedWF
import PQ.Props.C10
/-!
# C13 — `iter`, `into_iter`, `drain`

> yield each stored element exactly once and then `None` forever; those that can be advanced from the
> back never yield an element from both ends; every iterator type that declares an exact size reports,
> through both `len` and `size_hint`, exactly the number of elements it will still yield at every step.

`Iter`, `IntoIter`, `Drain` delegate `next`, `next_back`, `len`, `size_hint` to the double-ended slice
cursor modelled by `Cursor` (`Cursor.new n` over `n` stored elements).  All theorems hold for **every**
`n` and **every** call list.

Vocabulary (`PQ/Lemmas/IterLemmas.lean`): `slots outs` = emitted slot indices in order,
`adv calls` = number of `.next`/`.nextBack` calls, `slotsOf w calls outs` = slots answered to calls `w`.
-/
namespace PQ

/-- no element is yielded twice — in particular never from both ends — and only stored elements are
yielded -/
theorem C13_cursor_nodup (n : Nat) (calls : List ICall) :
    (slots (Cursor.run (Cursor.new n) calls)).Nodup ∧
    ∀ i ∈ slots (Cursor.run (Cursor.new n) calls), i < n :=
  ⟨Cursor.slots_nodup _ _, fun i hi => (Cursor.slots_bounds _ _ i hi).2⟩

example : slots (Cursor.run (Cursor.new 3) [.nextBack, .next, .len, .next, .nextBack, .next]) = [2, 0, 1] := by
  decide

/-- **state invariant**: after any call list `pre`, with `e` the emitted slots, the cursor
`⟨front, back⟩` satisfies `front ≤ back ≤ n`, `back - front = n - e.length`, and `e` is exactly the set
`{i | i < front ∨ back ≤ i < n}`; the run continues from that state. -/
theorem C13_cursor_inv (n : Nat) (pre : List ICall) :
    let c := (Cursor.new n).exec pre
    let e := slots (Cursor.run (Cursor.new n) pre)
    c.front ≤ c.back ∧ c.back ≤ n ∧ c.back - c.front = n - e.length ∧
    (∀ i, i ∈ e ↔ i < c.front ∨ (c.back ≤ i ∧ i < n)) ∧
    ∀ post, Cursor.run (Cursor.new n) (pre ++ post) = Cursor.run (Cursor.new n) pre ++ Cursor.run c post := by
  have := Cursor.inv (Cursor.new n) (Nat.zero_le _) pre
  simp only [Cursor.new, Nat.zero_le, true_and, Nat.sub_zero] at this ⊢
  exact ⟨this.1, this.2.1, this.2.2.1, this.2.2.2, fun post => Cursor.run_append _ _ _⟩

/-- exact size: the answer of every `len` call is `n - (number of slots emitted before the call)`,
every `size_hint` answers `(that, Some(that))`, and that number is exactly the number of elements still
yielded from then on (`min` with the number of advancing calls still to come). -/
theorem C13_cursor_exact (n : Nat) (calls : List ICall) (j : Nat) :
    let outs := Cursor.run (Cursor.new n) calls
    (∀ k, outs[j]? = some (.len k) →
      k = n - (slots (outs.take j)).length ∧
      (slots (outs.drop j)).length = min k (adv (calls.drop j))) ∧
    (∀ lo hi, outs[j]? = some (.hint lo hi) →
      lo = n - (slots (outs.take j)).length ∧ hi = some (n - (slots (outs.take j)).length) ∧
      (slots (outs.drop j)).length = min lo (adv (calls.drop j))) :=
  C09_dpq_exact n calls _ (DIterMut.run_eq_cursor n calls) j

example : Cursor.run (Cursor.new 3) [.next, .len, .nextBack, .sizeHint, .next, .len]
    = [.slot (some 0), .len 2, .slot (some 2), .hint 1 (some 1), .slot (some 1), .len 0] := by decide

/-- exhaustion.
(a) the number of elements yielded is `min n (#advancing calls)`;
(b) once `n` slots have been emitted every later `next`/`next_back` answers `None`, forever;
(c) with at least `n` advancing calls every element is yielded exactly once
    (`slots` is a permutation of `0 … n-1`);
(d) `next` yields `0, 1, 2, …` ascending, `next_back` yields `n-1, n-2, …` descending. -/
theorem C13_cursor_exhaust (n : Nat) (calls : List ICall) :
    let outs := Cursor.run (Cursor.new n) calls
    (slots outs).length = min n (adv calls) ∧
    (∀ j, (slots (outs.take j)).length = n → ∀ j', j ≤ j' →
      ((calls[j']? = some .next ∨ calls[j']? = some .nextBack) → outs[j']? = some (.slot none)) ∧
      (∀ s, outs[j']? = some (.slot s) → s = none)) ∧
    (n ≤ adv calls → (slots outs).Perm (List.range n)) ∧
    (∃ m1 m2, m1 + m2 = (slots outs).length ∧
      slotsOf .next calls outs = List.range m1 ∧
      slotsOf .nextBack calls outs = (List.range m2).map (fun j => n - 1 - j)) :=
  C09_dpq_exhaust n calls _ (DIterMut.run_eq_cursor n calls)

example :
    let calls : List ICall := [.nextBack, .next, .len, .nextBack, .next, .nextBack]
    let outs := Cursor.run (Cursor.new 3) calls
    outs = [.slot (some 2), .slot (some 0), .len 1, .slot (some 1), .slot none, .slot none] ∧
    3 ≤ adv calls ∧ (slots (outs.take 4)).length = 3 ∧
    slotsOf .next calls outs = [0] ∧ slotsOf .nextBack calls outs = [2, 1] := by decide

/-- `ExactSizeIterator::len` asserts `assert_eq!(upper, Some(lower))` on the `size_hint`: for every hint
`(lo, Some(hi))` produced by the cursor, `lo = hi` (and the upper bound is never `None`). -/
theorem C13_exact_implies_adaptor_len_ok (n : Nat) (calls : List ICall) (j : Nat) :
    (∀ lo hi, (Cursor.run (Cursor.new n) calls)[j]? = some (.hint lo (some hi)) → lo = hi) ∧
    (∀ lo, (Cursor.run (Cursor.new n) calls)[j]? ≠ some (.hint lo none)) := by
  refine ⟨fun lo hi h => ?_, fun lo h => ?_⟩
  · have := (C13_cursor_exact n calls j).2 lo (some hi) h
    have h2 := this.2.1
    rw [← this.1] at h2
    exact (Option.some.inj h2).symm
  · have := (C13_cursor_exact n calls j).2 lo none h
    exact absurd this.2.1 (by simp)

/-- `C13_exact_implies_adaptor_len_ok` for `double_priority_queue::IterMut` (from `C09_dpq_adaptor_len_ok`) -/
theorem C13_exact_implies_adaptor_len_ok_dpq (n : Nat) (calls : List ICall) (outs : List IOut)
    (h : DIterMut.run n (DIterMut.new n) calls = .ok outs) (j : Nat) :
    (∀ lo hi, outs[j]? = some (.hint lo (some hi)) → lo = hi) ∧
    (∀ lo, outs[j]? ≠ some (.hint lo none)) :=
  ⟨fun lo _ ho => (Option.some.inj (C09_dpq_adaptor_len_ok n calls outs h j lo _ ho)).symm,
   fun lo ho => nomatch C09_dpq_adaptor_len_ok n calls outs h j lo _ ho⟩

/-- `priority_queue::IterMut` declares no exact size; it never produces a hint with an upper bound,
so the assertion is never evaluated on it -/
theorem C13_exact_implies_adaptor_len_ok_pq (n : Nat) (calls : List ICall) (j : Nat) :
    ∀ lo hi, (PIterMut.run n PIterMut.new calls)[j]? = some (.hint lo (some hi)) → lo = hi := by
  intro lo hi h
  have := (PIterMut.no_exact_size n PIterMut.new calls j).2 lo (some hi) h
  exact absurd this.2 (by simp)

example : (Cursor.run (Cursor.new 3) [.next, .sizeHint])[1]? = some (.hint 2 (some 2)) := by decide

/-! ## The sorted iterators on ANY well-formed queue

C06 proves the contracts of `into_sorted_iter` / `into_sorted_vec` together with the *order* of what they yield, from the heap
invariant.  The iterator contracts themselves (each stored element exactly once, `None` forever afterwards, `len` /
`size_hint` exact at every step, the two ends never meet) do not depend on the order: they hold on every **well-formed** store
— in particular on a queue whose `iter_mut` guard was leaked and on a queue that survived a caught panic of `Ord::cmp` at an
arbitrary comparison of an arbitrary operation (C10), where nothing is known about the order. -/
section SortedAnyWF
variable {P : Type} [LT P] [DecidableLT P] [LE P] [Std.IsLinearPreorder P] [Std.LawfulOrderLT P]

/-- **`PriorityQueue::into_sorted_iter` / `into_sorted_vec` on any well-formed queue**: `l` (what `into_sorted_vec` returns)
is a permutation of the stored entries (each exactly once, `len` many, pairwise distinct items); ANY number `n` of `next`
calls never faults, answers the first `min n len` entries of `l` and then `None` forever, and the iterator then holds a
well-formed queue of exactly `len - n` elements (what `len` / `size_hint` report) that will yield the rest of `l` -/
theorem C13_sorted_pq_any_wf {s : Store P} (h : s.WF) :
    ∃ l, MaxQ.intoSortedVec s = .ok l ∧ l.Perm s.map.toList ∧ l.length = s.size ∧ (∀ e, e ∈ l ↔ s.Mem e) ∧
      (l.map (·.1.key)).Nodup ∧
      ∀ n, ∃ s', bp_popCalls n s = .ok ((l.take n).map some ++ List.replicate (n - l.length) none, s') ∧
        s'.WF ∧ s'.size = s.size - n ∧ MaxQ.intoSortedVec s' = .ok (l.drop n) := by
  obtain ⟨l, h1, h2, h3, h4, h5⟩ := swf_pq_sorted_vec h
  obtain ⟨l', h1', h6⟩ := swf_pq_sorted_iter h
  rw [h1] at h1'; cases h1'
  exact ⟨l, h1, h2, h3, h4, h5, h6⟩

/-- **`DoublePriorityQueue::into_sorted_iter` on any well-formed queue**, for EVERY interleaving `calls` of `next` (`false`)
and `next_back` (`true`), calls after exhaustion included: never a fault; the entries handed out have pairwise distinct items
(the two ends never return the same element); handed-out entries plus what is still held are a permutation of what was
stored; before call `j` exactly `len - (entries handed out so far)` elements are held (what `len` / `size_hint` report), call
`j` answers a held entry if that number is positive and `None` — as does every later call — if it is zero -/
theorem C13_sorted_dpq_any_wf {s : Store P} (h : s.WF) (calls : List Bool) :
    ∃ outs s', DQ.sortedCalls calls s = .ok (outs, s') ∧ s'.WF ∧ outs.length = calls.length ∧
      ((outs.filterMap id).map (·.1.key)).Nodup ∧
      (∀ e, some e ∈ outs → s.Mem e ∧ ¬ s'.Mem e) ∧
      ((outs.filterMap id) ++ s'.map.toList).Perm s.map.toList ∧
      s'.size = s.size - (outs.filterMap id).length ∧ (outs.filterMap id).length = min s.size calls.length ∧
      (∀ j, j < calls.length →
        ∃ sj, DQ.sortedCalls (calls.take j) s = .ok (outs.take j, sj) ∧ sj.WF ∧
          sj.size = s.size - ((outs.take j).filterMap id).length ∧
          (sj.size = 0 → ∀ j', j ≤ j' → j' < calls.length → outs[j']? = some none) ∧
          (0 < sj.size → ∃ e, outs[j]? = some (some e) ∧ sj.Mem e)) := by
  obtain ⟨outs, s', h1, h2, h3, h4, h5, h6, _, h8, h9, h10⟩ := swf_dpq_deque h calls
  exact ⟨outs, s', h1, h2, h3, h4, h5, h6, h8, h9, h10⟩

/-- the sorted vectors of a `DoublePriorityQueue` on any well-formed queue: permutations of the stored entries -/
theorem C13_sorted_vecs_dpq_any_wf {s : Store P} (h : s.WF) :
    (∃ l, DQ.intoAscendingSortedVec s = .ok l ∧ l.Perm s.map.toList ∧ l.length = s.size) ∧
    (∃ l, DQ.intoDescendingSortedVec s = .ok l ∧ l.Perm s.map.toList ∧ l.length = s.size) := by
  obtain ⟨l, h1, h2, h3, _⟩ := swf_dpq_ascending h
  obtain ⟨l', h1', h2', h3', _⟩ := swf_dpq_descending h
  exact ⟨⟨l, h1, h2, h3⟩, ⟨l', h1', h2', h3'⟩⟩

/-- **… in particular after any history with caught panics.**  From `new()` of either kind, after ANY sequence of legal
operations each of which may panic at an arbitrary comparison (`runF`, the queue that survives each crash goes on being
used), the queue the caller holds satisfies the sorted-iterator contracts above. -/
theorem C13_sorted_after_any_crash_history (k : Kind) (prog : List (Nat × Op P)) (hl : ∀ x ∈ prog, x.2.Legal) :
    ∃ q n, Crash.runF (Q.new k : Q P) prog = .ok (q, n) ∧
      (∃ l, MaxQ.intoSortedVec q.s = .ok l ∧ l.Perm q.s.map.toList ∧ l.length = q.s.size) ∧
      ∀ calls, ∃ outs s', DQ.sortedCalls calls q.s = .ok (outs, s') ∧
        ((outs.filterMap id).map (·.1.key)).Nodup ∧ ((outs.filterMap id) ++ s'.map.toList).Perm q.s.map.toList ∧
        (outs.filterMap id).length = min q.s.size calls.length := by
  obtain ⟨q, n, h1, h2⟩ := C10_repeated_crashes_new k prog hl
  refine ⟨q, n, h1, ?_, fun calls => ?_⟩
  · obtain ⟨l, a, b, c, _⟩ := C13_sorted_pq_any_wf h2
    exact ⟨l, a, b, c⟩
  · obtain ⟨outs, s', a, _, _, d, _, f, _, g, _⟩ := C13_sorted_dpq_any_wf h2 calls
    exact ⟨outs, s', a, d, f, g⟩

example : swf_exU.WF ∧ ¬ MaxQ.Inv swf_exU := ⟨swf_exU_wf, swf_exU_not_maxHeap⟩

end SortedAnyWF

end PQ

#print axioms PQ.C13_cursor_nodup
#print axioms PQ.C13_cursor_inv
#print axioms PQ.C13_cursor_exact
#print axioms PQ.C13_cursor_exhaust
#print axioms PQ.C13_exact_implies_adaptor_len_ok
#print axioms PQ.C13_exact_implies_adaptor_len_ok_dpq
#print axioms PQ.C13_exact_implies_adaptor_len_ok_pq
#print axioms PQ.C13_sorted_pq_any_wf
#print axioms PQ.C13_sorted_dpq_any_wf
#print axioms PQ.C13_sorted_vecs_dpq_any_wf
#print axioms PQ.C13_sorted_after_any_crash_history
