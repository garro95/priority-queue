import PQ.Props.C05
import PQ.Model.Observe
/-!
# C05, supplement: the comparison count of `iter_mut` (dropped / leaked), `clear`, `drain` and of the plain iterators

`PQ/Props/C05.lean` bounds `heap_build` (`C05_pq_heapBuild_linear`: `2 * n`, `C05_dpq_heapBuild_linear`: `7 * n`) and says in
prose that this "is also what dropping `iter_mut` runs".  Here that is a theorem about the OPERATION of the alphabet,
`step q (.iterMut false prog)`, for every program `prog` of calls and writes, on both kinds, and the remaining members of the
C05 list that perform NO comparison are stated at the level of `step` / `observe`:

* `C05_iterMut_drop_linear` — dropping the guard: at most `7 * n` comparisons (`2 * n` on a `PriorityQueue`:
  `C05_iterMut_drop_linear_pq`), `n = len` before the call (the program cannot change `len`).
  **No hypothesis on `q`** (no well-formedness, no order): `heap_build`'s bound is unconditional
  (`MaxQ.heapBuild_cost`, `DQ.heapBuild_cost`), and the iteration itself (`iterMutRun`) works on the map only — it has no
  store in its type, hence no counter to advance.
* `C05_iterMut_leak_free` — a leaked guard (`mem::forget`): no comparison at all.
* `C05_clear_free`, `C05_drain_free` — no comparison.
* `C05_observe_free` — every observation of `PQ/Model/Observe.lean` other than `peek_max` returns the queue it was given
  (so its counter is unchanged), in particular `into_vec()` / `iter().collect()` (`Obs.intoVec`, `C05_intoVec_free`);
  `peek_max` advances it by at most one (`C05_observe_peekMax_le_one`).  (The observing SORTED vectors run on a consumed
  copy: the pops they perform do compare, `O(n log n)`, but the queue observed is returned unchanged; their cost is not the
  subject of C05's "perform none" list.)
* `iter`, `into_iter` (and the iterator handed out by `drain`) are not `Op`s / `Obs`: they are the slice cursor `Cursor` of
  `PQ/Model/Iter.lean`, driven call by call.  `Cursor.step` / `Cursor.run` have no store in their type and are defined
  without `tick`: they trivially perform no comparison.  What can be stated is that they read the store only through
  `map.len()`, which the counter does not influence (`C05_iter_free`); the entries they yield are read from `map`, which the
  counter does not influence either.
-/
namespace PQ
variable {P : Type} [LT P] [DecidableLT P]

/-- what `step q (.iterMut leak prog)` is made of (a successful run): the program run on the map, then — unless leaked —
`heap_build` of the queue's kind on the store with the rewritten map -/
theorem C05_iterMut_unfold {q q' : Q P} {leak : Bool} {prog : List (ICall × IMWrite P)} {o : Out P}
    (h : step q (.iterMut leak prog) = .ok (q', o)) :
    ∃ outs m s, iterMutRun q.kind q.s.map.size prog PIterMut.new (DIterMut.new q.s.map.size) q.s.map = .ok (outs, m) ∧
      (if leak then pure { q.s with map := m } else heapBuildK q.kind { q.s with map := m }) = .ok s ∧
      q' = { q with s := s } ∧ o = .outs outs := by
  obtain ⟨⟨outs, m⟩, hr, h⟩ := bind_eq_ok.1 h
  refine ⟨outs, m, ?_⟩
  cases leak
  · obtain ⟨s, hs, h⟩ := bind_eq_ok.1 h
    cases pure_eq_ok.1 h
    exact ⟨s, hr, hs, rfl, rfl⟩
  · cases pure_eq_ok.1 h
    exact ⟨_, hr, rfl, rfl, rfl⟩

/-- the rebuild of either kind: at most `7 * size` comparisons, `2 * size` on a `PriorityQueue` -/
theorem heapBuildK_cost {k : Kind} {s s' : Store P} (h : heapBuildK k s = .ok s') :
    s'.size = s.size ∧ s'.ticks ≤ s.ticks + 7 * s.size ∧ (k = .pq → s'.ticks ≤ s.ticks + 2 * s.size) := by
  cases k
  · obtain ⟨a, b⟩ := MaxQ.heapBuild_cost h; exact ⟨a, by omega, fun _ => b⟩
  · obtain ⟨a, b⟩ := DQ.heapBuild_cost h; exact ⟨a, b, nofun⟩

/-- **dropping `iter_mut` is linear**, on both kinds, for every program of calls and writes, from ANY store (no
well-formedness or order hypothesis): at most `7 * len` comparisons, and `len` is unchanged -/
theorem C05_iterMut_drop_linear {q q' : Q P} {prog : List (ICall × IMWrite P)} {o : Out P}
    (h : step q (.iterMut false prog) = .ok (q', o)) :
    q'.s.ticks ≤ q.s.ticks + 7 * q.s.size := by
  obtain ⟨outs, m, s, _, hs, rfl, _⟩ := C05_iterMut_unfold h
  exact (heapBuildK_cost hs).2.1

/-- … on a `PriorityQueue`: at most `2 * len` -/
theorem C05_iterMut_drop_linear_pq {q q' : Q P} {prog : List (ICall × IMWrite P)} {o : Out P} (hk : q.kind = .pq)
    (h : step q (.iterMut false prog) = .ok (q', o)) :
    q'.s.ticks ≤ q.s.ticks + 2 * q.s.size := by
  obtain ⟨outs, m, s, _, hs, rfl, _⟩ := C05_iterMut_unfold h
  exact (heapBuildK_cost hs).2.2 hk

/-- … and the length is the one before the call (the bound is in terms of either) -/
theorem C05_iterMut_drop_size {q q' : Q P} {prog : List (ICall × IMWrite P)} {o : Out P}
    (h : step q (.iterMut false prog) = .ok (q', o)) : q'.s.size = q.s.size := by
  obtain ⟨outs, m, s, _, hs, rfl, _⟩ := C05_iterMut_unfold h
  exact (heapBuildK_cost hs).1

/-- **a leaked `iter_mut` guard performs no comparison** (nothing is rebuilt; the iteration and the writes touch the map
only) -/
theorem C05_iterMut_leak_free {q q' : Q P} {prog : List (ICall × IMWrite P)} {o : Out P}
    (h : step q (.iterMut true prog) = .ok (q', o)) :
    q'.s.ticks = q.s.ticks := by
  obtain ⟨outs, m, s, _, hs, rfl, _⟩ := C05_iterMut_unfold h
  cases pure_eq_ok.1 hs; rfl

omit [LT P] [DecidableLT P] in
/-- the iteration itself has no counter: `iterMutRun` maps a map to outputs and a map; run on the store's map it is
independent of the store's counter -/
theorem C05_iterMutRun_free (s : Store P) (k : Nat) (kind : Kind) (prog : List (ICall × IMWrite P)) :
    iterMutRun kind (s.tick k).map.size prog PIterMut.new (DIterMut.new (s.tick k).map.size) (s.tick k).map =
      iterMutRun kind s.map.size prog PIterMut.new (DIterMut.new s.map.size) s.map := rfl

/-- **`clear` performs no comparison** (it always succeeds) -/
theorem C05_clear_free (q : Q P) :
    ∃ q', step q .clear = .ok (q', .unit) ∧ q'.s.ticks = q.s.ticks ∧ q'.s.size = 0 :=
  ⟨{ q with s := q.s.clear }, rfl, rfl, rfl⟩

/-- **`drain` performs no comparison** (it always succeeds and hands out the entries in slot order) -/
theorem C05_drain_free (q : Q P) :
    ∃ q', step q .drain = .ok (q', .entries q.s.map.toList) ∧ q'.s.ticks = q.s.ticks ∧ q'.s.size = 0 :=
  ⟨{ q with s := q.s.drain.2 }, rfl, rfl, rfl⟩

/-- … in the form of the other theorems -/
theorem C05_clear_drain_free {q q' : Q P} {o : Out P} :
    (step q .clear = .ok (q', o) → q'.s.ticks = q.s.ticks) ∧ (step q .drain = .ok (q', o) → q'.s.ticks = q.s.ticks) := by
  constructor <;> (intro h; cases pure_eq_ok.1 h; rfl)

section Observe
variable [DecidableEq P]

/-- **every observation other than `peek_max` performs no comparison on the queue observed**: it returns the very queue it
was given (`peek`, `peek_min`, `get`, `get_priority`, `len`, `is_empty`, `into_vec` / `iter().collect()`, `{:?}`, `==`;
the three sorted vectors work on a consumed copy) -/
theorem C05_observe_free {q q' : Q P} {ob : Obs P} {o : Out P} (hne : ob ≠ .peekMax)
    (h : observe q ob = .ok (q', o)) : q' = q ∧ q'.s.ticks = q.s.ticks := by
  suffices key : q' = q from ⟨key, by rw [key]⟩
  cases ob with
  | peekMax => exact absurd rfl hne
  | peek | get | getPriority | len | isEmpty | intoVec | eqv =>
    exact (Prod.mk.inj (pure_eq_ok.1 h)).1.symm
  | peekMin | intoSortedVec | intoAscVec | intoDescVec | debug =>
    obtain ⟨_, _, h⟩ := bind_eq_ok.1 h
    exact (Prod.mk.inj (pure_eq_ok.1 h)).1.symm

/-- **`into_vec()` / `iter().collect()`** as an observation: always succeeds, returns the entries in slot order and the
unchanged queue -/
theorem C05_intoVec_free (q : Q P) : observe q .intoVec = .ok (q, .entries q.s.map.toList) := rfl

/-- `peek_max` as an observation: at most one comparison -/
theorem C05_observe_peekMax_le_one {q q' : Q P} {o : Out P} (h : observe q .peekMax = .ok (q', o)) :
    q'.s.ticks ≤ q.s.ticks + 1 := by
  obtain ⟨⟨s, e⟩, hr, h⟩ := bind_eq_ok.1 h
  cases pure_eq_ok.1 h
  exact (DQ.peekMax_cost hr).2

end Observe

omit [LT P] [DecidableLT P] in
/-- **`iter`, `into_iter` (and the iterator of `drain`)**: the slice cursor `Cursor` (no store in its type, defined
without `tick`: no comparison) reads the store only through `map.len()`; neither that nor the map the yielded slots are
read from depends on the counter -/
theorem C05_iter_free (s : Store P) (k : Nat) (calls : List ICall) :
    Cursor.run (Cursor.new (s.tick k).map.size) calls = Cursor.run (Cursor.new s.map.size) calls ∧
    (s.tick k).map = s.map := ⟨rfl, rfl⟩

/-! ## Non-vacuity (`P := Nat`) -/
section Examples
open C05

/-- every priority rewritten (the order turned upside down), one payload write, then the guard is dropped / leaked -/
private def exProg : List (ICall × IMWrite Nat) :=
  (List.range 6).map fun i => (ICall.next, (⟨some (10 * i), if i = 2 then some 7 else none⟩ : IMWrite Nat))

private def okR {α : Type} (r : R α) (p : α → Prop) : Prop :=
  match r with
  | .ok x => p x
  | .error _ => False

private instance {α : Type} (r : R α) (p : α → Prop) [DecidablePred p] : Decidable (okR r p) := by
  unfold okR; split <;> infer_instance

private def ticksQ (r : R (Q Nat × Out Nat)) : Option (Nat × Nat) := r.toOption.map fun x => (x.1.s.ticks, x.1.s.size)

-- dropped guard on the six-element min-max heap `d6` (counter starting at 100): it succeeds with 8 ≤ 7 * 6 comparisons …
example : ticksQ (step ⟨.dpq, d6.tick 100⟩ (.iterMut false exProg)) = some (108, 6) := by decide +kernel
-- … as a `PriorityQueue`: 6 ≤ 2 * 6; on the three-element max-heap `s3`: 2
example : ticksQ (step ⟨.pq, d6.tick 100⟩ (.iterMut false exProg)) = some (106, 6) := by decide +kernel
example : ticksQ (step ⟨.pq, s3⟩ (.iterMut false exProg)) = some (2, 3) := by decide +kernel
-- the rebuild is real: the dropped guard leaves an ordered queue where the leaked one leaves a disordered one
example : okR (step ⟨.dpq, d6⟩ (.iterMut false exProg)) (fun r => r.1.s.map.toList.map (·.2) = [0, 10, 20, 30, 40, 50] ∧
      r.1.s.heap ≠ d6.heap) ∧
    okR (step ⟨.dpq, d6⟩ (.iterMut true exProg)) (fun r => r.1.s.map.toList.map (·.2) = [0, 10, 20, 30, 40, 50] ∧
      r.1.s.heap = d6.heap) := by decide +kernel
-- leaked guard: no comparison
example : ticksQ (step ⟨.dpq, d6.tick 100⟩ (.iterMut true exProg)) = some (100, 6) ∧
    ticksQ (step ⟨.pq, d6.tick 100⟩ (.iterMut true exProg)) = some (100, 6) := by decide +kernel
-- `clear`, `drain`: no comparison, empty afterwards
example : ticksQ (step ⟨.dpq, d6.tick 100⟩ .clear) = some (100, 0) ∧
    ticksQ (step ⟨.pq, d6.tick 100⟩ .drain) = some (100, 0) := by decide +kernel
-- observations: `into_vec` / `len` leave the counter alone, `peek_max` spends one comparison on six elements
example : ticksQ (observe ⟨.dpq, d6.tick 100⟩ .intoVec) = some (100, 6) ∧
    ticksQ (observe ⟨.dpq, d6.tick 100⟩ .len) = some (100, 6) ∧
    ticksQ (observe ⟨.dpq, d6.tick 100⟩ .intoAscVec) = some (100, 6) ∧
    ticksQ (observe ⟨.dpq, d6.tick 100⟩ .peekMax) = some (101, 6) := by decide +kernel
-- `iter()` on `d6`: the cursor yields the six slots from both ends
example : Cursor.run (Cursor.new (d6.tick 100).map.size) [.next, .nextBack, .len, .next] =
    [.slot (some 0), .slot (some 5), .len 4, .slot (some 1)] := by decide

end Examples

end PQ

#print axioms PQ.C05_iterMut_unfold
#print axioms PQ.C05_iterMut_drop_linear
#print axioms PQ.C05_iterMut_drop_linear_pq
#print axioms PQ.C05_iterMut_drop_size
#print axioms PQ.C05_iterMut_leak_free
#print axioms PQ.C05_iterMutRun_free
#print axioms PQ.C05_clear_free
#print axioms PQ.C05_drain_free
#print axioms PQ.C05_clear_drain_free
#print axioms PQ.C05_observe_free
#print axioms PQ.C05_intoVec_free
#print axioms PQ.C05_observe_peekMax_le_one
#print axioms PQ.C05_iter_free
