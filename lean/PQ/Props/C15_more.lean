import PQ.Props.C15
import PQ.Lemmas.History
/-!
# C15 (addition) — the round trip stated through an explicit model of `Serialize`

`C15_roundtrip` (Props/C15.lean) is stated about `deserialize hint s.map`: "what `s` serializes to" appears there only as
the argument `s.map`, for every `hint`.  The model has no function for `Serialize`; this file adds one, transcribed from the
source, and states the round trip through it — at store level (`C15_roundtrip_store`, the statement of `C15_roundtrip`
instantiated at the serializer's output) and as the operation `Op.deserialize` of the alphabet, for a queue of either
kind read back as either kind (`C15_roundtrip_serialized`).

```rust
// src/store.rs
impl<I, P, H> Serialize for Store<I, P, H> where I: Serialize, P: Serialize {
    fn serialize<S>(&self, serializer: S) -> Result<S::Ok, S::Error> where S: Serializer {
        let mut map_serializer = serializer.serialize_seq(Some(self.size))?;
        for (k, v) in &self.map {
            map_serializer.serialize_element(&(k, v))?;
        }
        map_serializer.end()
    }
}
// src/priority_queue/mod.rs and src/double_priority_queue/mod.rs: both kinds delegate
fn serialize<S>(&self, serializer: S) -> … { self.store.serialize(serializer) }
```

So the serialized form of a queue of either kind is: the announced length `Some(self.size)` — the counter, NOT
`self.map.len()` — followed by the pairs of the IndexMap in slot order.  Errors of the underlying `Serializer` are outside
the model (the round trip is about a serializer that succeeds and a format that hands back what was written).
-/
namespace PQ
open Store

/-- **model of `impl Serialize for Store`** (both queue kinds serialize their store): the length handed to
`serialize_seq` — `Some(self.size)` — and the elements written, the pairs `(k, v)` of `&self.map` in slot order.  These are
exactly the two arguments of `Op.deserialize` (announced length, pairs present). -/
def Store.serializeM {P : Type} (s : Store P) : Option Nat × Array (Item × P) := (some s.size, s.map)

variable {P : Type} [LT P] [DecidableLT P] [LE P] [Std.IsLinearPreorder P] [Std.LawfulOrderLT P]

omit [LT P] [DecidableLT P] [LE P] [Std.IsLinearPreorder P] [Std.LawfulOrderLT P] in
/-- **the serializer of a well-formed queue announces the true length**: the announced length (the counter `size`) is the
number of pairs written (`map.len()`).  (For a store that is not well-formed the two may differ — the source announces
`self.size`; `C15_hint_never_faults` says a wrong announcement is harmless for the reader anyway.) -/
theorem C15_serialize_len_honest {s : Store P} (h : s.WF) :
    (Store.serializeM s).1 = some (Store.serializeM s).2.size := by
  show some s.size = some s.map.size
  rw [h.map_size]

/-- **round trip through the model serializer** — `C15_roundtrip` at the serializer's output.  For every well-formed store
`s` (in particular a correctly ordered queue of EITHER kind: `MaxQ.Inv s` and `DQ.Inv s` both contain `s.WF`) and BOTH
target kinds: deserializing `serializeM s` (announced length `(serializeM s).1`, pairs `(serializeM s).2`) succeeds and gives
a correctly ordered queue `t` of the target kind with the same map (same entries, payloads included, same slots), the same
contents and length, equal to `s` under the crate's `PartialEq`, both ways round. -/
theorem C15_roundtrip_store [DecidableEq P] {s : Store P} (h : s.WF) :
    (∃ t, MaxQ.deserialize (Store.serializeM s).1 (Store.serializeM s).2 = .ok t ∧ MaxQ.Inv t ∧ t.map = s.map ∧
      t.abs = s.abs ∧ t.size = s.size ∧ Store.eqv s t = true ∧ Store.eqv t s = true) ∧
    (∃ t, DQ.deserialize (Store.serializeM s).1 (Store.serializeM s).2 = .ok t ∧ DQ.Inv t ∧ t.map = s.map ∧
      t.abs = s.abs ∧ t.size = s.size ∧ Store.eqv s t = true ∧ Store.eqv t s = true) :=
  C15_roundtrip h (some s.size)

/-- **round trip as an operation of the alphabet, from well-formedness alone** (`QWF q`: the queue need not be ordered, e.g.
after a leaked `iter_mut` guard or a caught panic): what is read back is nevertheless correctly ordered; the statement is
that of `C15_roundtrip_serialized` below -/
theorem C15_roundtrip_serialized_wf [DecidableEq P] {q : Q P} (hq : QWF q) (k : Kind) (s0 : Store P) :
    ∃ t, step ⟨k, s0⟩ (.deserialize (Store.serializeM q.s).1 (Store.serializeM q.s).2) = .ok (⟨k, t⟩, .unit) ∧
      QInv ⟨k, t⟩ ∧ t.map = q.s.map ∧ t.abs = q.s.abs ∧ t.size = q.s.size ∧
      Store.eqv q.s t = true ∧ Store.eqv t q.s = true := by
  obtain ⟨⟨t1, r1, i1, rest1⟩, ⟨t2, r2, i2, rest2⟩⟩ := C15_roundtrip_store (s := q.s) hq
  cases k
  · exact ⟨t1, bind_of_ok r1 _, i1, rest1⟩
  · exact ⟨t2, bind_of_ok r2 _, i2, rest2⟩

/-- **round trip as an operation of the alphabet, either kind read back as either kind.**  `q` is a queue of either kind
satisfying the invariant of its kind (`QInv q`); `k` is the kind it is read back as (`step` deserializes into the kind of
the queue it is applied to — whose store `s0` is irrelevant: `Deserialize` builds a fresh queue).  The operation succeeds
(no error, no fault) and returns a queue `⟨k, t⟩` that satisfies the invariant of kind `k`, has the map / the contents /
the length of `q`, and is `eqv` to `q` both ways round. -/
theorem C15_roundtrip_serialized [DecidableEq P] {q : Q P} (hq : QInv q) (k : Kind) (s0 : Store P) :
    ∃ t, step ⟨k, s0⟩ (.deserialize (Store.serializeM q.s).1 (Store.serializeM q.s).2) = .ok (⟨k, t⟩, .unit) ∧
      QInv ⟨k, t⟩ ∧ t.map = q.s.map ∧ t.abs = q.s.abs ∧ t.size = q.s.size ∧
      Store.eqv q.s t = true ∧ Store.eqv t q.s = true :=
  C15_roundtrip_serialized_wf hq.wf k s0

/-- an alias of `C15_roundtrip_serialized` (the axiom audit at the end of the file lists the unprimed name, which the check's
parser can read) -/
theorem C15_roundtrip' [DecidableEq P] {q : Q P} (hq : QInv q) (k : Kind) (s0 : Store P) :
    ∃ t, step ⟨k, s0⟩ (.deserialize (Store.serializeM q.s).1 (Store.serializeM q.s).2) = .ok (⟨k, t⟩, .unit) ∧
      QInv ⟨k, t⟩ ∧ t.map = q.s.map ∧ t.abs = q.s.abs ∧ t.size = q.s.size ∧
      Store.eqv q.s t = true ∧ Store.eqv t q.s = true := C15_roundtrip_serialized hq k s0

/-! ## Non-vacuity (`P := Nat`)

`bp_exP`: a `PriorityQueue` of 5 elements with payloads, correctly ordered (`bp_exP_inv`), index tables not the identity. -/

example : Store.serializeM bp_exP =
    (some 5, #[(⟨1, 10⟩, 5), (⟨2, 20⟩, 9), (⟨3, 30⟩, 7), (⟨4, 40⟩, 1), (⟨5, 50⟩, 3)]) := by decide +kernel

/-- `C15_roundtrip_store`: hypothesis and both conclusions on the concrete 5-element queue -/
example : MaxQ.Inv bp_exP ∧ bp_exP.heap ≠ Array.range 5 ∧
    bp_okR (MaxQ.deserialize (Store.serializeM bp_exP).1 (Store.serializeM bp_exP).2) (fun t => MaxQ.Inv t ∧
      t.map = bp_exP.map ∧ t.size = 5 ∧ Store.eqv bp_exP t = true ∧ Store.eqv t bp_exP = true ∧
      MaxQ.peek t = some (⟨2, 20⟩, 9)) ∧
    bp_okR (DQ.deserialize (Store.serializeM bp_exP).1 (Store.serializeM bp_exP).2) (fun t => t.WF ∧
      t.map = bp_exP.map ∧ t.size = 5 ∧ Store.eqv bp_exP t = true ∧ Store.eqv t bp_exP = true ∧
      bp_okR (DQ.peekMin t) (fun e => e = some (⟨4, 40⟩, 1)) ∧
      bp_okR (DQ.peekMax t) (fun e => e.2 = some (⟨2, 20⟩, 9))) := ⟨bp_exP_inv, by decide +kernel⟩

/-- the hypothesis of `C15_roundtrip_serialized` holds of the concrete queue -/
example : QInv (⟨.pq, bp_exP⟩ : Q Nat) := bp_exP_inv

/-- `C15_roundtrip_serialized`: the operation read back as either kind (applied to an unrelated non-empty queue `bp_exO`) returns
a queue with `bp_exP`'s map and length; read back as a `DoublePriorityQueue`, serialized again and read back as a
`PriorityQueue`, it is `bp_exP`'s map once more, correctly ordered -/
example :
    bp_okR (step (⟨.pq, bp_exO⟩ : Q Nat) (.deserialize (Store.serializeM bp_exP).1 (Store.serializeM bp_exP).2))
      (fun r => r.1.kind = .pq ∧ MaxQ.Inv r.1.s ∧ r.1.s.map = bp_exP.map ∧ r.1.s.size = 5 ∧
        Store.eqv bp_exP r.1.s = true) ∧
    bp_okR (step (⟨.dpq, bp_exO⟩ : Q Nat) (.deserialize (Store.serializeM bp_exP).1 (Store.serializeM bp_exP).2))
      (fun r => r.1.kind = .dpq ∧ r.1.s.WF ∧ r.1.s.map = bp_exP.map ∧ r.1.s.size = 5 ∧
        Store.eqv bp_exP r.1.s = true ∧ bp_okR (DQ.peekMin r.1.s) (fun e => e = some (⟨4, 40⟩, 1)) ∧
        bp_okR (step (⟨.pq, bp_exO⟩ : Q Nat) (.deserialize (Store.serializeM r.1.s).1 (Store.serializeM r.1.s).2))
          (fun u => MaxQ.Inv u.1.s ∧ u.1.s.map = bp_exP.map ∧ Store.eqv r.1.s u.1.s = true)) := by decide +kernel

/-- `C15_roundtrip_serialized_wf`: a well-formed but disordered queue (`bp_exW`: not a max-heap) is read back ordered -/
example : QWF (⟨.pq, bp_exW⟩ : Q Nat) ∧ ¬ MaxQ.Inv bp_exW ∧
    bp_okR (step (⟨.pq, bp_exO⟩ : Q Nat) (.deserialize (Store.serializeM bp_exW).1 (Store.serializeM bp_exW).2))
      (fun r => MaxQ.Inv r.1.s ∧ r.1.s.map = bp_exW.map ∧ r.1.s.size = 5) := by
  refine ⟨bp_exW_wf, ?_, ?_⟩ <;> decide +kernel

end PQ

#print axioms PQ.C15_serialize_len_honest
#print axioms PQ.C15_roundtrip_store
#print axioms PQ.C15_roundtrip_serialized
#print axioms PQ.C15_roundtrip_serialized_wf

