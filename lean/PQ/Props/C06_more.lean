import PQ.Props.C06
import PQ.Props.C01
import PQ.Props.C02
/-!
# C06, supplement: sorted consumption after EVERY history; the head of the sorted output is what `peek` reports

`PQ/Props/C06.lean` states the sorted consumers for every state satisfying the queue invariant; that the invariant is
reached is C01 / C02 (`C01_reach`, `C02_reach`).  This file composes the two, so that the property is one theorem about
histories of public operations; from `new()` it has no invariant in its hypotheses:

* `C06_after_history`: from any queue satisfying the invariant of its kind (in particular `new()`,
  `C06_after_history_new`), after every history of legal operations without a leaked guard — conversions between the
  kinds included — if the queue reached is a `PriorityQueue`, `into_sorted_vec` is a permutation of the stored entries
  in non-increasing priority order and `n` calls of `into_sorted_iter().next()` answer its first `n` entries and then
  `None`, for every `n`; if it is a `DoublePriorityQueue`, the ascending / descending sorted vectors are permutations in
  non-decreasing / non-increasing order and the double-ended sorted iterator, for EVERY interleaving of `next` /
  `next_back`, never faults, hands out distinct items, each answer the minimum / maximum of what was held
  (`SortedRun ExtremeQ`), with the sizes of `C06_dpq_deque` (its call-by-call clause is not repeated here).
* `C06_pq_head_is_peek`: the first entry of `into_sorted_vec` (= the first answer of the sorted iterator) is exactly the
  entry `peek` reports (not merely one of equal priority), `None` for both on the empty queue; so sorted consumption
  starts with the element C01 is about.
* `C06_dpq_ends_are_peeks`: the first entry of `into_ascending_sorted_vec` is the entry `peek_min` reports, the first
  entry of `into_descending_sorted_vec` the entry `peek_max` reports.
-/
namespace PQ
open Store
variable {P : Type} [LT P] [DecidableLT P] [LE P] [Std.IsLinearPreorder P] [Std.LawfulOrderLT P]

/-- **C06 over histories.**  No invariant is assumed of the state consumed: it is whatever a legal, leak-free history of
public operations reaches from a queue satisfying the invariant of its kind. -/
theorem C06_after_history (ops : List (Op P)) {q : Q P} (hq : QInv q) (hl : ∀ op ∈ ops, op.Legal)
    (hn : ∀ op ∈ ops, op.isLeak = false) :
    ∃ q' outs, run q ops = .ok (q', outs) ∧
      (q'.kind = .pq →
        ∃ l, MaxQ.intoSortedVec q'.s = .ok l ∧ l.Perm q'.s.map.toList ∧ l.length = q'.s.size ∧
          (l.map (·.1.key)).Nodup ∧ l.Pairwise (fun a b => ¬ a.2 < b.2) ∧
          ∀ n, ∃ s', bp_popCalls n q'.s = .ok ((l.take n).map some ++ List.replicate (n - l.length) none, s') ∧
            s'.size = q'.s.size - n) ∧
      (q'.kind = .dpq →
        (∃ l, DQ.intoAscendingSortedVec q'.s = .ok l ∧ l.Perm q'.s.map.toList ∧ l.length = q'.s.size ∧
          (l.map (·.1.key)).Nodup ∧ l.Pairwise (fun a b => ¬ b.2 < a.2)) ∧
        (∃ l, DQ.intoDescendingSortedVec q'.s = .ok l ∧ l.Perm q'.s.map.toList ∧ l.length = q'.s.size ∧
          (l.map (·.1.key)).Nodup ∧ l.Pairwise (fun a b => ¬ a.2 < b.2)) ∧
        ∀ calls : List Bool, ∃ outs' s', DQ.sortedCalls calls q'.s = .ok (outs', s') ∧ outs'.length = calls.length ∧
          ((outs'.filterMap id).map (·.1.key)).Nodup ∧
          DQ.SortedRun DQ.ExtremeQ q'.s.abs calls outs' s'.abs ∧
          s'.size = q'.s.size - (outs'.filterMap id).length ∧
          (outs'.filterMap id).length = min q'.s.size calls.length) := by
  obtain ⟨q', outs, hrun, _, _, hpq⟩ := C01_reach ops hq hl hn
  obtain ⟨q'', outs'', hrun', _, _, hdq⟩ := C02_reach ops hq hl hn
  rw [hrun] at hrun'
  cases hrun'
  refine ⟨q', outs, hrun, fun hk => ?_, fun hk => ?_⟩
  · have h := hpq hk
    obtain ⟨l, h1, h2, h3, _, h5, h6⟩ := C06_pq_sorted_vec h
    obtain ⟨l', g1, _, _, g4⟩ := C06_pq_sorted_iter h
    rw [h1] at g1; cases g1
    refine ⟨l, h1, h2, h3, h5, h6, fun n => ?_⟩
    obtain ⟨s', a, _, b, _⟩ := g4 n
    exact ⟨s', a, b⟩
  · have h := hdq hk
    obtain ⟨l, h1, h2, h3, _, h5, h6⟩ := C06_dpq_ascending h
    obtain ⟨l', g1, g2, g3, _, g5, g6⟩ := C06_dpq_descending h
    refine ⟨⟨l, h1, h2, h3, h5, h6⟩, ⟨l', g1, g2, g3, g5, g6⟩, fun calls => ?_⟩
    obtain ⟨o, s', a, _, b, c, _, d, e, f, _⟩ := C06_dpq_deque h calls
    exact ⟨o, s', a, b, c, d, e, f⟩

/-- … in particular from `new()` of either kind -/
theorem C06_after_history_new (ops : List (Op P)) (k : Kind) (hl : ∀ op ∈ ops, op.Legal)
    (hn : ∀ op ∈ ops, op.isLeak = false) :
    ∃ q' outs, run (Q.new k) ops = .ok (q', outs) ∧
      (q'.kind = .pq →
        ∃ l, MaxQ.intoSortedVec q'.s = .ok l ∧ l.Perm q'.s.map.toList ∧ l.Pairwise (fun a b => ¬ a.2 < b.2)) ∧
      (q'.kind = .dpq →
        (∃ l, DQ.intoAscendingSortedVec q'.s = .ok l ∧ l.Perm q'.s.map.toList ∧ l.Pairwise (fun a b => ¬ b.2 < a.2)) ∧
        (∃ l, DQ.intoDescendingSortedVec q'.s = .ok l ∧ l.Perm q'.s.map.toList ∧
          l.Pairwise (fun a b => ¬ a.2 < b.2))) := by
  obtain ⟨q', outs, hrun, hp, hd⟩ := C06_after_history ops (hist_new_inv k) hl hn
  refine ⟨q', outs, hrun, fun hk => ?_, fun hk => ?_⟩
  · obtain ⟨l, a, b, _, _, c, _⟩ := hp hk
    exact ⟨l, a, b, c⟩
  · obtain ⟨⟨l, a, b, _, _, c⟩, ⟨l', a', b', _, _, c'⟩, _⟩ := hd hk
    exact ⟨⟨l, a, b, c⟩, ⟨l', a', b', c'⟩⟩

/-- **C06 / C01: sorted consumption of a `PriorityQueue` starts with exactly the entry `peek` reports** (the same
entry, not merely one of the same priority), and with nothing on the empty queue. -/
theorem C06_pq_head_is_peek {s : Store P} (h : MaxQ.Inv s) :
    ∃ l, MaxQ.intoSortedVec s = .ok l ∧ l.head? = MaxQ.peek s := by
  obtain ⟨l, hl, _, _, hit⟩ := C06_pq_sorted_iter h
  refine ⟨l, hl, ?_⟩
  obtain ⟨s', hrun, _⟩ := hit 1
  obtain ⟨s1, hpop, _⟩ := C01_pop_eq_peek h
  simp only [bp_popCalls, hpop, bind, Except.bind, pure, Except.pure] at hrun
  cases l with
  | nil =>
    simp at hrun
    simpa using hrun.1.symm
  | cons a t =>
    simp at hrun
    simpa using hrun.1.symm

/-- **C06 / C02: the ascending sorted vector of a `DoublePriorityQueue` starts with exactly the entry `peek_min` reports,
the descending one with exactly the entry `peek_max` reports** (`None` / empty on the empty queue). -/
theorem C06_dpq_ends_are_peeks {s : Store P} (h : DQ.Inv s) :
    (∃ l r, DQ.intoAscendingSortedVec s = .ok l ∧ DQ.peekMin s = .ok r ∧ l.head? = r) ∧
    (∃ l r k, DQ.intoDescendingSortedVec s = .ok l ∧ DQ.peekMax s = .ok (s.tick k, r) ∧ l.head? = r) := by
  constructor
  · obtain ⟨l, hl, _⟩ := C06_dpq_ascending h
    obtain ⟨s', r, hpop, hpk, _⟩ := C02_popMin_eq_peekMin h
    refine ⟨l, r, hl, hpk, ?_⟩
    simp only [DQ.intoAscendingSortedVec, DQ.drainAsc, hpop, bind, Except.bind, pure, Except.pure] at hl
    cases r with
    | none => simp at hl; subst hl; rfl
    | some e =>
      simp only at hl
      split at hl
      · cases hl
      · cases hl; rfl
  · obtain ⟨l, hl, _⟩ := C06_dpq_descending h
    obtain ⟨s', r, k, hpop, hpk, _⟩ := C02_popMax_eq_peekMax h
    refine ⟨l, r, k, hl, hpk, ?_⟩
    simp only [DQ.intoDescendingSortedVec, DQ.drainDesc, hpop, bind, Except.bind, pure, Except.pure] at hl
    cases r with
    | none => simp at hl; subst hl; rfl
    | some e =>
      simp only at hl
      split at hl
      · cases hl
      · cases hl; rfl

example : bp_okR (DQ.intoAscendingSortedVec DQ.exQ) (fun l => bp_okR (DQ.peekMin DQ.exQ) (fun r => l.head? = r ∧ r.isSome)) ∧
    bp_okR (MaxQ.intoSortedVec bp_exP) (fun l => l.head? = MaxQ.peek bp_exP ∧ l.head?.isSome) := by decide +kernel

end PQ

#print axioms PQ.C06_after_history
#print axioms PQ.C06_after_history_new
#print axioms PQ.C06_pq_head_is_peek
#print axioms PQ.C06_dpq_ends_are_peeks
