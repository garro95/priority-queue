import PQ.Lemmas.History
/-!
# C01 — "PriorityQueue always yields a maximum-priority element"

> After any sequence of public operations on a `PriorityQueue`, `peek` reports and `pop` removes an element that is
> currently stored and whose priority is greater than or equal to every other stored priority under the priority type's
> `Ord`; an empty queue yields `None`.  `pop` (and the predicate of `pop_if`, and `peek_mut`) address exactly the element
> the immediately preceding `peek` reported.

Quantifier: **all finite histories** `ops : List (Op P)` over the alphabet of `PQ/Model/Ops.lean` (push new/existing,
`change_priority{,_by}` either direction, `push_increase`/`push_decrease`, `remove`, `get_mut`, `pop`, `pop_if`,
`peek_mut`, `retain{,_mut}`, `iter_mut` with a dropped guard, `extend`, `append`, `From<Vec>`/`FromIterator`/
`Deserialize`, the conversion from/to `DoublePriorityQueue`, `clear`/`drain`, the capacity operations), from **any
constructor** (`new`, or — since the bulk constructors are operations of the alphabet and ignore the old state — any of
them as the first operation; more generally from any queue satisfying the invariant), **all items and priorities**
(`P` is any type with a linear preorder: ties are allowed).  Side conditions: closures do not change an item's identity
(`Op.Legal`, the crate's documented requirement) and no `iter_mut` guard is leaked (`Op.isLeak`): the property list itself
sets that case apart — C10 says that after a leaked iterator "the order and even the reported length may be unspecified;
safety may not".  The order is restored by the next rebuilding operation (`hist_run_heal`); everything that needs only
well-formedness holds through leaks as well (C03, C04, C13, C16).  (The crate's own documentation only says that the heap
"will be rebuilt once the `IterMut` goes out of scope".)

`QInv q'` is the invariant of the kind the queue has at the end of the history (`.convert` switches kinds inside a
history); for kind `.pq` it is `MaxQ.Inv q'.s = WF ∧ MaxHeap`.
-/
namespace PQ
variable {P : Type} [LT P] [DecidableLT P] [LE P] [Std.IsLinearPreorder P] [Std.LawfulOrderLT P]

/-! ## Reachability: every history keeps the invariant -/

/-- **C01, reachability.**  From any queue satisfying the invariant of its kind, every history of legal operations
without a leaked guard runs without fault and ends in a queue satisfying the invariant of its final kind; if that kind
is `PriorityQueue`, the store is a well-formed binary max-heap. -/
theorem C01_reach (ops : List (Op P)) {q : Q P} (hq : QInv q) (hl : ∀ op ∈ ops, op.Legal)
    (hn : ∀ op ∈ ops, op.isLeak = false) :
    ∃ q' outs, run q ops = .ok (q', outs) ∧ outs.length = ops.length ∧ QInv q' ∧ (q'.kind = .pq → MaxQ.Inv q'.s) := by
  obtain ⟨q', outs, hrun, hinv, hlen⟩ := hist_run_inv ops hq hl hn
  exact ⟨q', outs, hrun, hlen, hinv, hinv.pq⟩

/-- … in particular from `new()` of either kind -/
theorem C01_reach_new (ops : List (Op P)) (k : Kind) (hl : ∀ op ∈ ops, op.Legal) (hn : ∀ op ∈ ops, op.isLeak = false) :
    ∃ q' outs, run (Q.new k) ops = .ok (q', outs) ∧ outs.length = ops.length ∧ QInv q' ∧
      (q'.kind = .pq → MaxQ.Inv q'.s) :=
  C01_reach ops (hist_new_inv k) hl hn

/-! ## `peek` reports a stored maximum -/

/-- **C01, `peek`.**  Under the invariant: `None` on the empty queue, otherwise a stored entry no stored priority
exceeds. -/
theorem C01_peek_max {s : Store P} (h : MaxQ.Inv s) :
    (s.size = 0 → MaxQ.peek s = none) ∧
    (0 < s.size → ∃ e, MaxQ.peek s = some e ∧ s.Mem e ∧ ∀ e', s.Mem e' → ¬ e.2 < e'.2) := by
  obtain ⟨h0, h1⟩ := MaxQ.peek_safe h.1
  refine ⟨h0, fun hn => ?_⟩
  obtain ⟨e, hp, hent, _⟩ := h1 hn
  exact ⟨e, hp, MaxQ.isMax_root h hent⟩

/-- the same with `≤` of the priority type: every stored priority is `≤` the reported one -/
theorem C01_peek_ge {s : Store P} (h : MaxQ.Inv s) (e : Item × P) (he : MaxQ.peek s = some e) :
    s.Mem e ∧ s.abs e.1.key = some e ∧ ∀ e', s.Mem e' → e'.2 ≤ e.2 := by
  rcases Nat.eq_zero_or_pos s.size with hz | hn
  · rw [(C01_peek_max h).1 hz] at he; cases he
  · obtain ⟨e0, hp, hmem, hmax⟩ := (C01_peek_max h).2 hn
    rw [hp] at he; cases he
    refine ⟨hmem, (DQ.mem_iff_abs h.1).1 hmem, fun e' he' => ?_⟩
    have := hmax e' he'
    grind

/-- `peek` answers `None` exactly on the empty queue -/
theorem C01_peek_none_iff {s : Store P} (h : MaxQ.Inv s) : MaxQ.peek s = none ↔ s.size = 0 := by
  constructor
  · intro hp
    rcases Nat.eq_zero_or_pos s.size with hz | hn
    · exact hz
    · obtain ⟨e, he, _⟩ := (C01_peek_max h).2 hn
      rw [he] at hp; cases hp
  · exact (C01_peek_max h).1

/-- **C01, `peek` after any history**: if the history ends in a `PriorityQueue`, `peek` of the final queue is `None`
iff the queue is empty, and otherwise a stored entry whose priority is `≥` every stored priority. -/
theorem C01_peek_history (ops : List (Op P)) {q : Q P} (hq : QInv q) (hl : ∀ op ∈ ops, op.Legal)
    (hn : ∀ op ∈ ops, op.isLeak = false) :
    ∃ q' outs, run q ops = .ok (q', outs) ∧
      (q'.kind = .pq →
        (MaxQ.peek q'.s = none ↔ q'.s.size = 0) ∧
        (0 < q'.s.size → ∃ e, MaxQ.peek q'.s = some e) ∧
        (∀ e, MaxQ.peek q'.s = some e →
          q'.s.Mem e ∧ (∀ e', q'.s.Mem e' → ¬ e.2 < e'.2) ∧ (∀ e', q'.s.Mem e' → e'.2 ≤ e.2))) := by
  obtain ⟨q', outs, hrun, _, _, hpq⟩ := C01_reach ops hq hl hn
  refine ⟨q', outs, hrun, fun hk => ?_⟩
  have h := hpq hk
  refine ⟨C01_peek_none_iff h, fun hpos => ?_, fun e he => ?_⟩
  · obtain ⟨e, he, _⟩ := (C01_peek_max h).2 hpos
    exact ⟨e, he⟩
  · obtain ⟨h1, _, h3⟩ := C01_peek_ge h e he
    refine ⟨h1, fun e' he' => ?_, h3⟩
    have := h3 e' he'
    grind

/-! ## `pop`, `pop_if`, `peek_mut` address exactly what `peek` reported -/

/-- **C01, `pop`.**  `pop` returns exactly `peek s` — `None` on the empty queue (nothing changes), otherwise the stored
maximum `peek` showed, and exactly its key disappears; the invariant holds afterwards. -/
theorem C01_pop_eq_peek {s : Store P} (h : MaxQ.Inv s) :
    ∃ s', MaxQ.pop s = .ok (s', MaxQ.peek s) ∧ MaxQ.Inv s' ∧
      (MaxQ.peek s = none → s' = s) ∧
      (∀ e, MaxQ.peek s = some e → s.IsMax e ∧ s.abs e.1.key = some e ∧ s'.abs = absRemove s.abs e.1.key ∧
        s'.size = s.size - 1) := by
  obtain ⟨s', r, he, hwf, rfl, h0, h1, hord⟩ := MaxQ.pop_core h.1
  obtain ⟨_, hnone, hsome⟩ := of_size_cases h0 h1
  exact ⟨s', he, ⟨hwf, (hord h.2).1⟩, hnone, fun e hr => ⟨(hord h.2).2 e hr, hsome e hr⟩⟩

/-- **C01, `pop_if`.**  The predicate is applied to exactly the entry `peek` reports (a stored maximum) and to nothing
else: the outcome of `pop_if` is determined by `f` on that entry — *yes*: the (possibly rewritten) entry is returned
and its key disappears; *no*: `None`, the (possibly rewritten) entry stays.  On the empty queue the predicate is not
called.  The invariant holds afterwards in every case. -/
theorem C01_popIf_sees_peek {s : Store P} (h : MaxQ.Inv s) (f : Item → P → Bool × Item × P)
    (hf : ∀ it p, (f it p).2.1.key = it.key) :
    (MaxQ.peek s = none → MaxQ.popIf s f = .ok (s, none)) ∧
    (∀ e, MaxQ.peek s = some e → s.IsMax e ∧
      ∃ s', MaxQ.popIf s f =
          .ok (s', if (f e.1 e.2).1 = true then some ((f e.1 e.2).2.1, (f e.1 e.2).2.2) else none) ∧
        MaxQ.Inv s' ∧
        s'.abs = (if (f e.1 e.2).1 = true then absRemove s.abs e.1.key
                  else absSet s.abs e.1.key ((f e.1 e.2).2.1, (f e.1 e.2).2.2)) ∧
        s'.size = (if (f e.1 e.2).1 = true then s.size - 1 else s.size)) := by
  obtain ⟨h0, h1⟩ := MaxQ.popIf_spec h f hf
  refine ⟨fun hp => h0 ((C01_peek_none_iff h).1 hp), fun e he => ?_⟩
  have hn : 0 < s.size := by
    rcases Nat.eq_zero_or_pos s.size with hz | hn
    · rw [(C01_peek_max h).1 hz] at he; cases he
    · exact hn
  obtain ⟨e0, hpk, hmax, ht, hfl⟩ := h1 hn
  rw [hpk] at he; cases he
  exact ⟨hmax, of_verdict (f e.1 e.2).1 ht hfl⟩

/-- **C01, `peek_mut`.**  The reference handed out is to exactly the entry `peek` reports; a key-preserving write to
the item changes only that entry's item and keeps the invariant (the priority is not writable through `peek_mut`). -/
theorem C01_peekMut_eq_peek {s : Store P} (h : MaxQ.Inv s) (w : Item → Item) (hw : ∀ it, (w it).key = it.key) :
    ∃ s', MaxQ.peekMutWrite s w = .ok (s', MaxQ.peek s) ∧ MaxQ.Inv s' ∧ s'.size = s.size ∧
      (MaxQ.peek s = none → s' = s) ∧
      (∀ e, MaxQ.peek s = some e → s.IsMax e ∧ s'.abs = absSet s.abs e.1.key (w e.1, e.2)) := by
  obtain ⟨s', r, he, hwf, hsz, rfl, h0, h1, hord⟩ := MaxQ.peekMutWrite_core h.1 w hw
  obtain ⟨_, hnone, hsome⟩ := of_size_cases h0 h1
  exact ⟨s', he, ⟨hwf, hord h.2⟩, hsz, hnone, fun e hr => ⟨MaxQ.isMax_root h hr, (hsome e hr).2.2.2.2⟩⟩

/-- **C01, history form of "pop addresses what the immediately preceding peek reported"**: after any history ending in
a `PriorityQueue`, the next `pop` / `pop_if f` / `peek_mut` operation of the alphabet returns what `peek` of that state
reports (for `pop_if`: what `f` makes of it), and the invariant continues to hold. -/
theorem C01_next_after_history (ops : List (Op P)) {q : Q P} (hq : QInv q) (hl : ∀ op ∈ ops, op.Legal)
    (hn : ∀ op ∈ ops, op.isLeak = false) :
    ∃ q' outs, run q ops = .ok (q', outs) ∧
      (q'.kind = .pq →
        (∃ q'', step q' .popFront = .ok (q'', .entry (MaxQ.peek q'.s)) ∧ QInv q'') ∧
        (∀ w : Item → Item, (∀ it, (w it).key = it.key) →
          ∃ q'', step q' (.peekFrontMut w) = .ok (q'', .entry (MaxQ.peek q'.s)) ∧ QInv q'') ∧
        (∀ f : Item → P → Bool × Item × P, (∀ it p, (f it p).2.1.key = it.key) →
          ∃ q'', step q' (.popFrontIf f) =
            .ok (q'', .entry ((MaxQ.peek q'.s).bind fun e =>
              if (f e.1 e.2).1 = true then some ((f e.1 e.2).2.1, (f e.1 e.2).2.2) else none)) ∧ QInv q'')) := by
  obtain ⟨q', outs, hrun, _, _, hpq⟩ := C01_reach ops hq hl hn
  refine ⟨q', outs, hrun, fun hk => ?_⟩
  have h := hpq hk
  obtain ⟨k, s⟩ := q'
  cases hk
  refine ⟨?_, fun w hw => ?_, fun f hf => ?_⟩
  · obtain ⟨s', he, hinv, _⟩ := C01_pop_eq_peek h
    simp only [step, he, bind, Except.bind, pure, Except.pure]
    exact ⟨_, rfl, hinv⟩
  · obtain ⟨s', he, hinv, _⟩ := C01_peekMut_eq_peek h w hw
    simp only [step, he, bind, Except.bind, pure, Except.pure]
    exact ⟨_, rfl, hinv⟩
  · obtain ⟨h0, h1⟩ := C01_popIf_sees_peek h f hf
    cases hp : MaxQ.peek s with
    | none =>
      simp only [step, h0 hp, bind, Except.bind, pure, Except.pure, Option.bind_none]
      exact ⟨_, rfl, h⟩
    | some e =>
      obtain ⟨_, s', he, hinv, _⟩ := h1 e hp
      simp only [step, he, bind, Except.bind, pure, Except.pure, Option.bind_some]
      exact ⟨_, rfl, hinv⟩

/-! ## Non-vacuity: concrete histories (ties, both directions of `change_priority`, bulk operations, a conversion) -/
section Examples

/-- every kind of operation once; priorities tie (`7` three times) -/
private def exOps : List (Op Nat) :=
  [.push ⟨1, 0⟩ 7, .push ⟨2, 0⟩ 7, .push ⟨3, 0⟩ 2, .push ⟨2, 5⟩ 1, .changePriority 3 7, .changePriorityBy 1 (· - 3),
   .pushIncrease ⟨4, 0⟩ 6, .pushDecrease ⟨4, 0⟩ 5, .pushIncrease ⟨4, 0⟩ 9, .remove 1, .getMut 2 (fun it => ⟨it.key, 8⟩),
   .extend 0 #[(⟨5, 0⟩, 9), (⟨6, 0⟩, 3)], .append (Store.fromVec #[(⟨7, 0⟩, 4), (⟨5, 1⟩, 0)]),
   .iterMut false [(.next, ⟨some 0, none⟩), (.next, ⟨none, some 1⟩), (.next, ⟨some 12, none⟩)],
   .retainMut (fun it p => (p != 3, it, p)), .popFrontIf (fun it p => (p == 12, it, p)), .capacityOp,
   .peekFrontMut (fun it => ⟨it.key, 99⟩), .convert, .popBack, .convert]

example : (∀ op ∈ exOps, op.Legal) ∧ (∀ op ∈ exOps, op.isLeak = false) := by
  constructor <;> intro op h <;> simp only [exOps, List.mem_cons, List.not_mem_nil, or_false] at h <;>
    rcases h with h | h | h | h | h | h | h | h | h | h | h | h | h | h | h | h | h | h | h | h | h <;> subst h <;>
    first | exact trivial | rfl | (intro _; rfl) | (intro _ _; rfl) | (show Store.WF _; decide +kernel) | (show _ ∧ _ < capLimit; decide +kernel)

-- the history runs, ends as a `PriorityQueue` satisfying the invariant, and `peek` shows a maximum of what is stored
example : hist_okR (run (Q.new .pq) exOps) (fun r => r.1.kind = .pq ∧ MaxQ.Inv r.1.s ∧ r.1.s.size = 3 ∧
    r.2.length = 21 ∧ MaxQ.peek r.1.s = some (⟨7, 0⟩, 4) ∧
    r.1.s.map = #[(⟨4, 0⟩, 0), (⟨2, 1⟩, 1), (⟨7, 0⟩, 4)]) := by decide +kernel
-- `pop` returns what `peek` showed; then the queue shows the next maximum; an emptied queue yields `None`
example : hist_okR (run (Q.new .pq) (exOps ++ [.popFront, .popFront, .popFront, .popFront])) (fun r =>
    r.1.s.size = 0 ∧ MaxQ.peek r.1.s = none ∧
    (r.2.drop 21).map hist_outEntry =
      [some (some (⟨7, 0⟩, 4)), some (some (⟨2, 1⟩, 1)), some (some (⟨4, 0⟩, 0)), some none]) := by decide +kernel
-- ties: three entries of priority 7; `peek`/`pop` address the same one
example : hist_okR (run (Q.new .pq) [.fromVec #[(⟨1, 0⟩, 7), (⟨2, 0⟩, 7), (⟨3, 0⟩, 7), (⟨4, 0⟩, 1)]]) (fun r =>
    MaxQ.Inv r.1.s ∧ hist_okR (MaxQ.pop r.1.s) (fun r' => r'.2 = MaxQ.peek r.1.s ∧ MaxQ.Inv r'.1)) := by decide +kernel

end Examples

end PQ

#print axioms PQ.C01_reach
#print axioms PQ.C01_reach_new
#print axioms PQ.C01_peek_max
#print axioms PQ.C01_peek_ge
#print axioms PQ.C01_peek_none_iff
#print axioms PQ.C01_peek_history
#print axioms PQ.C01_pop_eq_peek
#print axioms PQ.C01_popIf_sees_peek
#print axioms PQ.C01_peekMut_eq_peek
#print axioms PQ.C01_next_after_history
