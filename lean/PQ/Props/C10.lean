import PQ.Lemmas.CrashLemmas
import PQ.Lemmas.CrashCbLemmas
import PQ.Props.C04
/-!
# C10 — "A caught panic in user code leaves a queue that is safe to use"

> If user-supplied code (`Ord::cmp`, …) panics at any point inside any operation and the panic is caught
> (`catch_unwind`), then every later use of the queue stays memory safe.

## What is proved here

The crash points that the model can observe are the **priority comparisons**: every comparison-performing function of
the crate has a *fused twin* in `PQ/Model/Crash.lean` (`stepF fuse q op` for a whole public operation).  The comparison
whose ordinal equals `fuse` panics; the twin stops with `StopQ.crashed q'`, where `q'` is the queue **as the real code
leaves it after unwinding** (the `Hole` drop guard of the sift-up loops fills the hole; the swap-based loops leave complete
swaps; the constructors drop the half-built queue: `StopQ.crashedNew`).  `fuse = 0` means "never".

Quantifiers: **every operation** of the alphabet `Op P` (all public operations, both queue kinds), **every crash point**
(`fuse : Nat` arbitrary — in particular every comparison of the operation), **every well-formed starting state** (in
particular every state reachable from `new()` by a legal history, ordered or not, and every state left by an earlier
crash), **every continuation** (`ops : List (Op P)` arbitrary legal operations, leaked `iter_mut` guards included) and
**every sequence of further crashes** (`C10_repeated_crashes`).  "Memory safe" is C04's notion: no `Fault` of the model
(no out-of-bounds unchecked access `Fault.oob`, no panic of the crate's own code) and the index tables stay mutually
inverse bijections that agree with the reported length (`QWF`).

* `C10_crash_then_any_history` — the queue a caller holds after a crash is well-formed, hence (C04) every continuation
  runs without any fault;
* `C10_no_model_fault` — the operation in which the crash happens performs no faulty access itself, before or after the
  fuse fires (unwinding included: the writes of `Drop for Hole` are in range);
* `C10_ok_is_plain`, `C10_fuse_off` — when the fuse does not fire the twin is the plain operation of C04's `step`
  (so the twins describe the same code);
* `C10_reachable` — the same from `new()` after any legal history;
* `C10_repeated_crashes` — a whole sequence of operations each with its own fuse, continuing from the surviving queue
  after each crash.

## Panics inside user callbacks (setter / predicates / source iterators)

`PQ/Model/CrashCb.lean` models the other user code that runs in the middle of an operation: the **setter** of
`change_priority_by`, the **predicate** of `pop_if` / `pop_min_if` / `pop_max_if` and `Iterator::next` of the source of
`extend` / `from_iter`.  `stepCb k q op` is `op` with its `k`-th such callback panicking on entry; `stepCbW k w q op`
lets the panicking setter / predicate first store an arbitrary priority `w = some p` through its `&mut P`
(`stepCb k = stepCbW k none`).

* `C10_callback_crash_state_wf` — every such crash leaves a well-formed queue;
* `C10_callback_write_then_crash_state_wf` — also when the callback wrote a priority before panicking (the priority is in
  the slot, nothing was re-sifted: well-formed, in general not ordered);
* `C10_callback_crash_then_any_history` — from the queue the caller holds after such a crash every legal history (leaked
  guards included) is fault-free, and so is every program of further operations with comparison crashes (`runF`);
* `C10_callback_no_model_fault`, `C10_callback_fuse_off`, `C10_callback_ok_is_plain` — the operation itself performs no
  faulty access; with the fuse off (or beyond the operation's callbacks) `stepCb` is C04's `step`.

## What is NOT covered by these theorems

* Panics in the predicate of **`retain` / `retain_mut`** (it runs inside `IndexMap::retain`; the crash state is not
  well-formed): `Props/C10_retain.lean` has the weaker invariant that state satisfies and its continuations.  A panicking
  `Drop` inside **`clear`**: `Props/C10_more.lean`.  The other queue of **`append`**: `Props/C10_append_other.lean`.
* Panics in the bodies of **`iter_mut` / `get_mut` / `peek_mut`** clients (they run outside the crate's code: the guard's
  `Drop` is the rebuild that `.iterMut false` models, a leak is `.iterMut true`) and in **`Hash` / `Eq`** (inside
  `IndexMap`): covered by the harness's fault injection only.
* **Double drops / leaks** of items or priorities: not expressible in a pure (value-semantics) model.  (E.g. the entry
  removed by a `pop` whose sift-down crashes is lost to the caller — that is a leak, not a safety problem, and it is not
  stated here.)
* The **tie of the twins to the real unwinding behaviour** (that `StopQ.crashed q'` really is the state the Rust code
  leaves) is not a theorem: it is the driver's comparison of post-crash snapshots of the real queue with the twin's
  crash state, for every comparison ordinal of the generated operations.
* The heap **order** after a crash: a crashed queue is well-formed but in general not ordered (like after a leaked
  `iter_mut` guard); C04 (not C01/C02) applies to it until an operation that rebuilds.
-/
namespace PQ
open PQ.Crash
variable {P : Type} [LT P] [DecidableLT P] [LE P] [Std.IsLinearPreorder P] [Std.LawfulOrderLT P]

/-- C04 in the form used below: from a well-formed queue every legal history runs without fault and ends well-formed -/
theorem hist_continue {q : Q P} (hq : QWF q) (ops : List (Op P)) (hops : ∀ o ∈ ops, o.Legal) :
    ∃ q'' outs, run q ops = .ok (q'', outs) ∧ QWF q'' :=
  let ⟨q'', outs, h1, _, h3⟩ := C04_from_any_wf ops hq hops
  ⟨q'', outs, h1, h3⟩

/-- **C10, the operation itself is fault-free** whatever the crash point: no out-of-bounds unchecked access, no panic of
the crate's own code, before the fuse fires or during unwinding. -/
theorem C10_no_model_fault (fuse : Nat) {q : Q P} {op : Op P} (hq : QWF q) (hl : op.Legal) :
    ∀ f, stepF fuse q op ≠ .error (.fault f) :=
  (cr_stepF_wf fuse hq hl).2.2

/-- **C10, the crash state is well-formed** (every crash point of every operation), and so is the state after a normal
return. -/
theorem C10_crash_state_wf (fuse : Nat) {q : Q P} {op : Op P} (hq : QWF q) (hl : op.Legal) :
    (∀ q', stepF fuse q op = .error (.crashed q') → QWF q') ∧ (∀ q' o, stepF fuse q op = .ok (q', o) → QWF q') :=
  ⟨(cr_stepF_wf fuse hq hl).2.1, (cr_stepF_wf fuse hq hl).1⟩

/-- **C10: every crash point of every operation leaves a well-formed queue, from which every continuation is
fault-free.**  `q'` is the queue the caller holds after the caught panic: the crashed queue, or — when the panic happened
while a *fresh* queue was being built (`From<Vec>`, `FromIterator`, `Deserialize`) — the old queue, untouched. -/
theorem C10_crash_then_any_history (fuse : Nat) {q : Q P} {op : Op P} (hq : QWF q) (hl : op.Legal) :
    ∀ q', (stepF fuse q op = .error (.crashed q') ∨ (stepF fuse q op = .error .crashedNew ∧ q' = q)) →
      ∀ ops, (∀ o ∈ ops, o.Legal) → ∃ q'' outs, run q' ops = .ok (q'', outs) ∧ QWF q'' := by
  intro q' hc ops hops
  have hq' : QWF q' := by
    rcases hc with hc | ⟨_, rfl⟩
    · exact (cr_stepF_wf fuse hq hl).2.1 q' hc
    · exact hq
  exact hist_continue hq' ops hops

/-- the same with `StopQ.survivor`: however the operation stopped, a queue survives and every continuation from it is
fault-free -/
theorem C10_survivor (fuse : Nat) {q : Q P} {op : Op P} (hq : QWF q) (hl : op.Legal) {e : StopQ P}
    (he : stepF fuse q op = .error e) :
    ∃ q', e.survivor q = some q' ∧ QWF q' ∧
      ∀ ops, (∀ o ∈ ops, o.Legal) → ∃ q'' outs, run q' ops = .ok (q'', outs) ∧ QWF q'' := by
  obtain ⟨q', h1, h2⟩ := cr_survivor_wf fuse hq hl he
  exact ⟨q', h1, h2, hist_continue h2⟩

/-- **C10, the twins are the plain operations when the fuse does not fire**: a normal return of the fused operation is the
return of C04's `step`. -/
theorem C10_ok_is_plain (fuse : Nat) {q : Q P} {op : Op P} (hq : QWF q) (hl : op.Legal) {r : Q P × Out P}
    (hr : stepF fuse q op = .ok r) : step q op = .ok r :=
  cr_stepF_ok fuse hq hl hr

omit [LE P] [Std.IsLinearPreorder P] [Std.LawfulOrderLT P] in
/-- **C10, erasure**: with the fuse off (`fuse = 0`) every fused operation IS the plain operation — for every queue
(well-formed or not) and every operation (legal or not), faults included.  (The one textual difference between the twins and
the plain model, `push` bumping `size` before instead of after the sift-up, does not show: `bubble_up` neither reads nor
writes `size`, `cr_pq_bubbleUp_size` / `cr_dq_bubbleUp_size`.) -/
theorem C10_fuse_off (q : Q P) (op : Op P) : stepF 0 q op = liftQ q.kind (liftR (step q op)) :=
  cr_stepF_zero q op

/-- **C10, trichotomy**: the fused operation is the plain one, or it crashed into a well-formed queue, or it crashed while
building a fresh queue -/
theorem C10_trichotomy (fuse : Nat) {q : Q P} {op : Op P} (hq : QWF q) (hl : op.Legal) :
    stepF fuse q op = liftQ q.kind (liftR (step q op)) ∨
      (∃ q', stepF fuse q op = .error (.crashed q') ∧ QWF q') ∨ stepF fuse q op = .error .crashedNew :=
  cr_stepF_out fuse hq hl

/-- **C10 from `new()`**: after ANY legal history (leaked guards included) from `new()` of either kind, an operation that
crashes at ANY point performs no faulty access, and whatever queue survives is well-formed and supports every legal
continuation without fault. -/
theorem C10_reachable (k : Kind) (pre : List (Op P)) (hpre : ∀ o ∈ pre, o.Legal) (fuse : Nat) {op : Op P}
    (hl : op.Legal) :
    ∃ q outs, run (Q.new k) pre = .ok (q, outs) ∧ QWF q ∧ (∀ f, stepF fuse q op ≠ .error (.fault f)) ∧
      ∀ q', (stepF fuse q op = .error (.crashed q') ∨ (stepF fuse q op = .error .crashedNew ∧ q' = q)) →
        QWF q' ∧ ∀ ops, (∀ o ∈ ops, o.Legal) → ∃ q'' outs', run q' ops = .ok (q'', outs') ∧ QWF q'' := by
  obtain ⟨q, outs, h1, h3⟩ := hist_continue (hist_new_wf k) pre hpre
  refine ⟨q, outs, h1, h3, C10_no_model_fault fuse h3 hl, fun q' hc => ⟨?_, C10_crash_then_any_history fuse h3 hl q' hc⟩⟩
  rcases hc with hc | ⟨_, rfl⟩
  · exact (cr_stepF_wf fuse h3 hl).2.1 q' hc
  · exact h3

/-- **C10, repeated crashes.**  A whole sequence of legal operations, the `j`-th run with its own arbitrary fuse
(`prog : List (fuse × op)`), continuing from the surviving queue whenever a fuse fires (`runF`): never a model fault, and
the final queue is well-formed — so crash points, sequences of crashes and continuations are all quantified. -/
theorem C10_repeated_crashes (prog : List (Nat × Op P)) {q : Q P} (hq : QWF q) (hl : ∀ x ∈ prog, x.2.Legal) :
    (∃ q' n, runF q prog = .ok (q', n) ∧ QWF q') ∧ ∀ f, runF q prog ≠ .error f := by
  obtain ⟨q', n, h1, h2⟩ := cr_runF_wf prog hq hl
  refine ⟨⟨q', n, h1, h2⟩, fun f hf => ?_⟩
  rw [h1] at hf; cases hf

/-- … from `new()` of either kind -/
theorem C10_repeated_crashes_new (k : Kind) (prog : List (Nat × Op P)) (hl : ∀ x ∈ prog, x.2.Legal) :
    ∃ q' n, runF (Q.new k : Q P) prog = .ok (q', n) ∧ QWF q' :=
  (C10_repeated_crashes prog (hist_new_wf k) hl).1

/-! ## Crashes inside user callbacks -/

/-- **C10, a panicking callback leaves a well-formed queue.**  `stepCb k q op` is `op` in which the `k`-th user callback
(setter of `change_priority_by`, predicate of `pop_if` / `pop_min_if` / `pop_max_if`, `next` of the iterator feeding
`extend` / `from_iter`) panics on entry; `q'` is the queue the real code leaves after unwinding. -/
theorem C10_callback_crash_state_wf {q q' : Q P} {op : Op P} (k : Nat) (hq : QWF q) (hl : op.Legal) :
    stepCb k q op = .error (.crashed q') → QWF q' :=
  cb_crash_state_wf k hq

/-- **C10, write-then-panic.**  The panicking setter / predicate may first store an ARBITRARY priority `p` through the
`&mut P` it was handed (`w = some p`; `w = none` is the panic on entry) and only then panic: the crash state has the
priority overwritten in the entry's slot and no re-sift has happened — it is still well-formed (in general not ordered:
see the example below).  No hypothesis on the operation is needed (no callback returns). -/
theorem C10_callback_write_then_crash_state_wf {q q' : Q P} {op : Op P} (k : Nat) (w : Option P) (hq : QWF q) :
    stepCbW k w q op = .error (.crashed q') → QWF q' :=
  cbw_crash_state_wf k w hq

/-- **C10, the operation whose callback panics performs no faulty access of its own** (before the callback is entered or
while unwinding), whichever callback panics and whatever it wrote before. -/
theorem C10_callback_no_model_fault {q : Q P} {op : Op P} (k : Nat) (w : Option P) (hq : QWF q) (hl : op.Legal) :
    ∀ f, stepCbW k w q op ≠ .error (.fault f) :=
  cbw_no_model_fault k w hq hl

/-- **C10: after a caught callback panic every continuation is fault-free.**  `q'` is the queue the caller holds after the
panic: the crashed queue (with the priority the callback may have written, `w`), or — when the source iterator of
`from_iter` panicked while a fresh queue was being built — the old queue, untouched.  From `q'`, (1) every legal history
`ops` (leaked `iter_mut` guards included) runs without any fault and ends well-formed, and (2) so does every program
`prog` of legal operations each carrying its own comparison-crash fuse (`runF`: further crashes, continuing from the
surviving queue each time). -/
theorem C10_callback_crash_then_any_history {q : Q P} {op : Op P} (k : Nat) (w : Option P) (hq : QWF q) :
    ∀ q', (stepCbW k w q op = .error (.crashed q') ∨ (stepCbW k w q op = .error .crashedNew ∧ q' = q)) →
      (∀ ops, (∀ o ∈ ops, o.Legal) → ∃ q'' outs, run q' ops = .ok (q'', outs) ∧ QWF q'') ∧
      (∀ prog : List (Nat × Op P), (∀ x ∈ prog, x.2.Legal) → ∃ q'' n, runF q' prog = .ok (q'', n) ∧ QWF q'') := by
  intro q' hc
  have hq' : QWF q' := by
    rcases hc with hc | ⟨_, rfl⟩
    · exact cbw_crash_state_wf k w hq hc
    · exact hq
  exact ⟨hist_continue hq', fun prog hprog => (C10_repeated_crashes prog hq' hprog).1⟩

omit [LE P] [Std.IsLinearPreorder P] [Std.LawfulOrderLT P] in
/-- **C10, callback twins are the plain operations when the fuse does not fire**: with `k = 0`, or when the operation
performs fewer than `k` callbacks (`cbCount`), `stepCb` IS C04's `step` (for every queue and operation, faults included). -/
theorem C10_callback_fuse_off {k : Nat} {q : Q P} {op : Op P} (h : cbCount q op < k ∨ k = 0) :
    stepCb k q op = liftStep q op :=
  cb_not_fires h

omit [LE P] [Std.IsLinearPreorder P] [Std.LawfulOrderLT P] in
/-- … and a normal return of `stepCb` is the return of `step` -/
theorem C10_callback_ok_is_plain {k : Nat} {q : Q P} {op : Op P} {r : Q P × Out P} (h : stepCb k q op = .ok r) :
    step q op = .ok r :=
  cb_stepCb_ok h

omit [LE P] [Std.IsLinearPreorder P] [Std.LawfulOrderLT P] in
/-- `crashedNew` (a fresh queue dropped) is reported by `from_iter` only -/
theorem C10_callback_crashedNew_only_ctor {k : Nat} {w : Option P} {q : Q P} {op : Op P}
    (h : stepCbW k w q op = .error .crashedNew) : ∃ lo xs, op = .fromIter lo xs :=
  cbw_crashedNew_only_ctor h

section Examples

private def it (k : Nat) : Item := ⟨k, 100 + k⟩
private def v7 : Array (Item × Nat) := #[(it 1, 30), (it 2, 10), (it 3, 70), (it 4, 20), (it 5, 60), (it 6, 50), (it 7, 40)]

/-- the queue of kind `k` built from the seven pairs -/
private def q7 (k : Kind) : Q Nat :=
  match run (Q.new k) [.fromVec v7] with
  | .ok (q, _) => q
  | .error _ => Q.new k

/-- eight elements -/
private def q8 (k : Kind) : Q Nat :=
  match run (q7 k) [.push (it 8) 35] with
  | .ok (q, _) => q
  | .error _ => Q.new k

/-- seventeen new elements with large priorities -/
private def x17 : Array (Item × Nat) := Array.ofFn (n := 17) fun i => (it (20 + i.val), 100 + i.val)

/-- the operation crashed into a queue satisfying `p` -/
private def crashedInto (r : CRQ Nat (Q Nat × Out Nat)) (p : Q Nat → Prop) : Prop :=
  match r with
  | .error (.crashed q') => p q'
  | _ => False

private instance (r : CRQ Nat (Q Nat × Out Nat)) (p : Q Nat → Prop) [DecidablePred p] : Decidable (crashedInto r p) := by
  unfold crashedInto; split <;> infer_instance

private def crashedNewB (r : CRQ Nat (Q Nat × Out Nat)) : Bool :=
  match r with
  | .error .crashedNew => true
  | _ => false

private instance (q : Q Nat) : Decidable (QWF q) := inferInstanceAs (Decidable q.s.WF)

/-- a queue is determined by its kind and the five fields of its store -/
private theorem q_eq {q : Q Nat} {k : Kind} {m : IMap Nat} {h qp : Array Nat} {n t : Nat}
    (e : q.kind = k ∧ q.s.map = m ∧ q.s.heap = h ∧ q.s.qp = qp ∧ q.s.size = n ∧ q.s.ticks = t) :
    q = ⟨k, ⟨m, h, qp, n, t⟩⟩ := by
  obtain ⟨rfl, rfl, rfl, rfl, rfl, rfl⟩ := e
  rfl

/-! The two start queues, evaluated once; the examples rewrite with these equations and evaluate the operation only. -/
private theorem q7_pq : q7 .pq = ⟨.pq, ⟨v7, #[2, 4, 5, 3, 1, 0, 6], #[5, 4, 0, 3, 1, 2, 6], 7, 8⟩⟩ :=
  q_eq (by decide +kernel)
private theorem q7_dpq : q7 .dpq = ⟨.dpq, ⟨v7, #[1, 4, 2, 3, 0, 5, 6], #[4, 0, 2, 3, 1, 5, 6], 7, 11⟩⟩ :=
  q_eq (by decide +kernel)

-- the hypotheses: a concrete well-formed (and ordered) 7-element queue of either kind, non-zero comparison counter
example : QWF (q7 .pq) ∧ (q7 .pq).s.size = 7 ∧ (q7 .pq).s.ticks ≠ 0 := by
  rw [q7_pq]
  decide +kernel
example : QWF (q7 .dpq) ∧ (q7 .dpq).s.size = 7 := by
  rw [q7_dpq]
  decide +kernel

-- `push` of a new maximum into the 7-element max-heap, crashing at its 2nd comparison: the crash state is well-formed, has
-- 8 elements (the new element is in, where the hole was), and a `pop` on it runs fine
example : crashedInto (stepF ((q7 .pq).s.ticks + 2) (q7 .pq) (.push (it 8) 99)) (fun q' =>
    QWF q' ∧ q'.s.size = 8 ∧ q'.s.map.size = 8 ∧ q'.s.heap.size = 8 ∧ q'.s.qp.size = 8 ∧
    hist_okR (run q' [.popFront]) (fun r => QWF r.1 ∧ r.1.s.size = 7)) := by
  rw [q7_pq]
  decide +kernel
-- the same on the min-max heap (crash in the grandparent loop of `bubble_up_max`)
example : crashedInto (stepF ((q7 .dpq).s.ticks + 2) (q7 .dpq) (.push (it 8) 99)) (fun q' =>
    QWF q' ∧ q'.s.size = 8 ∧
    hist_okR (run q' [.popBack, .popFront]) (fun r => QWF r.1 ∧ r.1.s.size = 6)) := by
  rw [q7_dpq]
  decide +kernel
-- a crash in the sift-down of `pop`: the entry is gone, 6 elements, well-formed, and usable
example : crashedInto (stepF ((q7 .pq).s.ticks + 3) (q7 .pq) .popFront) (fun q' =>
    QWF q' ∧ q'.s.size = 6 ∧ hist_okR (run q' [.push (it 9) 5, .popFront, .popFront]) (fun r => QWF r.1)) := by
  rw [q7_pq]
  decide +kernel
-- a constructor that crashes drops the fresh queue: `crashedNew`, the old queue is the survivor
example : crashedNewB (stepF 2 (q7 .pq) (.fromVec v7)) = true := by
  rw [q7_pq]
  decide +kernel
-- `From<other kind>` crashes into a well-formed queue of the target kind
example : crashedInto (stepF ((q7 .pq).s.ticks + 2) (q7 .pq) .convert) (fun q' =>
    QWF q' ∧ q'.kind = .dpq ∧ q'.s.size = 7) := by
  rw [q7_pq]
  decide +kernel
-- with the fuse off (or beyond the operation's comparisons) nothing crashes: the plain result
private def sameOk (x : CRQ Nat (Q Nat × Out Nat)) (y : R (Q Nat × Out Nat)) : Prop :=
  match x, y with
  | .ok a, .ok b => a.1.s.map = b.1.s.map ∧ a.1.s.heap = b.1.s.heap ∧ a.1.s.qp = b.1.s.qp ∧ a.1.s.size = b.1.s.size ∧
      a.1.s.ticks = b.1.s.ticks
  | _, _ => False
private instance (x : CRQ Nat (Q Nat × Out Nat)) (y : R (Q Nat × Out Nat)) : Decidable (sameOk x y) := by
  unfold sameOk; split <;> infer_instance
example : sameOk (stepF 0 (q7 .pq) (.push (it 8) 99)) (step (q7 .pq) (.push (it 8) 99)) := by
  rw [q7_pq]
  decide +kernel
example : sameOk (stepF ((q7 .dpq).s.ticks + 5) (q7 .dpq) (.push (it 8) 99)) (step (q7 .dpq) (.push (it 8) 99)) := by
  rw [q7_dpq]
  decide +kernel

/-- a sequence with four fuses (push, pop, change_priority, From<Vec>; on the max-heap all four fire) and operations in between -/
private def exProg (q : Q Nat) : List (Nat × Op Nat) :=
  [(q.s.ticks + 2, .push (it 8) 99), (0, .push (it 9) 1), (q.s.ticks + 4, .popFront), (0, .popBack),
   (q.s.ticks + 5, .changePriority 5 1), (3, .fromVec v7), (0, .remove 6), (0, .popFront)]

private def okF (r : Except Fault (Q Nat × Nat)) (p : Q Nat × Nat → Prop) : Prop :=
  match r with
  | .ok x => p x
  | .error _ => False

private instance (r : Except Fault (Q Nat × Nat)) (p : Q Nat × Nat → Prop) [DecidablePred p] : Decidable (okF r p) := by
  unfold okF; split <;> infer_instance

example : ∀ x ∈ exProg (q7 .pq), x.2.Legal := by
  intro x hx
  simp only [exProg, List.mem_cons, List.not_mem_nil, or_false] at hx
  rcases hx with h | h | h | h | h | h | h | h <;> subst h <;> exact trivial
-- `C10_repeated_crashes` on it: four crashes did happen, no fault, well-formed at the end (both kinds)
example : okF (runF (q7 .pq) (exProg (q7 .pq))) (fun r => QWF r.1 ∧ r.2 = 4) := by
  rw [q7_pq]
  decide +kernel
example : okF (runF (q7 .dpq) (exProg (q7 .dpq))) (fun r => QWF r.1 ∧ r.2 = 3) := by
  rw [q7_dpq]
  decide +kernel

-- `C10_callback_crash_state_wf`: the setter of `change_priority_by` panics on entry (the item is present, so the setter IS
-- called): crashed, the queue is as it was, still ordered
example : crashedInto (stepCb 1 (q7 .pq) (.changePriorityBy 3 (· + 1))) (fun q' =>
    QWF q' ∧ q'.s.size = 7 ∧ q'.s.map = (q7 .pq).s.map ∧ MaxQ.Inv q'.s) := by
  rw [q7_pq]
  decide +kernel
-- the source iterator of `extend` panics at its 3rd `next` under the rebuild strategy (an 8-element queue and a source
-- announcing — and yielding — 17 elements): two elements have been absorbed by `Store::extend`, `heap_build` did not run:
-- well-formed, 10 elements, NOT ordered — and usable
example : (q8 .pq).s.size = 8 ∧ Arith.betterToRebuild 8 17 = true ∧ x17.size = 17 := by decide +kernel
example : crashedInto (stepCb 3 (q8 .pq) (.extend 17 x17)) (fun q' =>
    QWF q' ∧ q'.s.size = 10 ∧ ¬ MaxQ.Inv q'.s ∧
    hist_okR (run q' [.popFront, .push (it 11) 3, .popFront]) (fun r => QWF r.1 ∧ r.1.s.size = 9)) := by decide +kernel
-- … and under the push strategy (lower bound 0) on the min-max heap: two complete pushes
example : crashedInto (stepCb 3 (q7 .dpq) (.extend 0 #[(it 8, 99), (it 9, 98), (it 10, 97)])) (fun q' =>
    QWF q' ∧ q'.s.size = 9 ∧ q'.s.getPriority 9 = some 98 ∧ q'.s.getPriority 10 = none) := by
  rw [q7_dpq]
  decide +kernel
-- `from_iter`: the fresh queue is dropped
example : crashedNewB (stepCb 2 (q7 .pq) (.fromIter 2 #[(it 8, 99), (it 9, 98)])) = true := by
  rw [q7_pq]
  decide +kernel
-- an announced lower bound ≥ 2^61 is the capacity panic of the plain operation: the source iterator is never asked, no
-- callback crash can happen
example : (match stepCb 1 (q7 .pq) (.extend (2 ^ 61) #[(it 8, 99)]) with | .error (.fault .capacity) => true | _ => false) = true ∧
    cbCount (q7 .pq) (.extend (2 ^ 61) #[(it 8, 99)]) = 0 := by
  rw [q7_pq]
  decide +kernel
-- `C10_callback_write_then_crash_state_wf`: the predicate of `pop_if` stores priority 0 into the maximum and panics: the
-- element is still there, at the root, with priority 0: well-formed, NOT ordered
example : crashedInto (stepCbW 1 (some 0) (q7 .pq) (.popFrontIf (fun i p => (true, i, p)))) (fun q' =>
    QWF q' ∧ q'.s.size = 7 ∧ MaxQ.peek q'.s = some (it 3, 0) ∧ ¬ MaxQ.Inv q'.s) := by
  rw [q7_pq]
  decide +kernel
-- the same for `pop_max_if` of the min-max heap (after `find_max`) and for the setter of `change_priority_by`
example : crashedInto (stepCbW 1 (some 0) (q7 .dpq) (.popBackIf (fun i p => (true, i, p)))) (fun q' =>
    QWF q' ∧ q'.s.size = 7 ∧ q'.s.getPriority 3 = some 0 ∧ q'.s.heap = (q7 .dpq).s.heap ∧
    (DQ.peekMax q'.s).toOption.map (·.2) = some (some (it 5, 60))) := by
  rw [q7_dpq]
  decide +kernel
example : crashedInto (stepCbW 1 (some 1000) (q7 .dpq) (.changePriorityBy 2 id)) (fun q' =>
    QWF q' ∧ q'.s.getPriority 2 = some 1000 ∧ q'.s.heap = (q7 .dpq).s.heap ∧
    (DQ.peekMin q'.s).toOption = some (some (it 2, 1000))) := by
  rw [q7_dpq]
  decide +kernel
-- `C10_callback_crash_then_any_history`: a history with a leaked guard, and a program with further comparison crashes,
-- both from the disordered queue a write-then-panic predicate left
example : crashedInto (stepCbW 1 (some 0) (q7 .pq) (.popFrontIf (fun i p => (true, i, p)))) (fun q' =>
    hist_okR (run q' [.popFront, .iterMut true [(.next, ⟨some 500, none⟩)], .push (it 8) 5, .popFront, .remove 2])
      (fun r => QWF r.1 ∧ r.1.s.size = 5) ∧
    okF (runF q' (exProg q')) (fun r => QWF r.1 ∧ 0 < r.2)) := by
  rw [q7_pq]
  decide +kernel
-- beyond the operation's callbacks the fuse does not fire: the plain result (hypothesis of `C10_callback_fuse_off`)
example : cbCount (q7 .pq) (.changePriorityBy 3 (· + 1)) < 2 := by
  rw [q7_pq]
  decide +kernel
example : sameOk (stepCb 2 (q7 .pq) (.changePriorityBy 3 (· + 1))) (step (q7 .pq) (.changePriorityBy 3 (· + 1))) := by
  rw [q7_pq]
  decide +kernel

end Examples

end PQ

#print axioms PQ.C10_no_model_fault
#print axioms PQ.C10_crash_state_wf
#print axioms PQ.C10_crash_then_any_history
#print axioms PQ.C10_survivor
#print axioms PQ.C10_ok_is_plain
#print axioms PQ.C10_fuse_off
#print axioms PQ.C10_trichotomy
#print axioms PQ.C10_reachable
#print axioms PQ.C10_repeated_crashes
#print axioms PQ.C10_repeated_crashes_new
#print axioms PQ.C10_callback_crash_state_wf
#print axioms PQ.C10_callback_write_then_crash_state_wf
#print axioms PQ.C10_callback_no_model_fault
#print axioms PQ.C10_callback_crash_then_any_history
#print axioms PQ.C10_callback_fuse_off
#print axioms PQ.C10_callback_ok_is_plain
#print axioms PQ.C10_callback_crashedNew_only_ctor
