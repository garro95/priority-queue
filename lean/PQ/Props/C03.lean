import PQ.Lemmas.Contents
/-!
# C03 — Contents and return values match a map from item to priority

"At every point of any history a queue of either kind holds exactly one priority per distinct item, namely the last one
assigned to it, and len, is_empty, get, get_priority, get_mut, iter, into_iter and into_vec report exactly that set.
push returns the previous priority or None, change_priority the old priority, change_priority_by whether the item was
present, remove and the pop family the stored (item, priority) pair, and operations naming an absent item change
nothing.  No operation loses, duplicates or alters any element other than the ones it targets."

The abstract state is `AbsQ P = Nat → Option (Item × P)` (item key ↦ stored item and priority), read off a store by
`Store.abs`.  The specification `specStep kind a op o a'` (file `PQ/Lemmas/Contents.lean`) fixes, for each of the 27
public operations of `Ops.lean`, the returned value `o` and the new abstract state `a'`; it is a relation only because
WHICH stored pair the pop family addresses is left open here (C01/C02 say it is an extreme one).

* `C03_step_refines`, `C03_step_total`, `C03_history` — every legal operation / history on a well-formed queue of
  either kind refines the specification.  Only `WF` is assumed (`q.s.WF`, which is what `QWF q` of `History.lean`
  unfolds to): contents do not depend on the heap order, so this also covers the time after a leaked `iter_mut` guard.
* `C03_frame`, `C03_frame_pop`, `C03_frame_history` — no operation alters any element other than the one it targets.
* `C03_assigned` — the priority found after an assignment is the assigned one; with `C03_frame` and
  `C03_one_priority_per_item`: exactly one priority per item, the last one assigned.
* `C03_one_priority_per_item`, `C03_len`, `C03_is_empty`, `C03_card` — the representation: distinct slots hold distinct
  keys, `len` is the number of stored keys.
* `C03_lookups`, `C03_iter_yields` — `get`, `get_priority`, `get_mut`, `iter`/`into_iter`/`into_vec` report exactly the
  abstract state.
* `C03_absent_noop` — operations naming an absent item return `None`/`false` and leave the store EQUAL.
-/
set_option linter.unusedSectionVars false
namespace PQ
open Store
variable {P : Type} [LT P] [DecidableLT P] [LE P] [Std.IsLinearPreorder P] [Std.LawfulOrderLT P]

/-- **C03, one operation**: whatever a legal operation on a well-formed queue of either kind returned, the result and
the new contents are the ones the abstract specification prescribes. -/
theorem C03_step_refines {q q' : Q P} {op : Op P} {o : Out P} (hq : q.s.WF) (hl : op.Legal)
    (hs : step q op = .ok (q', o)) : specStep q.kind q.s.abs op o q'.s.abs :=
  (cont_step_refines hq hl hs).2.2

/-- … and it does return: no fault, the queue stays well-formed, the kind changes only by `From<other kind>` -/
theorem C03_step_total {q : Q P} (hq : q.s.WF) (op : Op P) (hl : op.Legal) :
    ∃ q' o, step q op = .ok (q', o) ∧ q'.s.WF ∧ q'.kind = cont_kindAfter q.kind op ∧
      specStep q.kind q.s.abs op o q'.s.abs :=
  cont_step_total' hq op hl

/-- **C03, histories**: every finite history of legal operations, started on any well-formed queue of either kind, runs
to the end and refines the specification step by step (`specRun` is the chain of `specStep`s) -/
theorem C03_history {q : Q P} (hq : q.s.WF) (ops : List (Op P)) (hl : ∀ op ∈ ops, op.Legal) :
    ∃ q' outs, run q ops = .ok (q', outs) ∧ q'.s.WF ∧ specRun q.kind q.s.abs ops outs q'.s.abs :=
  cont_run_total ops hq hl

/-- … in particular every history that starts with `new()`: the empty map is refined all the way -/
theorem C03_history_new (kind : Kind) (ops : List (Op P)) (hl : ∀ op ∈ ops, op.Legal) :
    ∃ q' outs, run (Q.new kind) ops = .ok (q', outs) ∧ q'.s.WF ∧ specRun kind (fun _ => none) ops outs q'.s.abs :=
  C03_history (q := (Q.new kind : Q P)) wf_empty ops hl

/-- **Frame, single-element operations**: `push`, `push_increase`, `push_decrease`, `change_priority`,
`change_priority_by`, `remove`, `get_mut` leave every key other than the named one exactly as it was -/
theorem C03_frame {q q' : Q P} {op : Op P} {o : Out P} (hq : q.s.WF) (hl : op.Legal) (hs : step q op = .ok (q', o))
    {t : Nat} (ht : cont_target op = some t) : ∀ k, k ≠ t → q'.s.abs k = q.s.abs k :=
  fun _ hk => cont_spec_frame (C03_step_refines hq hl hs) ht hk

/-- **Frame, pop family and `peek_*_mut`**: when a pair is returned, every key other than the returned one is exactly
as it was (the `*_if` predicates may rewrite the returned item, never its key); when `pop`, `pop_min`, `pop_max`,
`peek_mut`, `peek_min_mut`, `peek_max_mut` return `None` nothing changed at all -/
theorem C03_frame_pop {q q' : Q P} {op : Op P} {r : Option (Item × P)} (hq : q.s.WF) (hl : op.Legal)
    (hs : step q op = .ok (q', .entry r))
    (hop : (op = .popFront ∨ op = .popBack ∨ (∃ w, op = .peekFrontMut w) ∨ (∃ w, op = .peekBackMut w)) ∨
      ((∃ f, op = .popFrontIf f) ∨ (∃ f, op = .popBackIf f))) :
    (∀ e, r = some e → ∀ k, k ≠ e.1.key → q'.s.abs k = q.s.abs k) ∧
    (r = none → ¬ ((∃ f, op = .popFrontIf f) ∨ (∃ f, op = .popBackIf f)) → q'.s.abs = q.s.abs) := by
  have hspec := C03_step_refines hq hl hs
  have pop : ∀ {a a' : AbsQ P}, specPop a (.entry r) a' →
      (∀ e, r = some e → ∀ k, k ≠ e.1.key → a' k = a k) ∧ (r = none → a' = a) := by
    intro a a' h
    rcases h with ⟨_, h1, rfl⟩ | ⟨e, _, h1, rfl⟩
    · exact ⟨fun _ _ _ _ => rfl, fun _ => rfl⟩
    · cases h1
      exact ⟨fun e' he k hk => by cases he; exact cont_absRemove_ne hk, fun hn => by cases hn⟩
  have peek : ∀ {w : Item → Item} {a a' : AbsQ P}, specPeekMut w a (.entry r) a' →
      (∀ e, r = some e → ∀ k, k ≠ e.1.key → a' k = a k) ∧ (r = none → a' = a) := by
    intro w a a' h
    rcases h with ⟨_, h1, rfl⟩ | ⟨e, _, h1, rfl⟩
    · exact ⟨fun _ _ _ _ => rfl, fun _ => rfl⟩
    · cases h1
      exact ⟨fun e' he k hk => by cases he; exact cont_absSet_ne hk, fun hn => by cases hn⟩
  have popIf : ∀ {f : Item → P → Bool × Item × P} {a a' : AbsQ P}, (∀ it p, (f it p).2.1.key = it.key) →
      specPopIf f a (.entry r) a' → (∀ e, r = some e → ∀ k, k ≠ e.1.key → a' k = a k) := by
    intro f a a' hf h
    rcases h with ⟨_, h1, rfl⟩ | ⟨e, _, ⟨_, h1, rfl⟩ | ⟨_, h1, rfl⟩⟩
    · exact fun _ _ _ _ => rfl
    · cases h1
      intro e' he k hk
      cases he
      exact cont_absRemove_ne (by rw [hf] at hk; exact hk)
    · cases h1
      intro e' he; cases he
  rcases hop with (rfl | rfl | ⟨w, rfl⟩ | ⟨w, rfl⟩) | ⟨f, rfl⟩ | ⟨f, rfl⟩
  · exact ⟨(pop hspec).1, fun hn _ => (pop hspec).2 hn⟩
  · rw [cont_back_entry_dpq (.inl rfl) hs] at hspec
    exact ⟨(pop hspec).1, fun hn _ => (pop hspec).2 hn⟩
  · exact ⟨(peek hspec).1, fun hn _ => (peek hspec).2 hn⟩
  · rw [cont_back_entry_dpq (.inr (.inr ⟨w, rfl⟩)) hs] at hspec
    exact ⟨(peek hspec).1, fun hn _ => (peek hspec).2 hn⟩
  · exact ⟨popIf hl hspec, fun _ hn => absurd (.inl ⟨f, rfl⟩) hn⟩
  · rw [cont_back_entry_dpq (.inr (.inl ⟨f, rfl⟩)) hs] at hspec
    exact ⟨popIf hl hspec, fun _ hn => absurd (.inr ⟨f, rfl⟩) hn⟩

/-- **The last priority assigned is the one held**: after `push it p` the item has priority `p`; after
`change_priority k p` / `change_priority_by k g` on a present item it has priority `p` / `g old`; after a
`push_increase` / `push_decrease` it has the offered priority if that moved it in the right direction (or the item was
new) and the old one otherwise.  In each case the stored ITEM is the one that was there (C12). -/
theorem C03_assigned {q q' : Q P} {o : Out P} (hq : q.s.WF) :
    (∀ it p, step q (.push it p) = .ok (q', o) →
      q'.s.abs it.key = some (((q.s.abs it.key).map (·.1)).getD it, p)) ∧
    (∀ k p e, step q (.changePriority k p) = .ok (q', o) → q.s.abs k = some e → q'.s.abs k = some (e.1, p)) ∧
    (∀ k g e, step q (.changePriorityBy k g) = .ok (q', o) → q.s.abs k = some e → q'.s.abs k = some (e.1, g e.2)) ∧
    (∀ it p, step q (.pushIncrease it p) = .ok (q', o) →
      q'.s.abs it.key = match q.s.abs it.key with
        | none => some (it, p)
        | some e => if e.2 < p then some (e.1, p) else some e) ∧
    (∀ it p, step q (.pushDecrease it p) = .ok (q', o) →
      q'.s.abs it.key = match q.s.abs it.key with
        | none => some (it, p)
        | some e => if p < e.2 then some (e.1, p) else some e) := by
  refine ⟨fun it p hs => ?_, fun k p e hs ha => ?_, fun k g e hs ha => ?_, fun it p hs => ?_, fun it p hs => ?_⟩
  · have h := C03_step_refines (op := .push it p) hq trivial hs
    rw [h.2]; exact cont_absPush_self
  · have h := C03_step_refines (op := .changePriority k p) hq trivial hs
    rw [h.2, ha]; exact cont_absSet_self
  · have h := C03_step_refines (op := .changePriorityBy k g) hq trivial hs
    rw [h.2, ha]; exact cont_absSet_self
  · have h := C03_step_refines (op := .pushIncrease it p) hq trivial hs
    exact cont_pushDir_assigned (c := (· < p)) h.1 h.2.1 h.2.2
  · have h := C03_step_refines (op := .pushDecrease it p) hq trivial hs
    exact cont_pushDir_assigned (c := (p < ·)) h.1 h.2.1 h.2.2

/-- **Frame, histories**: a history of single-element operations none of which names `k` leaves `k` exactly as it was
(item, payload and priority): interleaved operations on other items never alter, lose or duplicate it -/
theorem C03_frame_history {k : Nat} (ops : List (Op P)) : ∀ {q q' : Q P} {outs : List (Out P)}, q.s.WF →
    (∀ op ∈ ops, op.Legal ∧ ∃ t, cont_target op = some t ∧ t ≠ k) → run q ops = .ok (q', outs) →
    q'.s.abs k = q.s.abs k := by
  intro q q' outs hq hl hr
  refine cont_run_induction (C := fun q ops q' _ => (∀ op ∈ ops, ∃ t, cont_target op = some t ∧ t ≠ k) →
    q'.s.abs k = q.s.abs k) (fun _ _ => rfl) (fun hq hl1 h1 _ _ ih ht => ?_) ops hq (fun op hop => (hl op hop).1) hr
    (fun op hop => (hl op hop).2)
  obtain ⟨t, ht1, hne⟩ := ht _ List.mem_cons_self
  rw [ih (fun op' hop => ht op' (List.mem_cons_of_mem _ hop))]
  exact C03_frame hq hl1 h1 ht1 k (fun hk => hne hk.symm)

/-! ## The representation: one slot, hence one priority, per distinct item -/

/-- **one priority per distinct item**: two slots of the map holding the same key are the same slot -/
theorem C03_one_priority_per_item {s : Store P} (h : s.WF) :
    ∀ (i j : Nat) (a b : Item × P), s.map[i]? = some a → s.map[j]? = some b → a.1.key = b.1.key → i = j :=
  h.nodup

/-- `len()` is the number of slots of the map … -/
theorem C03_len {s : Store P} (h : s.WF) : s.len = s.map.size := h.map_size.symm

/-- … which is the number of distinct keys the abstract state holds -/
theorem C03_card {s : Store P} (h : s.WF) :
    ∃ keys : List Nat, keys.Nodup ∧ keys.length = s.len ∧ ∀ k, k ∈ keys ↔ (s.abs k).isSome = true :=
  cont_absCard_of_WF h

/-- `is_empty()` answers whether the abstract state holds nothing -/
theorem C03_is_empty {s : Store P} (h : s.WF) : s.isEmpty = true ↔ ∀ k, s.abs k = none := by
  constructor
  · intro he k
    exact DQ.abs_none_of_size_zero h (by simpa [Store.isEmpty] using he) k
  · intro hn
    obtain ⟨keys, _, hlen, hm⟩ := C03_card h
    cases keys with
    | nil => simp only [List.length_nil] at hlen; simp [Store.isEmpty, Store.len] at hlen ⊢; omega
    | cons k ks =>
      have := (hm k).1 List.mem_cons_self
      rw [hn k] at this; cases this

/-- **Lookups report exactly the abstract state**: `get`, `get_priority`, `get_mut` (which returns the stored pair and
rewrites only the item, through a key-preserving write), and the entries `iter` / `into_iter` / `into_vec` / `drain`
walk over — the slot array of the map — are exactly the pairs of the abstract state, each once -/
theorem C03_lookups {s : Store P} (h : s.WF) :
    (∀ k, s.get k = s.abs k) ∧
    (∀ k, s.getPriority k = (s.abs k).map (·.2)) ∧
    (∀ k w, (∀ it, (w it).key = it.key) → (s.getMutWrite k w).2 = s.abs k ∧
      (s.getMutWrite k w).1.abs = (match s.abs k with | none => s.abs | some e => absSet s.abs k (w e.1, e.2))) ∧
    (∀ e, e ∈ s.map.toList ↔ s.abs e.1.key = some e) ∧
    (s.map.toList.map (·.1.key)).Nodup ∧
    s.map.toList.length = s.len := by
  exact ⟨fun k => get_eq_lookup s k, fun k => getPriority_eq_lookup s k, fun k w hw => (cont_getMutWrite h k hw).2,
    cont_mem_toList_iff h, IMap.noDupKeys_iff_nodup.1 h.nodup, by simp [Store.len, h.map_size]⟩

/-- **`iter` / `into_iter` / `drain` as cursors over the slot array**: whatever calls (`next`, `next_back`, `len`,
`size_hint`) the client makes, the yielded slots are distinct, each holds a pair of the abstract state, and a fully
consumed iterator has yielded every slot exactly once -/
theorem C03_iter_yields {s : Store P} (h : s.WF) (calls : List ICall) :
    (slots (Cursor.run (Cursor.new s.map.size) calls)).Nodup ∧
    (∀ i ∈ slots (Cursor.run (Cursor.new s.map.size) calls), ∃ e, s.map[i]? = some e ∧ s.abs e.1.key = some e) ∧
    (s.map.size ≤ adv calls → (slots (Cursor.run (Cursor.new s.map.size) calls)).Perm (List.range' 0 s.map.size)) := by
  refine ⟨Cursor.slots_nodup _ calls, fun i hi => ?_, fun hadv => ?_⟩
  · have hb := (Cursor.slots_bounds (Cursor.new s.map.size) calls i hi).2
    have hi' : i < s.map.size := hb
    exact ⟨s.map[i], Array.getElem?_eq_getElem hi', IMap.lookup_of_getElem? h.nodup (Array.getElem?_eq_getElem hi')⟩
  · exact Cursor.slots_perm (Cursor.new s.map.size) calls (by simpa [Cursor.new, Cursor.remaining] using hadv)

/-- **Operations naming an absent item change nothing**: `change_priority`, `change_priority_by`, `remove`, `get_mut`
on an absent key return `None` / `false` and the very same store (both kinds; not even the ghost counter moves) -/
theorem C03_absent_noop {kind : Kind} {s : Store P} (h : s.WF) {k : Nat} (ha : s.abs k = none) :
    (∀ p, step ⟨kind, s⟩ (.changePriority k p) = .ok (⟨kind, s⟩, .prio none)) ∧
    (∀ g, step ⟨kind, s⟩ (.changePriorityBy k g) = .ok (⟨kind, s⟩, .bool false)) ∧
    step ⟨kind, s⟩ (.remove k) = .ok (⟨kind, s⟩, .entry none) ∧
    (∀ w, step ⟨kind, s⟩ (.getMut k w) = .ok (⟨kind, s⟩, .entry none)) := by
  refine ⟨fun p => ?_, fun g => ?_, ?_, fun w => ?_⟩
  · cases kind with
    | pq => exact bind_of_ok ((MaxQ.changePriority_safe h k p).1 ha) _
    | dpq =>
      obtain ⟨s', e1, _, _, e3, _⟩ := DQ.changePriority_safe h k p
      rw [e3 ha, ha] at e1
      exact bind_of_ok e1 _
  · cases kind with
    | pq => exact bind_of_ok ((MaxQ.changePriorityBy_safe h k g).1 ha) _
    | dpq =>
      obtain ⟨s', e1, _, _, e3, _⟩ := DQ.changePriorityBy_safe h k g
      rw [e3 ha, ha] at e1
      exact bind_of_ok e1 _
  · cases kind with
    | pq => exact bind_of_ok ((MaxQ.remove_safe h k).1 ha) _
    | dpq =>
      obtain ⟨s', e1, _, _, _, e3⟩ := DQ.remove_safe h k
      rw [e3 ha, ha] at e1
      exact bind_of_ok e1 _
  · show (Except.ok (⟨kind, (s.getMutWrite k w).1⟩, .entry (s.getMutWrite k w).2) : R (Q P × Out P)) = _
    rw [getMutWrite_spec_none ha w]

/-! ## Non-vacuity: concrete queues of both kinds -/
section Examples

private def exOps : List (Op Nat) :=
  [.push ⟨4, 0⟩ 8, .push ⟨6, 60⟩ 2, .changePriority 1 0, .remove 2, .popFront, .getMut 5 (fun it => ⟨it.key, 7⟩),
   .push ⟨2, 21⟩ 4, .pushIncrease ⟨6, 0⟩ 1, .convert, .popBack, .append (Store.fromVec #[(⟨9, 0⟩, 1)])]

-- the hypotheses of `C03_step_refines` / `C03_step_total` / `C03_frame` / `C03_assigned`: a well-formed queue of
-- each kind, a legal operation, a successful step (re-inserting a present item with another payload)
example : (⟨.pq, cont_ex5⟩ : Q Nat).s.WF ∧ (⟨.dpq, cont_exD⟩ : Q Nat).s.WF := by decide +kernel
example : (Op.push ⟨4, 0⟩ 8 : Op Nat).Legal ∧ cont_target (Op.push ⟨4, 0⟩ 8 : Op Nat) = some 4 := ⟨trivial, rfl⟩
example : cont_okR (step ⟨.pq, cont_ex5⟩ (.push ⟨4, 0⟩ 8)) (fun r => cont_outPrio r.2 = some (some 1) ∧
    r.1.s.abs 4 = some (⟨4, 40⟩, 8) ∧ r.1.s.abs 3 = cont_ex5.abs 3) := by decide +kernel
example : cont_okR (step ⟨.dpq, cont_exD⟩ (.push ⟨4, 0⟩ 8)) (fun r => cont_outPrio r.2 = some (some 1) ∧
    r.1.s.abs 4 = some (⟨4, 40⟩, 8) ∧ r.1.s.abs 3 = cont_exD.abs 3) := by decide +kernel
example : cont_okR (step ⟨.pq, cont_ex5⟩ (.changePriority 2 0)) (fun r => cont_outPrio r.2 = some (some 9) ∧
    r.1.s.abs 2 = some (⟨2, 20⟩, 0)) := by decide +kernel
-- `C03_frame_pop`: a pop of each kind returns a stored pair
example : cont_okR (step ⟨.pq, cont_ex5⟩ .popFront) (fun r => cont_outEntry r.2 = some (some (⟨2, 20⟩, 9)) ∧
    r.1.s.abs 2 = none ∧ r.1.s.abs 3 = cont_ex5.abs 3) := by decide +kernel
example : cont_okR (step ⟨.dpq, cont_exD⟩ .popBack) (fun r => cont_outEntry r.2 = some (some (⟨2, 20⟩, 9)) ∧
    r.1.s.abs 2 = none) := by decide +kernel
-- `C03_history`: a history of legal operations on both kinds (with a conversion in the middle)
example : ∀ op ∈ exOps, op.Legal := by
  simp only [exOps, List.forall_mem_cons, List.not_mem_nil, false_imp_iff, implies_true, and_true]
  exact ⟨trivial, trivial, trivial, trivial, trivial, fun _ => rfl, trivial, trivial, trivial, trivial,
    by show Store.WF _; decide +kernel⟩
example : cont_okR (run ⟨.pq, cont_ex5⟩ exOps) (fun r => r.1.kind = .dpq ∧ r.1.s.WF ∧ r.1.s.len = 5 ∧
    r.1.s.abs 1 = some (⟨1, 10⟩, 0) ∧ r.1.s.abs 2 = some (⟨2, 21⟩, 4) ∧ r.1.s.abs 3 = none ∧ r.1.s.abs 4 = none ∧
    r.1.s.abs 5 = some (⟨5, 7⟩, 3) ∧ r.1.s.abs 6 = some (⟨6, 60⟩, 2) ∧ r.1.s.abs 9 = some (⟨9, 0⟩, 1)) := by decide +kernel
-- `C03_one_priority_per_item`, `C03_len`, `C03_card`, `C03_is_empty`, `C03_lookups`
example : cont_ex5.WF ∧ cont_ex5.len = 5 ∧ cont_ex5.isEmpty = false ∧ cont_ex5.get 4 = some (⟨4, 40⟩, 1) ∧
    cont_ex5.getPriority 4 = some 1 ∧ cont_ex5.get 7 = none := by decide +kernel
-- `C03_frame_history`: a history of single-element operations none of which names key 3
example : cont_okR (run ⟨.dpq, cont_exD⟩ [.push ⟨4, 0⟩ 8, .remove 1, .changePriority 2 0, .push ⟨1, 0⟩ 3, .getMut 5 id])
    (fun r => r.1.s.abs 3 = cont_exD.abs 3 ∧ r.1.s.abs 1 = some (⟨1, 0⟩, 3)) := by decide +kernel
-- `C03_iter_yields`: a fully consumed double-ended walk over the five slots
example : slots (Cursor.run (Cursor.new cont_ex5.map.size) [.next, .nextBack, .len, .next, .next, .nextBack, .next]) =
    [0, 4, 1, 2, 3] := by decide +kernel
-- `C03_absent_noop`: key 7 is absent
example : cont_ex5.WF ∧ cont_ex5.abs 7 = none ∧ cont_exD.WF ∧ cont_exD.abs 7 = none := by decide +kernel

end Examples

end PQ

#print axioms PQ.C03_step_refines
#print axioms PQ.C03_step_total
#print axioms PQ.C03_history
#print axioms PQ.C03_history_new
#print axioms PQ.C03_frame
#print axioms PQ.C03_frame_pop
#print axioms PQ.C03_frame_history
#print axioms PQ.C03_assigned
#print axioms PQ.C03_one_priority_per_item
#print axioms PQ.C03_len
#print axioms PQ.C03_card
#print axioms PQ.C03_is_empty
#print axioms PQ.C03_lookups
#print axioms PQ.C03_iter_yields
#print axioms PQ.C03_absent_noop
