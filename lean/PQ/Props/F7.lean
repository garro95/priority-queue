import PQ.Model.Ops
/-!
# Known finding F7 (C01 / C02 / C08): references yielded by `iter_mut` outlive the guard

`iter_mut` hands out `(&'a mut I, &'a mut P)` with the lifetime of the queue borrow and rebuilds the heap when the
*iterator* is dropped.  `iterMutLate` (`Model/Ops.lean`) is what safe client code can therefore do: collect the references, let the guard
drop, write afterwards.  The statements C01 / C02 / C08 are FALSE for histories that contain such a step — of the model and of
the real crate alike (the witness below is replayed on the implementation by the checks of C01, C02 and C08, which print a
`KNOWN-FINDING` line while it reproduces).  The theorems proved in `Props/C01.lean`, `C02.lean`, `C08.lean` are about `Op.iterMut`,
whose writes happen while the guard is alive.
-/
namespace PQ

/-- a 4-element max-queue {0:1, 1:2, 2:3, 3:4} -/
def F7.pq4 : Store Int := match MaxQ.fromVec #[(⟨0, 0⟩, (1 : Int)), (⟨1, 0⟩, 2), (⟨2, 0⟩, 3), (⟨3, 0⟩, 4)] with
  | .ok s => s
  | .error _ => Store.empty

/-- the same contents as a min-max queue -/
def F7.dq4 : Store Int := match DQ.fromVec #[(⟨0, 0⟩, (1 : Int)), (⟨1, 0⟩, 2), (⟨2, 0⟩, 3), (⟨3, 0⟩, 4)] with
  | .ok s => s
  | .error _ => Store.empty

/-- four `next` calls, writing 9, 8, 7, 6 -/
def F7.prog : List (ICall × IMWrite Int) :=
  [(.next, ⟨some 9, none⟩), (.next, ⟨some 8, none⟩), (.next, ⟨some 7, none⟩), (.next, ⟨some 6, none⟩)]

/-- the store after the late writes (`none` if the model faulted, which it does not) -/
def F7.after (kind : Kind) (s : Store Int) : Option (Store Int) :=
  match iterMutLate kind s F7.prog with
  | .ok (s', _) => some s'
  | .error _ => none

def F7.peekMinOf (s : Store Int) : Option (Item × Int) :=
  match DQ.peekMin s with
  | .ok r => r
  | .error _ => none

/-- **negation of C01 for late writes**: after collecting `iter_mut()` and writing 9, 8, 7, 6 afterwards, `peek` reports item 3
with priority 6 although item 0 with priority 9 is stored. -/
theorem F7_pq_counterexample :
    (F7.after .pq F7.pq4).bind MaxQ.peek = some (⟨3, 0⟩, 6) ∧
    (F7.after .pq F7.pq4).bind (fun s => s.map[0]?) = some (⟨0, 0⟩, 9) := by decide +kernel

/-- **negation of C02 for late writes**: `peek_min` reports item 0 with priority 9 although item 3 with priority 6 is stored. -/
theorem F7_dpq_counterexample :
    (F7.after .dpq F7.dq4).bind F7.peekMinOf = some (⟨0, 0⟩, 9) ∧
    (F7.after .dpq F7.dq4).bind (fun s => s.map[3]?) = some (⟨3, 0⟩, 6) := by decide +kernel

/-- while the same writes performed through `Op.iterMut` (guard alive) leave a correctly ordered queue, as C08 proves in general -/
example :
    (match step ⟨.pq, F7.pq4⟩ (.iterMut false F7.prog) with
     | .ok (q, _) => MaxQ.peek q.s
     | .error _ => none) = some (⟨0, 0⟩, 9) := by decide +kernel

end PQ

#print axioms PQ.F7_pq_counterexample
#print axioms PQ.F7_dpq_counterexample
