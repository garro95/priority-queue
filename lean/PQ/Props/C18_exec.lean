import PQ.Lemmas.HashExec
/-!
# C18 — supplement: a hasher-indexed EXECUTION returns what the hasher-free model returns, for every hasher

`C18_more` shows that a hash-indexed lookup finds the slot the model's linear search finds, on the final state of a history.
`run` itself never consults an index; this file compares it with an execution that does.

`Lemmas/HashExec.lean` defines `stepH ix` / `runH ix`: the operations of the crate with EVERY search by key that they perform
through the IndexMap (`contains_key`, `get_full(_mut)`, `insert_full` / `entry`, `swap_remove_full`; in `push`, `push_increase`,
`push_decrease`, `change_priority(_by)`, `remove`, `get_mut`, `extend` (both strategies), `append` (after the swap of the two
queues), `From<Vec>`, `FromIterator`, `Deserialize`) going through the hash index `ix m` of the current map `m` —
`(ix m).find? m k`: hash the key with the hasher, probe the slots filed under that hash value in the table's probe order,
compare keys with `Eq` — instead of the model's linear search.  The list of re-defined functions is in the header of that
file; the remaining operations reach entries by slot number / heap position only and are shared with `step`.

Proved here: for every family of indices that is `Valid` on maps with unique keys (IndexMap's own invariant), on every
well-formed queue and for every legal operation the indexed execution equals the model's execution — same state (ghost
comparison counter included), same return value, same fault; hence for every legal history; hence two hashers (two index
families) produce EQUAL executions.  That is stronger than the property asks (equality, not "up to ties").

What remains trusted: that IndexMap keeps its table valid (`hv`), i.e. files every stored slot under the hash of its key and
nothing else.  How it does so is not modelled.
-/
namespace PQ
variable {P : Type} [LT P] [DecidableLT P] [LE P] [Std.IsLinearPreorder P] [Std.LawfulOrderLT P]

/-- one operation, any lookup function that agrees with the linear search on maps with unique keys -/
theorem C18_stepL_eq_step {look : Look P} (hk : look.Agrees) {q : Q P} (hq : QWF q) {op : Op P} (hl : op.Legal) :
    stepL look q op = step q op := by
  obtain ⟨k, s⟩ := q
  have h : s.WF := hq
  have hn : s.map.NoDupKeys := h.nodup
  cases op with
  | push it p => cases k <;> simp only [stepL, step, MaxQH.push_eq hk hn, DQH.push_eq hk hn]
  | pushIncrease it p => cases k <;> simp only [stepL, step, MaxQH.pushIncrease_eq hk hn, DQH.pushIncrease_eq hk hn]
  | pushDecrease it p => cases k <;> simp only [stepL, step, MaxQH.pushDecrease_eq hk hn, DQH.pushDecrease_eq hk hn]
  | changePriority key p =>
    cases k <;> simp only [stepL, step, MaxQH.changePriority_eq hk hn, DQH.changePriority_eq hk hn]
  | changePriorityBy key g =>
    cases k <;> simp only [stepL, step, MaxQH.changePriorityBy_eq hk hn, DQH.changePriorityBy_eq hk hn]
  | remove key => cases k <;> simp only [stepL, step, MaxQH.remove_eq hk hn, DQH.remove_eq hk hn]
  | getMut key w => simp only [stepL, step, StoreH.getMutWrite_eq hk hn]
  | extend lo xs => cases k <;> simp only [stepL, step, MaxQH.extend_eq hk h, DQH.extend_eq hk h]
  | append o =>
    have ho : o.WF := hl
    cases k <;> simp only [stepL, step, MaxQH.append_eq hk h ho, DQH.append_eq hk h ho]
  | fromVec xs => cases k <;> simp only [stepL, step, MaxQH.fromVec_eq hk, DQH.fromVec_eq hk]
  | fromIter lo xs => cases k <;> simp only [stepL, step, MaxQH.fromIter_eq hk, DQH.fromIter_eq hk]
  | deserialize hint xs => cases k <;> simp only [stepL, step, MaxQH.deserialize_eq hk, DQH.deserialize_eq hk]
  | popFront | popBack | popFrontIf f | popBackIf f | peekFrontMut w | peekBackMut w | retainMut f | iterMut leak prog
  | convert | clear | drain | capacityOp => rfl

/-- **C18, one operation, executed through the hash index**: for every index family `ix` (hasher + probe orders, one index
per map) that is valid on maps with unique keys, on every well-formed queue and for every legal operation, the execution
that performs all key searches through `ix` equals the model's — same new state, same return value, same fault. -/
theorem C18_stepH_eq_step (ix : IMap P → HIndex) (hv : ∀ m : IMap P, m.NoDupKeys → (ix m).Valid m)
    {q : Q P} (hq : QWF q) {op : Op P} (hl : op.Legal) : stepH ix q op = step q op :=
  C18_stepL_eq_step (HIndex.lookOf_agrees ix hv) hq hl

theorem C18_runL_eq_run {look : Look P} (hk : look.Agrees) : ∀ (ops : List (Op P)) {q : Q P}, QWF q →
    (∀ op ∈ ops, op.Legal) → runL look q ops = run q ops
  | [], _, _, _ => rfl
  | op :: ops, q, hq, hl => by
    have hop : op.Legal := hl op (List.mem_cons_self ..)
    obtain ⟨q1, o, h1, hq1⟩ := hist_step_safe hq hop
    simp only [runL, run, C18_stepL_eq_step hk hq hop, h1, bind, Except.bind]
    rw [C18_runL_eq_run hk ops hq1 (fun op' h' => hl op' (List.mem_cons_of_mem _ h'))]

/-- **C18, every history, executed through the hash index** (from any well-formed queue): the indexed run equals the
model's run — final state, the whole list of return values, or the same fault at the same operation (there is none:
`C04`). -/
theorem C18_runH_eq_run (ix : IMap P → HIndex) (hv : ∀ m : IMap P, m.NoDupKeys → (ix m).Valid m)
    (ops : List (Op P)) {q : Q P} (hq : QWF q) (hl : ∀ op ∈ ops, op.Legal) : runH ix q ops = run q ops :=
  C18_runL_eq_run (HIndex.lookOf_agrees ix hv) ops hq hl

/-- `C18_runH_eq_run` from `new()` of either kind -/
theorem C18_runH_eq_run_new (ix : IMap P → HIndex) (hv : ∀ m : IMap P, m.NoDupKeys → (ix m).Valid m)
    (ops : List (Op P)) (hl : ∀ op ∈ ops, op.Legal) (k : Kind) : runH ix (Q.new k) ops = run (Q.new k) ops :=
  C18_runH_eq_run ix hv ops (hist_new_wf k) hl

/-- `C18_runH_eq_run` when the index family is a different one at every operation (the real table depends on the whole past, not
on the current entries alone) -/
theorem C18_runHv_eq_run (ix : Nat → IMap P → HIndex) (hv : ∀ t (m : IMap P), m.NoDupKeys → (ix t m).Valid m) :
    ∀ (ops : List (Op P)) (t : Nat) {q : Q P}, QWF q → (∀ op ∈ ops, op.Legal) → runHv ix t q ops = run q ops
  | [], _, _, _, _ => rfl
  | op :: ops, t, q, hq, hl => by
    have hop : op.Legal := hl op (List.mem_cons_self ..)
    obtain ⟨q1, o, h1, hq1⟩ := hist_step_safe hq hop
    simp only [runHv, run, C18_stepH_eq_step (ix t) (hv t) hq hop, h1, bind, Except.bind]
    rw [C18_runHv_eq_run ix hv ops (t + 1) hq1 (fun op' h' => hl op' (List.mem_cons_of_mem _ h'))]

/-- **C18: the outputs do not depend on the hasher.**  Two queues instantiated with two hashers — two index families
`ix₁`, `ix₂`, whatever their hash functions (randomly keyed, fixed, `no_std`, constant) and probe orders — and driven by the
same legal history from `new()` execute identically: the same final state and the same sequence of return values
(EXACTLY the same, not only up to the choice among equal priorities). -/
theorem C18_outputs_hasher_independent (ix₁ ix₂ : IMap P → HIndex)
    (hv₁ : ∀ m : IMap P, m.NoDupKeys → (ix₁ m).Valid m) (hv₂ : ∀ m : IMap P, m.NoDupKeys → (ix₂ m).Valid m)
    (ops : List (Op P)) (hl : ∀ op ∈ ops, op.Legal) (k : Kind) :
    runH ix₁ (Q.new k) ops = runH ix₂ (Q.new k) ops := by
  rw [C18_runH_eq_run_new ix₁ hv₁ ops hl k, C18_runH_eq_run_new ix₂ hv₂ ops hl k]

/-- `C18_outputs_hasher_independent`, and both runs do return (no fault), one value per operation, the values of the
hasher-free model -/
theorem C18_outputs_hasher_independent_ok (ix₁ ix₂ : IMap P → HIndex)
    (hv₁ : ∀ m : IMap P, m.NoDupKeys → (ix₁ m).Valid m) (hv₂ : ∀ m : IMap P, m.NoDupKeys → (ix₂ m).Valid m)
    (ops : List (Op P)) (hl : ∀ op ∈ ops, op.Legal) (k : Kind) :
    ∃ q' outs, runH ix₁ (Q.new k) ops = .ok (q', outs) ∧ runH ix₂ (Q.new k) ops = .ok (q', outs) ∧
      run (Q.new k) ops = .ok (q', outs) ∧ QWF q' ∧ outs.length = ops.length := by
  obtain ⟨q', outs, h1, hwf, hlen⟩ := hist_run_safe ops (hist_new_wf k) hl
  exact ⟨q', outs, by rw [C18_runH_eq_run_new ix₁ hv₁ ops hl k, h1], by rw [C18_runH_eq_run_new ix₂ hv₂ ops hl k, h1],
    h1, hwf, hlen⟩

/-- `C18_outputs_hasher_independent` from any well-formed queue, with index families that change from operation to operation -/
theorem C18_outputs_hasher_independent_from (ix₁ ix₂ : Nat → IMap P → HIndex)
    (hv₁ : ∀ t (m : IMap P), m.NoDupKeys → (ix₁ t m).Valid m) (hv₂ : ∀ t (m : IMap P), m.NoDupKeys → (ix₂ t m).Valid m)
    (ops : List (Op P)) {q : Q P} (hq : QWF q) (hl : ∀ op ∈ ops, op.Legal) :
    runHv ix₁ 0 q ops = runHv ix₂ 0 q ops := by
  rw [C18_runHv_eq_run ix₁ hv₁ ops 0 hq hl, C18_runHv_eq_run ix₂ hv₂ ops 0 hq hl]

section Examples

/-- the degenerate hasher: every item hashes to 0 (one bucket holds every slot) -/
private def ixDeg : IMap Nat → HIndex := HIndex.family fun _ => 0
/-- an injective hasher (every bucket holds at most one slot) -/
private def ixInj : IMap Nat → HIndex := HIndex.family fun k => k
/-- a hasher with collisions (`k mod 3`) and the reverse probe order inside every bucket -/
private def ixRev : IMap Nat → HIndex := HIndex.familyRev fun k => k % 3
/-- NOT a valid table: nothing is filed (every lookup misses) -/
private def ixBad : IMap Nat → HIndex := fun _ => { hash := fun _ => 0, bucket := fun _ => [] }

-- the hypotheses `hv` of the theorems are satisfiable: the three families are valid on every map
example : ∀ m : IMap Nat, m.NoDupKeys → (ixDeg m).Valid m := fun m _ => HIndex.family_valid _ m
example : ∀ m : IMap Nat, m.NoDupKeys → (ixInj m).Valid m := fun m _ => HIndex.family_valid _ m
example : ∀ m : IMap Nat, m.NoDupKeys → (ixRev m).Valid m := fun m _ => HIndex.familyRev_valid _ m

-- … and they are really different tables: one bucket with every slot / one slot per bucket / two slots in reverse order
private def exM : IMap Nat := #[(⟨1, 0⟩, 5), (⟨2, 0⟩, 3), (⟨4, 0⟩, 7)]
example : (ixDeg exM).bucket 0 = [0, 1, 2] ∧ (ixDeg exM).bucket 1 = [] ∧
    (ixInj exM).bucket 0 = [] ∧ (ixInj exM).bucket 1 = [0] ∧ (ixInj exM).bucket 2 = [1] ∧ (ixInj exM).bucket 4 = [2] ∧
    (ixRev exM).bucket 1 = [2, 0] ∧ (ixRev exM).bucket 2 = [1] := by decide +kernel

/-- another queue with two elements, one of them (key 2) also in the receiver: `append` with a clash -/
private def exOther : Store Nat :=
  match run (Q.new .pq) [.fromVec #[(⟨2, 7⟩, 50), (⟨9, 0⟩, 4)]] with
  | .ok (q, _) => q.s
  | .error _ => Store.empty
/-- a queue LARGER than the receiver will be at that moment (the two are swapped), with a clash on key 6 -/
private def exBig : Store Nat :=
  match run (Q.new .pq) [.fromVec #[(⟨6, 9⟩, 1), (⟨7, 0⟩, 8), (⟨8, 0⟩, 3)]] with
  | .ok (q, _) => q.s
  | .error _ => Store.empty

private def exOps : List (Op Nat) :=
  [.fromVec #[(⟨1, 0⟩, 5), (⟨2, 0⟩, 3), (⟨1, 1⟩, 9), (⟨3, 0⟩, 7)],   -- `From<Vec>` with a repeated item (key 1)
   .push ⟨2, 5⟩ 8,                                                   -- push of an existing key
   .push ⟨4, 0⟩ 1,                                                   -- push of a new key
   .pushIncrease ⟨3, 0⟩ 10, .pushDecrease ⟨4, 0⟩ 0, .pushIncrease ⟨5, 0⟩ 6, .pushDecrease ⟨1, 0⟩ 70,
   .changePriority 1 2, .changePriority 66 2, .changePriorityBy 2 (· + 1),
   .remove 3, .remove 77,                                            -- remove of a present and of an absent key
   .getMut 1 (fun it => ⟨it.key, 42⟩),
   .append exOther,                                                  -- append with a clash (key 2)
   .extend 0 #[(⟨5, 1⟩, 6), (⟨11, 0⟩, 11), (⟨12, 0⟩, 2), (⟨13, 0⟩, 13)],   -- per-element strategy (key 5 present)
   .extend 17 (Array.ofFn (n := 17) fun i => (⟨i.val % 5 + 8, 0⟩, i.val)),  -- rebuild strategy (keys 9, 11, 12 present)
   .popFront,
   .fromIter 2 #[(⟨1, 0⟩, 1), (⟨1, 1⟩, 2)],
   .deserialize (some 3) #[(⟨6, 0⟩, 1), (⟨6, 1⟩, 2)],
   .append exBig,                                                    -- the other queue is larger: swapped; clash on key 6
   .popFront, .popBack]

example : exOther.WF ∧ exBig.WF ∧ exOther.size = 2 ∧ exBig.size = 3 := by decide +kernel
-- the second `extend` runs on eight elements and takes the rebuild strategy; the second `append` meets a one-element queue
example : hist_okR (run (Q.new .pq) (exOps.take 15)) (fun r => r.1.s.size = 8) ∧
    hist_okR (run (Q.new .dpq) (exOps.take 15)) (fun r => r.1.s.size = 8) ∧ Arith.betterToRebuild 8 17 = true ∧
    hist_okR (run (Q.new .pq) (exOps.take 19)) (fun r => r.1.s.size = 1) := by decide +kernel

example : ∀ op ∈ exOps, op.Legal := by
  intro op h
  simp only [exOps, List.mem_cons, List.not_mem_nil, or_false] at h
  rcases h with h | h | h | h | h | h | h | h | h | h | h | h | h | h | h | h | h | h | h | h | h | h <;>
    subst h <;> first | exact trivial | (intro _; rfl) | (show Store.WF _; decide +kernel) |
      (show _ ∧ _ < capLimit; decide +kernel)

/-- what an observer sees of a run (`obs`): the return values, coded as numbers, followed by the whole final state (map
entries, the two tables, size and comparison counter) -/
private def outCode : Out Nat → List Nat
  | .unit => [0]
  | .prio none => [1]
  | .prio (some p) => [1, p]
  | .entry none => [2]
  | .entry (some (it, p)) => [2, it.key, it.payload, p]
  | .bool b => [3, b.toNat]
  | .entries l => 4 :: l.flatMap fun e => [e.1.key, e.1.payload, e.2]
  | .outs l => [5, l.length]
  | .other a b c d => [6, a, b, c, d]
  | .nat n => [7, n]
  | .debug l => [8, l.length]

private def obs (r : R (Q Nat × List (Out Nat))) : Option (List (List Nat)) :=
  match r with
  | .ok (q, outs) =>
    some (outs.map outCode ++ [q.s.map.toList.flatMap (fun e => [e.1.key, e.1.payload, e.2]), q.s.heap.toList, q.s.qp.toList,
      [q.s.size, q.s.ticks]])
  | .error _ => none

-- the three indexed executions and the model run the history to the same end, with the same return values …
example : (obs (run (Q.new .pq) exOps)).isSome ∧
    obs (runH ixDeg (Q.new .pq) exOps) = obs (run (Q.new .pq) exOps) ∧
    obs (runH ixInj (Q.new .pq) exOps) = obs (run (Q.new .pq) exOps) ∧
    obs (runH ixRev (Q.new .pq) exOps) = obs (run (Q.new .pq) exOps) := by decide +kernel
example : (obs (run (Q.new .dpq) exOps)).isSome ∧
    obs (runH ixDeg (Q.new .dpq) exOps) = obs (run (Q.new .dpq) exOps) ∧
    obs (runH ixInj (Q.new .dpq) exOps) = obs (run (Q.new .dpq) exOps) ∧
    obs (runH ixRev (Q.new .dpq) exOps) = obs (run (Q.new .dpq) exOps) := by decide +kernel
-- the return values themselves, under the degenerate hasher (first fourteen operations): `()`, `Some(3)` for the push of
-- the existing key, `None`, …, `Some((3, 10))` / `None` for the two removes, `Some((1, 2))`, and the drained other queue
example : (obs (runH ixDeg (Q.new .pq) (exOps.take 14))).map (·.take 14) =
    some [[0], [1, 3], [1], [1, 7], [1, 1], [1], [1, 70], [1, 5], [1], [3, 1], [2, 3, 0, 10], [2], [2, 1, 0, 2],
      [6, 0, 0, 0, 0]] := by decide +kernel
-- … also when the table changes from operation to operation
example : obs (runHv (fun t => if t % 3 = 0 then ixDeg else if t % 3 = 1 then ixInj else ixRev) 0 (Q.new .dpq) exOps) =
    obs (run (Q.new .dpq) exOps) := by decide +kernel

-- the indexed execution really consults the index: with a table in which nothing is filed every lookup misses, the
-- repeated item of `From<Vec>` is stored twice and the push of the existing key 2 reports "new" — validity is needed
example : (obs (runH ixBad (Q.new .pq) (exOps.take 2))).map (fun l => (l.take 2, (l.getD 2 []).length)) = some ([[0], [1]], 15) ∧
    (obs (run (Q.new .pq) (exOps.take 2))).map (fun l => (l.take 2, (l.getD 2 []).length)) = some ([[0], [1, 3]], 9) := by
  decide +kernel
-- … and so is uniqueness of keys (`QWF`): on a map holding key 1 twice, two valid tables with different probe orders
-- return different entries
private def exDup : Q Nat := ⟨.pq, { map := #[(⟨1, 0⟩, 5), (⟨1, 1⟩, 6)], heap := #[1, 0], qp := #[1, 0], size := 2 }⟩
example : ¬ exDup.s.WF ∧ (HIndex.family (fun _ => 0) exDup.s.map).Valid exDup.s.map ∧
    (HIndex.familyRev (fun _ => 0) exDup.s.map).Valid exDup.s.map :=
  ⟨by decide +kernel, HIndex.family_valid _ _, HIndex.familyRev_valid _ _⟩
example : obs (runH (HIndex.family fun _ => 0) exDup [.getMut 1 id]) ≠
    obs (runH (HIndex.familyRev fun _ => 0) exDup [.getMut 1 id]) := by decide +kernel

end Examples

end PQ

#print axioms PQ.C18_stepL_eq_step
#print axioms PQ.C18_stepH_eq_step
#print axioms PQ.C18_runL_eq_run
#print axioms PQ.C18_runH_eq_run
#print axioms PQ.C18_runH_eq_run_new
#print axioms PQ.C18_runHv_eq_run
#print axioms PQ.C18_outputs_hasher_independent
#print axioms PQ.C18_outputs_hasher_independent_ok
#print axioms PQ.C18_outputs_hasher_independent_from
