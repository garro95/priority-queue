import PQ.Lemmas.IterLemmas
/-!
# C09 — "Mutable iteration never hands out the same element twice"

> exhausting it yields every element exactly once and then `None` forever; where it declares an exact
> size, `len` and `size_hint` report exactly the number of elements it will still yield.

The iterators are machines emitting slot indices; handing out two `&mut` to the same element is
"the same slot emitted twice".  `n` is the number of stored elements.  All theorems hold for **every**
`n` and **every** call list (no bound).

* `PIterMut` = `priority_queue::iterators::IterMut` (front cursor only, no exact size);
* `DIterMut` = `double_priority_queue::iterators::IterMut` (two cursors, `ExactSizeIterator`).

Vocabulary (`PQ/Lemmas/IterLemmas.lean`): `slots outs` = emitted slot indices in order,
`adv calls` = number of `.next`/`.nextBack` calls, `slotsOf w calls outs` = slots answered to calls `w`.
-/
namespace PQ

/-- exact description of what is handed out: the slots `0, 1, …, min n (#next) - 1`, in order -/
theorem C09_pq_slots (n : Nat) (calls : List ICall) :
    slots (PIterMut.run n PIterMut.new calls) = List.range (min n (calls.count .next)) := by
  rw [PIterMut.slots_eq, List.range_eq_range']; rfl

/-- no element is handed out twice, and only stored elements are handed out -/
theorem C09_pq_nodup (n : Nat) (calls : List ICall) :
    (slots (PIterMut.run n PIterMut.new calls)).Nodup ∧
    ∀ i ∈ slots (PIterMut.run n PIterMut.new calls), i < n := by
  rw [C09_pq_slots]
  refine ⟨List.nodup_range, fun i hi => ?_⟩
  have := List.mem_range.1 hi; omega

example : slots (PIterMut.run 3 PIterMut.new [.next, .sizeHint, .next, .len, .next, .next, .nextBack, .next])
    = [0, 1, 2] := by decide

/-- exhausting: `n + k` calls of `next` yield slot `0 … n-1` in order and then `None` `k` times -/
theorem C09_pq_exhaust (n k : Nat) :
    PIterMut.run n PIterMut.new (List.replicate (n + k) .next)
      = (List.range n).map (fun i => IOut.slot (some i)) ++ List.replicate k (IOut.slot none) := by
  rw [List.range_eq_range']
  exact PIterMut.run_replicate_next n 0 n k (by omega)

example : PIterMut.run 3 PIterMut.new (List.replicate (3 + 2) .next)
    = [.slot (some 0), .slot (some 1), .slot (some 2), .slot none, .slot none] := by decide

/-- for any call list the emitted slots are a prefix `0, 1, …, m-1` (`m ≤ n`) in order -/
theorem C09_pq_prefix (n : Nat) (calls : List ICall) :
    ∃ m, m ≤ n ∧ slots (PIterMut.run n PIterMut.new calls) = List.range m :=
  ⟨min n (calls.count .next), Nat.min_le_left _ _, C09_pq_slots n calls⟩

/-- `None` forever: once a call has answered `None`, no later call hands out a slot, in any call list -/
theorem C09_pq_none_forever (n : Nat) (calls : List ICall) (j j' : Nat) (hj : j ≤ j')
    (h : (PIterMut.run n PIterMut.new calls)[j]? = some (.slot none)) :
    ∀ s, (PIterMut.run n PIterMut.new calls)[j']? = some (.slot s) → s = none :=
  PIterMut.none_forever n PIterMut.new calls j j' hj h

example : (PIterMut.run 2 PIterMut.new [.next, .next, .next, .sizeHint, .next])[2]? = some (.slot none) := by
  decide

/-- `priority_queue::IterMut` declares no exact size: never a `len`, `size_hint` is `(0, None)` -/
theorem C09_pq_no_exact_size (n : Nat) (calls : List ICall) (j : Nat) :
    (∀ k, (PIterMut.run n PIterMut.new calls)[j]? ≠ some (.len k)) ∧
    (∀ lo hi, (PIterMut.run n PIterMut.new calls)[j]? = some (.hint lo hi) → lo = 0 ∧ hi = none) :=
  PIterMut.no_exact_size n PIterMut.new calls j

/-- the checked subtractions in `len`/`size_hint` never underflow: no call list faults -/
theorem C09_dpq_nofault (n : Nat) (calls : List ICall) :
    ∃ outs, DIterMut.run n (DIterMut.new n) calls = .ok outs :=
  ⟨_, DIterMut.run_eq_cursor n calls⟩

example : DIterMut.run 3 (DIterMut.new 3) [.next, .len, .nextBack, .sizeHint, .next, .next, .len, .nextBack]
    = .ok [.slot (some 0), .len 2, .slot (some 2), .hint 1 (some 1), .slot (some 1), .slot none, .len 0,
        .slot none] := by rfl

/-- **state invariant** behind the theorems about `DIterMut` below.  After any call list `pre` the machine has not faulted, and with
`e` the emitted slots its state `⟨pos, back⟩` satisfies `pos ≤ back ≤ n`, `back - pos = n - e.length`,
and `e` is exactly the set `{i | i < pos ∨ back ≤ i < n}`.  (`DIterMut.exec` is the state reached:
see `C09_dpq_inv_continue`.) -/
theorem C09_dpq_inv (n : Nat) (pre : List ICall) :
    ∃ it outs, DIterMut.exec n (DIterMut.new n) pre = .ok it ∧
      DIterMut.run n (DIterMut.new n) pre = .ok outs ∧
      it.pos ≤ it.back ∧ it.back ≤ n ∧ it.back - it.pos = n - (slots outs).length ∧
      ∀ i, i ∈ slots outs ↔ i < it.pos ∨ (it.back ≤ i ∧ i < n) := by
  refine ⟨_, _, DIterMut.exec_eq_cursor n pre, DIterMut.run_eq_cursor n pre, ?_⟩
  have := Cursor.inv (Cursor.new n) (Nat.zero_le _) pre
  simp only [Cursor.new, Nat.zero_le, true_and, Nat.sub_zero] at this ⊢
  exact this

/-- the state of `C09_dpq_inv` is the one from which the run continues -/
theorem C09_dpq_inv_continue (n : Nat) (pre post : List ICall) (it : DIterMut) (outs : List IOut)
    (he : DIterMut.exec n (DIterMut.new n) pre = .ok it)
    (hr : DIterMut.run n (DIterMut.new n) pre = .ok outs) :
    DIterMut.run n (DIterMut.new n) (pre ++ post) = (outs ++ ·) <$> DIterMut.run n it post := by
  rw [DIterMut.exec_eq_cursor] at he
  rw [DIterMut.run_eq_cursor] at hr
  cases he
  cases hr
  obtain ⟨_, h2, h3, _⟩ := Cursor.inv (Cursor.new n) (Nat.zero_le _) pre
  rw [DIterMut.run_eq_cursor, (DIterMut.run_exec_eq_cursor n _ h2 h3 post).1, Cursor.run_append]
  rfl

/-- `double_priority_queue::IterMut`: no element is handed out twice (from either end), and only stored elements are handed out -/
theorem C09_dpq_nodup (n : Nat) (calls : List ICall) (outs : List IOut)
    (h : DIterMut.run n (DIterMut.new n) calls = .ok outs) :
    (slots outs).Nodup ∧ ∀ i ∈ slots outs, i < n := by
  rw [DIterMut.run_eq_cursor] at h
  cases h
  exact ⟨Cursor.slots_nodup _ _, fun i hi => (Cursor.slots_bounds _ _ i hi).2⟩

example : ∃ outs, DIterMut.run 3 (DIterMut.new 3) [.nextBack, .next, .next, .nextBack, .next] = .ok outs ∧
    slots outs = [2, 0, 1] :=
  ⟨[.slot (some 2), .slot (some 0), .slot (some 1), .slot none, .slot none], by rfl, by decide⟩

/-- exact size: the answer of every `len` call is `n - (number of slots emitted before the call)`,
and every `size_hint` answers `(that, Some(that))`; moreover that number is exactly the number of
elements still yielded from then on (`min` with the number of advancing calls still to come). -/
theorem C09_dpq_exact (n : Nat) (calls : List ICall) (outs : List IOut)
    (h : DIterMut.run n (DIterMut.new n) calls = .ok outs) (j : Nat) :
    (∀ k, outs[j]? = some (.len k) →
      k = n - (slots (outs.take j)).length ∧
      (slots (outs.drop j)).length = min k (adv (calls.drop j))) ∧
    (∀ lo hi, outs[j]? = some (.hint lo hi) →
      lo = n - (slots (outs.take j)).length ∧ hi = some (n - (slots (outs.take j)).length) ∧
      (slots (outs.drop j)).length = min lo (adv (calls.drop j))) := by
  rw [DIterMut.run_eq_cursor] at h
  cases h
  refine ⟨fun k hk => ?_, fun lo hi hk => ?_⟩
  · have h1 := (Cursor.exact_at _ _ _ _ hk).1 k rfl
    have h2 := (Cursor.still_yield _ _ _ _ hk).1 k rfl
    simp only [Cursor.new, Cursor.remaining, Nat.sub_zero] at h1
    exact ⟨h1, h2⟩
  · have h1 := (Cursor.exact_at _ _ _ _ hk).2 lo hi rfl
    have h2 := (Cursor.still_yield _ _ _ _ hk).2 lo hi rfl
    simp only [Cursor.new, Cursor.remaining, Nat.sub_zero] at h1
    exact ⟨h1.1, h1.2, h2⟩

example : ∃ outs, DIterMut.run 3 (DIterMut.new 3) [.next, .len, .nextBack, .sizeHint] = .ok outs ∧
    outs[1]? = some (.len 2) ∧ outs[3]? = some (.hint 1 (some 1)) :=
  ⟨[.slot (some 0), .len 2, .slot (some 2), .hint 1 (some 1)], by rfl, by decide, by decide⟩

/-- exhaustion.
(a) the number of elements handed out is `min n (#advancing calls)`;
(b) once `n` slots have been emitted every later `next`/`next_back` answers `None`, forever;
(c) with at least `n` advancing calls every element is handed out exactly once
    (`slots outs` is a permutation of `0 … n-1`);
(d) `next` hands out `0, 1, 2, …` ascending, `next_back` hands out `n-1, n-2, …` descending. -/
theorem C09_dpq_exhaust (n : Nat) (calls : List ICall) (outs : List IOut)
    (h : DIterMut.run n (DIterMut.new n) calls = .ok outs) :
    (slots outs).length = min n (adv calls) ∧
    (∀ j, (slots (outs.take j)).length = n → ∀ j', j ≤ j' →
      ((calls[j']? = some .next ∨ calls[j']? = some .nextBack) → outs[j']? = some (.slot none)) ∧
      (∀ s, outs[j']? = some (.slot s) → s = none)) ∧
    (n ≤ adv calls → (slots outs).Perm (List.range n)) ∧
    (∃ m1 m2, m1 + m2 = (slots outs).length ∧
      slotsOf .next calls outs = List.range m1 ∧
      slotsOf .nextBack calls outs = (List.range m2).map (fun j => n - 1 - j)) := by
  rw [DIterMut.run_eq_cursor] at h
  cases h
  refine ⟨?_, fun j hj j' hjj => ?_, fun hn => ?_, ?_⟩
  · simpa [Cursor.new, Cursor.remaining] using Cursor.slots_length (Cursor.new n) calls
  · exact Cursor.none_forever (Cursor.new n) calls j (by simpa [Cursor.new, Cursor.remaining] using hj) j' hjj
  · have := Cursor.slots_perm (Cursor.new n) calls (by simpa [Cursor.new, Cursor.remaining] using hn)
    simpa [Cursor.new, Cursor.remaining, List.range_eq_range'] using this
  · obtain ⟨m1, m2, h0, h1, h2⟩ := Cursor.front_back_order (Cursor.new n) calls
    exact ⟨m1, m2, h0, by simpa [Cursor.new, List.range_eq_range'] using h1, by simpa [Cursor.new] using h2⟩

example : ∃ outs, DIterMut.run 3 (DIterMut.new 3) [.nextBack, .next, .len, .nextBack, .next, .nextBack] = .ok outs ∧
    slots outs = [2, 0, 1] ∧ outs[4]? = some (.slot none) ∧ outs[5]? = some (.slot none) ∧
    slotsOf .next [.nextBack, .next, .len, .nextBack, .next, .nextBack] outs = [0] ∧
    slotsOf .nextBack [.nextBack, .next, .len, .nextBack, .next, .nextBack] outs = [2, 1] :=
  ⟨[.slot (some 2), .slot (some 0), .len 1, .slot (some 1), .slot none, .slot none],
    by rfl, by decide, by decide, by decide, by decide, by decide⟩

/-- `ExactSizeIterator::len` asserts `upper == Some(lower)`: that assertion never fails -/
theorem C09_dpq_adaptor_len_ok (n : Nat) (calls : List ICall) (outs : List IOut)
    (h : DIterMut.run n (DIterMut.new n) calls = .ok outs) (j lo : Nat) (hi : Option Nat)
    (ho : outs[j]? = some (.hint lo hi)) : hi = some lo := by
  have := (C09_dpq_exact n calls outs h j).2 lo hi ho
  rw [this.2.1, ← this.1]

end PQ

#print axioms PQ.C09_pq_slots
#print axioms PQ.C09_pq_nodup
#print axioms PQ.C09_pq_exhaust
#print axioms PQ.C09_pq_prefix
#print axioms PQ.C09_pq_none_forever
#print axioms PQ.C09_pq_no_exact_size
#print axioms PQ.C09_dpq_nofault
#print axioms PQ.C09_dpq_inv
#print axioms PQ.C09_dpq_inv_continue
#print axioms PQ.C09_dpq_nodup
#print axioms PQ.C09_dpq_exact
#print axioms PQ.C09_dpq_exhaust
#print axioms PQ.C09_dpq_adaptor_len_ok
