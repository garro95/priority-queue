import PQ.Lemmas.History
/-!
# C02 — "DoublePriorityQueue always yields a minimum at one end and a maximum at the other"

> After any sequence of public operations on a `DoublePriorityQueue`, `peek_min`/`pop_min` address a stored element
> whose priority is ≤ every stored priority and `peek_max`/`pop_max` one whose priority is ≥ every stored priority, for
> any interleaving of extractions from the two ends.  `pop_min`/`pop_max` (and the predicates of
> `pop_min_if`/`pop_max_if`, and `peek_*_mut`) address exactly the element the corresponding peek reported; an empty
> queue yields `None`.

Quantifier: **all finite histories** over the alphabet of `PQ/Model/Ops.lean`, from any constructor (the bulk
constructors and the conversion from `PriorityQueue` are operations of the alphabet), any starting kind, **all sizes**
(the theorems are not by cases on the size: `1`, `2`, `3`, where `find_max` takes its three branches, and `≥ 16`, five
levels, are instances; see the examples), all items and priorities including ties (`P` is any linear preorder).  Side
conditions as in C01: closures keep an item's identity (`Op.Legal`), no leaked `iter_mut` guard (`Op.isLeak`).

`peek_max` performs at most one priority comparison, hence the model returns the store with the ghost counter advanced:
`peekMax s = .ok (s.tick k, r)`, `k ≤ 1`; `tick` changes nothing but that counter.
-/
namespace PQ
variable {P : Type} [LT P] [DecidableLT P] [LE P] [Std.IsLinearPreorder P] [Std.LawfulOrderLT P]

/-- **C02, reachability.**  From any queue (of either kind) satisfying its invariant, every history of legal
operations without a leaked guard runs without fault and ends in a queue satisfying the invariant of its final kind; if
that kind is `DoublePriorityQueue`, the store is a well-formed min-max heap. -/
theorem C02_reach (ops : List (Op P)) {q : Q P} (hq : QInv q) (hl : ∀ op ∈ ops, op.Legal)
    (hn : ∀ op ∈ ops, op.isLeak = false) :
    ∃ q' outs, run q ops = .ok (q', outs) ∧ outs.length = ops.length ∧ QInv q' ∧ (q'.kind = .dpq → DQ.Inv q'.s) := by
  obtain ⟨q', outs, hrun, hinv, hlen⟩ := hist_run_inv ops hq hl hn
  exact ⟨q', outs, hrun, hlen, hinv, hinv.dpq⟩

/-- … in particular from `new()` of either kind -/
theorem C02_reach_new (ops : List (Op P)) (k : Kind) (hl : ∀ op ∈ ops, op.Legal) (hn : ∀ op ∈ ops, op.isLeak = false) :
    ∃ q' outs, run (Q.new k) ops = .ok (q', outs) ∧ outs.length = ops.length ∧ QInv q' ∧
      (q'.kind = .dpq → DQ.Inv q'.s) :=
  C02_reach ops (hist_new_inv k) hl hn

/-! ## The peeks report stored extremes -/

/-- **C02, `peek_min`.**  `None` on the empty queue, otherwise a stored entry below which no stored priority lies
(`e.2 ≤ e'.2` for every stored `e'`). -/
theorem C02_peekMin_min {s : Store P} (h : DQ.Inv s) :
    (s.size = 0 → DQ.peekMin s = .ok none) ∧
    (0 < s.size → ∃ e, DQ.peekMin s = .ok (some e) ∧ s.Mem e ∧ (∀ e', s.Mem e' → ¬ e'.2 < e.2) ∧
      (∀ e', s.Mem e' → e.2 ≤ e'.2)) := by
  obtain ⟨h0, h1⟩ := DQ.peekMin_inv h
  refine ⟨h0, fun hn => ?_⟩
  obtain ⟨e, hp, hmin⟩ := h1 hn
  refine ⟨e, hp, hmin.1, hmin.2, fun e' he' => ?_⟩
  have := hmin.2 e' he'
  grind

/-- **C02, `peek_max`.**  `None` on the empty queue, otherwise a stored entry above which no stored priority lies
(`e'.2 ≤ e.2` for every stored `e'`). -/
theorem C02_peekMax_max {s : Store P} (h : DQ.Inv s) :
    (s.size = 0 → DQ.peekMax s = .ok (s, none)) ∧
    (0 < s.size → ∃ k e, DQ.peekMax s = .ok (s.tick k, some e) ∧ k ≤ 1 ∧ s.Mem e ∧ (∀ e', s.Mem e' → ¬ e.2 < e'.2) ∧
      (∀ e', s.Mem e' → e'.2 ≤ e.2)) := by
  obtain ⟨h0, h1⟩ := DQ.peekMax_inv h
  refine ⟨h0, fun hn => ?_⟩
  obtain ⟨k, e, hp, hk, hmax⟩ := h1 hn
  refine ⟨k, e, hp, hk, hmax.1, hmax.2, fun e' he' => ?_⟩
  have := hmax.2 e' he'
  grind

/-- **C02, the peeks after any history** ending in a `DoublePriorityQueue`: both peeks succeed; they answer `None`
exactly on the empty queue; what they answer is a stored minimum, respectively maximum. -/
theorem C02_peek_history (ops : List (Op P)) {q : Q P} (hq : QInv q) (hl : ∀ op ∈ ops, op.Legal)
    (hn : ∀ op ∈ ops, op.isLeak = false) :
    ∃ q' outs, run q ops = .ok (q', outs) ∧
      (q'.kind = .dpq →
        ∃ rmin k rmax, DQ.peekMin q'.s = .ok rmin ∧ DQ.peekMax q'.s = .ok (q'.s.tick k, rmax) ∧
          (rmin = none ↔ q'.s.size = 0) ∧ (rmax = none ↔ q'.s.size = 0) ∧
          (∀ e, rmin = some e → q'.s.IsMin e) ∧ (∀ e, rmax = some e → q'.s.IsMax e)) := by
  obtain ⟨q', outs, hrun, _, _, hd⟩ := C02_reach ops hq hl hn
  refine ⟨q', outs, hrun, fun hk => ?_⟩
  have h := hd hk
  obtain ⟨a0, a1⟩ := DQ.peekMin_inv h
  obtain ⟨b0, b1⟩ := DQ.peekMax_inv h
  rcases Nat.eq_zero_or_pos q'.s.size with hz | hpos
  · refine ⟨none, 0, none, a0 hz, b0 hz, ⟨fun _ => hz, fun _ => rfl⟩, ⟨fun _ => hz, fun _ => rfl⟩, ?_, ?_⟩ <;>
      intro e he <;> cases he
  · obtain ⟨e, he, hmin⟩ := a1 hpos
    obtain ⟨k, e', he', _, hmax⟩ := b1 hpos
    refine ⟨some e, k, some e', he, he', ⟨fun hc => (by cases hc), fun hc => by omega⟩,
      ⟨fun hc => (by cases hc), fun hc => by omega⟩, ?_, ?_⟩
    · intro x hx; cases hx; exact hmin
    · intro x hx; cases hx; exact hmax

/-! ## The pops, the conditional pops and the `peek_*_mut` address exactly what the corresponding peek reported -/

/-- **C02, `pop_min`** returns exactly what `peek_min` reports: `None` on the empty queue (nothing changes), otherwise
that stored minimum, and exactly its key disappears; the invariant holds afterwards. -/
theorem C02_popMin_eq_peekMin {s : Store P} (h : DQ.Inv s) :
    ∃ s' r, DQ.popMin s = .ok (s', r) ∧ DQ.peekMin s = .ok r ∧ DQ.Inv s' ∧
      (r = none ↔ s.size = 0) ∧ (r = none → s' = s) ∧
      (∀ e, r = some e → s.IsMin e ∧ s.abs e.1.key = some e ∧ s'.abs = absRemove s.abs e.1.key ∧
        s'.size = s.size - 1) := by
  obtain ⟨s', r, he, hwf, hpk, h0, h1, hord⟩ := DQ.popMin_core h.1
  obtain ⟨hiff, hnone, hsome⟩ := of_size_cases h0 h1
  exact ⟨s', r, he, hpk, ⟨hwf, (hord h.2).1⟩, hiff, hnone, fun e hr => ⟨(hord h.2).2 e hr, hsome e hr⟩⟩

theorem C02_popMax_eq_peekMax {s : Store P} (h : DQ.Inv s) :
    ∃ s' r k, DQ.popMax s = .ok (s', r) ∧ DQ.peekMax s = .ok (s.tick k, r) ∧ k ≤ 1 ∧ DQ.Inv s' ∧
      (r = none ↔ s.size = 0) ∧ (r = none → s' = s) ∧
      (∀ e, r = some e → s.IsMax e ∧ s.abs e.1.key = some e ∧ s'.abs = absRemove s.abs e.1.key ∧
        s'.size = s.size - 1) := by
  obtain ⟨k, s', r, he, hpk, hk, hwf, h0, h1, hord⟩ := DQ.popMax_core h.1
  obtain ⟨hiff, hnone, hsome⟩ := of_size_cases h0 h1
  exact ⟨s', r, k, he, hpk, hk, ⟨hwf, (hord h.2).1⟩, hiff, hnone, fun e hr => ⟨(hord h.2).2 e hr, hsome e hr⟩⟩

/-- **C02, `pop_min_if`.**  The predicate is applied to exactly the entry `peek_min` reports (a stored minimum): the
outcome is determined by `f` on that entry; on the empty queue the predicate is not called. -/
theorem C02_popMinIf_sees_peekMin {s : Store P} (h : DQ.Inv s) (f : Item → P → Bool × Item × P)
    (hf : ∀ it p, (f it p).2.1.key = it.key) :
    (s.size = 0 → DQ.peekMin s = .ok none ∧ DQ.popMinIf s f = .ok (s, none)) ∧
    (0 < s.size → ∃ e, DQ.peekMin s = .ok (some e) ∧ s.IsMin e ∧
      ∃ s', DQ.popMinIf s f =
          .ok (s', if (f e.1 e.2).1 = true then some ((f e.1 e.2).2.1, (f e.1 e.2).2.2) else none) ∧
        DQ.Inv s' ∧
        s'.abs = (if (f e.1 e.2).1 = true then absRemove s.abs e.1.key
                  else absSet s.abs e.1.key ((f e.1 e.2).2.1, (f e.1 e.2).2.2)) ∧
        s'.size = (if (f e.1 e.2).1 = true then s.size - 1 else s.size)) := by
  obtain ⟨h0, h1⟩ := DQ.popMinIf_spec h f hf
  refine ⟨fun hz => ⟨DQ.peekMin_empty hz, h0 hz⟩, fun hn => ?_⟩
  obtain ⟨e, hpk, hmin, ht, hfl⟩ := h1 hn
  exact ⟨e, hpk, hmin, of_verdict (f e.1 e.2).1 ht hfl⟩

/-- **C02, `pop_max_if`.**  The predicate is applied to exactly the entry `peek_max` reports (a stored maximum). -/
theorem C02_popMaxIf_sees_peekMax {s : Store P} (h : DQ.Inv s) (f : Item → P → Bool × Item × P)
    (hf : ∀ it p, (f it p).2.1.key = it.key) :
    (s.size = 0 → DQ.peekMax s = .ok (s, none) ∧ DQ.popMaxIf s f = .ok (s, none)) ∧
    (0 < s.size → ∃ k e, DQ.peekMax s = .ok (s.tick k, some e) ∧ k ≤ 1 ∧ s.IsMax e ∧
      ∃ s', DQ.popMaxIf s f =
          .ok (s', if (f e.1 e.2).1 = true then some ((f e.1 e.2).2.1, (f e.1 e.2).2.2) else none) ∧
        DQ.Inv s' ∧
        s'.abs = (if (f e.1 e.2).1 = true then absRemove s.abs e.1.key
                  else absSet s.abs e.1.key ((f e.1 e.2).2.1, (f e.1 e.2).2.2)) ∧
        s'.size = (if (f e.1 e.2).1 = true then s.size - 1 else s.size)) := by
  obtain ⟨h0, h1⟩ := DQ.popMaxIf_spec h f hf
  refine ⟨fun hz => ⟨DQ.peekMax_empty hz, h0 hz⟩, fun hn => ?_⟩
  obtain ⟨k, e, hpk, hk, hmax, ht, hfl⟩ := h1 hn
  exact ⟨k, e, hpk, hk, hmax, of_verdict (f e.1 e.2).1 ht hfl⟩

/-- **C02, `peek_min_mut`.**  The reference handed out is to exactly the entry `peek_min` reports; a key-preserving
write to the item changes only that entry's item and keeps the invariant. -/
theorem C02_peekMinMut_eq {s : Store P} (h : DQ.Inv s) (w : Item → Item) (hw : ∀ it, (w it).key = it.key) :
    ∃ s' r, DQ.peekMinMutWrite s w = .ok (s', r) ∧ DQ.peekMin s = .ok r ∧ DQ.Inv s' ∧ s'.size = s.size ∧
      (r = none → s' = s) ∧ (∀ e, r = some e → s.IsMin e ∧ s'.abs = absSet s.abs e.1.key (w e.1, e.2)) := by
  obtain ⟨s', r, he, hwf, hsz, hpk, h0, h1, hord⟩ := DQ.peekMinMutWrite_core h.1 w hw
  obtain ⟨_, hnone, hsome⟩ := of_size_cases h0 h1
  exact ⟨s', r, he, hpk, ⟨hwf, (hord h.2).1⟩, hsz, hnone, fun e hr => ⟨(hord h.2).2 e hr, (hsome e hr).2⟩⟩

theorem C02_peekMaxMut_eq {s : Store P} (h : DQ.Inv s) (w : Item → Item) (hw : ∀ it, (w it).key = it.key) :
    ∃ s' r k, DQ.peekMaxMutWrite s w = .ok (s', r) ∧ DQ.peekMax s = .ok (s.tick k, r) ∧ k ≤ 1 ∧ DQ.Inv s' ∧
      s'.size = s.size ∧ (r = none → s' = s) ∧
      (∀ e, r = some e → s.IsMax e ∧ s'.abs = absSet s.abs e.1.key (w e.1, e.2)) := by
  obtain ⟨k, s', r, he, hpk, hk, hwf, hsz, h0, h1, hord⟩ := DQ.peekMaxMutWrite_core h.1 w hw
  obtain ⟨_, hnone, hsome⟩ := of_size_cases h0 h1
  exact ⟨s', r, k, he, hpk, hk, ⟨hwf, (hord h.2).1⟩, hsz, hnone, fun e hr => ⟨(hord h.2).2 e hr, (hsome e hr).2⟩⟩

/-- **C02, history form**: after any history ending in a `DoublePriorityQueue`, the next `pop_min` / `pop_max`
operation of the alphabet returns what `peek_min` / `peek_max` of that state report, and the invariant continues to
hold. -/
theorem C02_next_after_history (ops : List (Op P)) {q : Q P} (hq : QInv q) (hl : ∀ op ∈ ops, op.Legal)
    (hn : ∀ op ∈ ops, op.isLeak = false) :
    ∃ q' outs, run q ops = .ok (q', outs) ∧
      (q'.kind = .dpq →
        (∃ q'' r, step q' .popFront = .ok (q'', .entry r) ∧ DQ.peekMin q'.s = .ok r ∧ QInv q'') ∧
        (∃ q'' r k, step q' .popBack = .ok (q'', .entry r) ∧ DQ.peekMax q'.s = .ok (q'.s.tick k, r) ∧ QInv q'')) := by
  obtain ⟨q', outs, hrun, _, _, hd⟩ := C02_reach ops hq hl hn
  refine ⟨q', outs, hrun, fun hk => ?_⟩
  have h := hd hk
  obtain ⟨k, s⟩ := q'
  cases hk
  constructor
  · obtain ⟨s', r, he, hpk, hinv, _⟩ := C02_popMin_eq_peekMin h
    simp only [step, he, bind, Except.bind, pure, Except.pure]
    exact ⟨_, r, rfl, hpk, hinv⟩
  · obtain ⟨s', r, k, he, hpk, _, hinv, _⟩ := C02_popMax_eq_peekMax h
    simp only [step, he, bind, Except.bind, pure, Except.pure]
    exact ⟨_, r, k, rfl, hpk, hinv⟩

/-! ## Any interleaving of extractions from the two ends -/

/-- **C02, interleaving (global form).**  Any interleaving `calls` of `pop_min` (`false`) and `pop_max` (`true`) — as a
history of operations, or as calls `next`/`next_back` on `into_sorted_iter` — runs without fault.
`SortedRun ExtremeQ s.abs calls outs s'.abs` (unfold with `DQ.sortedRun_cons_some`, `DQ.sortedRun_cons_none`,
`DQ.extremeQ_false`, `DQ.extremeQ_true`) says: each `pop_min` returned a minimum and each `pop_max` a maximum of what was
held *at that moment* and exactly that key was removed; `None` was returned exactly when nothing was held.  The entries
returned have pairwise distinct keys; the invariant holds at the end. -/
theorem C02_interleaved {s : Store P} (h : DQ.Inv s) (calls : List Bool) :
    ∃ outs s', DQ.sortedCalls calls s = .ok (outs, s') ∧
      run ⟨.dpq, s⟩ (calls.map fun b => if b = true then Op.popBack else Op.popFront) =
        .ok (⟨.dpq, s'⟩, outs.map Out.entry) ∧
      DQ.Inv s' ∧ outs.length = calls.length ∧
      DQ.SortedRun DQ.ExtremeQ s.abs calls outs s'.abs ∧
      ((outs.filterMap id).map (·.1.key)).Nodup ∧
      s'.size = s.size - min s.size calls.length := by
  obtain ⟨outs, s', hrun, hinv, hlen, hsr, hnd, hsz⟩ := DQ.sortedCalls_spec h calls
  refine ⟨outs, s', hrun, ?_, hinv, hlen, hsr, hnd, hsz⟩
  rw [hist_run_sortedCalls, hrun]

/-- **C02, interleaving (pointwise form).**  Split any interleaving as `pre ++ b :: post`.  The calls of `pre` lead to
a store `s1` satisfying the invariant, and the answer `r` to the call `b` that follows is: `None` if `s1` is empty,
otherwise a stored minimum of `s1` (for `pop_min`) or a stored maximum of `s1` (for `pop_max`) — whatever was extracted
from either end before, and whatever follows. -/
theorem C02_interleaved_each (pre : List Bool) (b : Bool) (post : List Bool) : ∀ {s : Store P}, DQ.Inv s →
    ∃ outs1 s1 r rest s2, DQ.sortedCalls pre s = .ok (outs1, s1) ∧ DQ.Inv s1 ∧
      DQ.sortedCalls (pre ++ b :: post) s = .ok (outs1 ++ r :: rest, s2) ∧
      (s1.size = 0 → r = none) ∧
      (0 < s1.size → ∃ e, r = some e ∧ if b = true then s1.IsMax e else s1.IsMin e) := by
  induction pre with
  | nil =>
    intro s h
    cases b with
    | false =>
      obtain ⟨s', r, hpop, _, hinv, hiff, _, hsome⟩ := C02_popMin_eq_peekMin h
      obtain ⟨rest, s2, hrest, _⟩ := DQ.sortedCalls_spec hinv post
      refine ⟨[], s, r, rest, s2, rfl, h, ?_, fun hz => hiff.2 hz, fun hn => ?_⟩
      · simp only [List.nil_append, DQ.sortedCalls, hpop, hrest, bind, Except.bind, pure, Except.pure,
          Bool.false_eq_true, if_false]
      · cases r with
        | none => have := hiff.1 rfl; omega
        | some e => exact ⟨e, rfl, by simpa using (hsome e rfl).1⟩
    | true =>
      obtain ⟨s', r, k, hpop, _, _, hinv, hiff, _, hsome⟩ := C02_popMax_eq_peekMax h
      obtain ⟨rest, s2, hrest, _⟩ := DQ.sortedCalls_spec hinv post
      refine ⟨[], s, r, rest, s2, rfl, h, ?_, fun hz => hiff.2 hz, fun hn => ?_⟩
      · simp only [List.nil_append, DQ.sortedCalls, hpop, hrest, bind, Except.bind, pure, Except.pure, if_true]
      · cases r with
        | none => have := hiff.1 rfl; omega
        | some e => exact ⟨e, rfl, by simpa using (hsome e rfl).1⟩
  | cons c pre ih =>
    intro s h
    cases c with
    | false =>
      obtain ⟨s0, r0, hpop, _, hinv0, _⟩ := C02_popMin_eq_peekMin h
      obtain ⟨outs1, s1, r, rest, s2, h1, hinv1, h2, hz, hp⟩ := ih hinv0
      refine ⟨r0 :: outs1, s1, r, rest, s2, ?_, hinv1, ?_, hz, hp⟩
      · simp only [DQ.sortedCalls, hpop, h1, bind, Except.bind, pure, Except.pure, Bool.false_eq_true, if_false]
      · simp only [List.cons_append, DQ.sortedCalls, hpop, h2, bind, Except.bind, pure, Except.pure,
          Bool.false_eq_true, if_false]
    | true =>
      obtain ⟨s0, r0, k, hpop, _, _, hinv0, _⟩ := C02_popMax_eq_peekMax h
      obtain ⟨outs1, s1, r, rest, s2, h1, hinv1, h2, hz, hp⟩ := ih hinv0
      refine ⟨r0 :: outs1, s1, r, rest, s2, ?_, hinv1, ?_, hz, hp⟩
      · simp only [DQ.sortedCalls, hpop, h1, bind, Except.bind, pure, Except.pure, if_true]
      · simp only [List.cons_append, DQ.sortedCalls, hpop, h2, bind, Except.bind, pure, Except.pure, if_true]

/-! ## Non-vacuity: sizes 1, 2, 3 and 17, ties, interleavings, a conversion inside the history -/
section Examples

/-- every kind of operation once on a `DoublePriorityQueue`; priorities tie -/
private def exOps : List (Op Nat) :=
  [.push ⟨1, 0⟩ 7, .push ⟨2, 0⟩ 7, .push ⟨3, 0⟩ 2, .push ⟨2, 5⟩ 1, .changePriority 3 7, .changePriorityBy 1 (· - 3),
   .pushIncrease ⟨4, 0⟩ 6, .pushDecrease ⟨4, 0⟩ 5, .pushIncrease ⟨4, 0⟩ 9, .remove 1, .getMut 2 (fun it => ⟨it.key, 8⟩),
   .extend 0 #[(⟨5, 0⟩, 9), (⟨6, 0⟩, 3)], .append (Store.fromVec #[(⟨7, 0⟩, 4), (⟨5, 1⟩, 0)]),
   .iterMut false [(.nextBack, ⟨some 0, none⟩), (.next, ⟨none, some 1⟩), (.len, ⟨none, none⟩), (.next, ⟨some 12, none⟩)],
   .retainMut (fun it p => (p != 3, it, p)), .popFrontIf (fun it p => (p == 0, it, p + 1)),
   .popBackIf (fun it p => (p == 11, it, p)), .capacityOp, .peekFrontMut (fun it => ⟨it.key, 99⟩),
   .peekBackMut (fun it => ⟨it.key, 98⟩), .convert, .popBack, .convert]

example : (∀ op ∈ exOps, op.Legal) ∧ (∀ op ∈ exOps, op.isLeak = false) := by
  constructor <;> intro op h <;> simp only [exOps, List.mem_cons, List.not_mem_nil, or_false] at h <;>
    rcases h with h | h | h | h | h | h | h | h | h | h | h | h | h | h | h | h | h | h | h | h | h | h | h <;>
    subst h <;> first | exact trivial | rfl | (intro _; rfl) | (intro _ _; rfl) | (show Store.WF _; decide +kernel) | (show _ ∧ _ < capLimit; decide +kernel)

-- the theorem applies to the concrete history …
example : ∃ q' outs, run (Q.new .dpq) exOps = .ok (q', outs) ∧ outs.length = 23 ∧ QInv q' :=
  let ⟨q', outs, h1, h2, h3, _⟩ := C02_reach_new exOps .dpq
    (by
      intro op h; simp only [exOps, List.mem_cons, List.not_mem_nil, or_false] at h
      rcases h with h | h | h | h | h | h | h | h | h | h | h | h | h | h | h | h | h | h | h | h | h | h | h <;>
        subst h <;> first | exact trivial | (intro _; rfl) | (intro _ _; rfl) | (show Store.WF _; decide +kernel) | (show _ ∧ _ < capLimit; decide +kernel))
    (by
      intro op h; simp only [exOps, List.mem_cons, List.not_mem_nil, or_false] at h
      rcases h with h | h | h | h | h | h | h | h | h | h | h | h | h | h | h | h | h | h | h | h | h | h | h <;>
        subst h <;> rfl)
  ⟨q', outs, h1, h2, h3⟩
-- … and the model computes this on it: a `DoublePriorityQueue` whose peeks are the extremes of what is stored
example : hist_okR (run (Q.new .dpq) exOps) (fun r => r.1.kind = .dpq ∧ r.1.s.WF ∧ r.1.s.size = 4 ∧
    r.1.s.map = #[(⟨4, 1⟩, 9), (⟨2, 98⟩, 12), (⟨3, 99⟩, 7), (⟨5, 0⟩, 9)] ∧
    (DQ.peekMin r.1.s).toOption = some (some (⟨3, 99⟩, 7)) ∧
    (DQ.peekMax r.1.s).toOption.map (·.2) = some (some (⟨2, 98⟩, 12))) := by decide +kernel

/-- `n` entries, priorities `(7 * i) % 5` (ties for `n > 5`) -/
private def exN (n : Nat) : Array (Item × Nat) := Array.ofFn (n := n) fun i => (⟨i.val, 0⟩, (7 * i.val) % 5)

-- sizes 1, 2, 3 (the three branches of `find_max`) and 17 (five levels): `pop_min`/`pop_max` interleaved until empty
-- and beyond; each answer is a minimum/maximum of what remained
example : hist_okR (run (Q.new .dpq) [.fromVec (exN 1), .popBack, .popFront]) (fun r =>
    r.2.map (fun o => (hist_outEntry o).map (·.map (·.2))) = [none, some (some 0), some none]) := by decide +kernel
example : hist_okR (run (Q.new .dpq) [.fromVec (exN 2), .popBack, .popBack, .popFront]) (fun r =>
    r.2.map (fun o => (hist_outEntry o).map (·.map (·.2))) = [none, some (some 2), some (some 0), some none]) := by
  decide +kernel
example : hist_okR (run (Q.new .dpq) [.fromVec (exN 3), .popBack, .popFront, .popBack, .popBack]) (fun r =>
    r.2.map (fun o => (hist_outEntry o).map (·.map (·.2))) = [none, some (some 4), some (some 0), some (some 2), some none]) := by
  decide +kernel
example : hist_okR (DQ.fromVec (exN 17)) (fun s => s.size = 17 ∧
    hist_okR (DQ.sortedCalls [false, true, true, false, false, true, false, true, true, false, false, true, false, true,
      true, false, false, true, false] s) (fun r => r.1.map (·.map (·.2)) =
      [some 0, some 4, some 4, some 0, some 0, some 4, some 0, some 3, some 3, some 1, some 1, some 3, some 1, some 2,
       some 2, some 2, some 2, none, none] ∧ r.2.size = 0)) := by decide +kernel

end Examples

end PQ

#print axioms PQ.C02_reach
#print axioms PQ.C02_reach_new
#print axioms PQ.C02_peekMin_min
#print axioms PQ.C02_peekMax_max
#print axioms PQ.C02_peek_history
#print axioms PQ.C02_popMin_eq_peekMin
#print axioms PQ.C02_popMax_eq_peekMax
#print axioms PQ.C02_popMinIf_sees_peekMin
#print axioms PQ.C02_popMaxIf_sees_peekMax
#print axioms PQ.C02_peekMinMut_eq
#print axioms PQ.C02_peekMaxMut_eq
#print axioms PQ.C02_next_after_history
#print axioms PQ.C02_interleaved
#print axioms PQ.C02_interleaved_each
