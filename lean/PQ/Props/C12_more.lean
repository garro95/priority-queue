import PQ.Props.C12
import PQ.Lemmas.ContentsMore
/-!
# C12 — supplement: the persistence theorems at the strength of the property

"… changes made to such parts through get_mut, peek_mut, peek_min_mut, peek_max_mut or iter_mut persist across all later
lookups, priority updates, reorderings and removals of other elements …"

`C12_payload_persists` / `C12_payload_persists_history` (file `C12.lean`) assume `cont_preservesItem k op` of every
operation, a property of the operation ALONE, which forbids more histories than the property does:

1. for `iter_mut` it demands a program without any payload write — but a payload write through the reference yielded
   for a DIFFERENT element does not disturb the item stored for `k` (and a write to `k` itself is a legitimate "change
   made through iter_mut", `C12_iterMut_written`, whose result must then persist);
2. for `append(other)` it demands that `other` does not hold `k` — but the receiver's entry, item included, is kept on
   a clash whenever `other` is NOT longer than the receiver (only a strictly longer `other` is swapped in first).

The theorems of this file assume the state-dependent predicate `c12m_preservesItem k q op` instead (file
`ContentsMore.lean`; `q` is the queue the operation is executed on):

* `iter_mut leak prog` — `c12m_iterMutKeeps k q prog`: every write of the program that goes through a reference yielded
  for a slot whose entry has key `k` leaves that entry's ITEM as it is (it may set its priority); writes through the
  references to all other slots are unconstrained;
* `append o` — `o.size ≤ q.s.size ∨ o.abs k = none`;
* every other operation — `cont_preservesItem k op`.

Theorems:

* `C12m_payload_persists` — one step; `C12m_payload_persists_history` — histories, the predicate being required along
  the run (`c12m_preservedThroughout k q ops`, defined by recursion on the history: it holds of the first operation on
  `q` and, for whatever queue that step returns, of the rest).
* `C12m_subsumes_old`, `C12m_subsumes_old_history` — the hypotheses of `C12.lean` imply the ones used here: its theorems
  are instances of these.
* `C12m_iterMut_exact`, `C12m_append_exact` — the two relaxed clauses are not merely sufficient: the stored item
  survives `iter_mut` IFF the composition of the writes made through `k`'s slot returns the item it found, and survives
  `append` IFF `other` is not longer, or does not hold `k`, or happens to hold the very same item value.
* `C12m_iterMut_written_persists` — what `iter_mut` wrote to `k` is what every later history of this kind reads back.

All for both queue kinds and from `Store.WF` only (leaked `iter_mut` guards included).
-/
set_option linter.unusedSectionVars false
namespace PQ
open Store
variable {P : Type} [LT P] [DecidableLT P] [LE P] [Std.IsLinearPreorder P] [Std.LawfulOrderLT P]

/-- **The stored item survives every operation that, on the current queue, neither rewrites it nor removes it** (one
step, all operations): in particular an `iter_mut` that writes payloads of OTHER elements (and the priority of `k`), and
an `append` of a queue that holds `k` but is not longer than the receiver -/
theorem C12m_payload_persists {q q' : Q P} {op : Op P} {o : Out P} {k : Nat} (hq : q.s.WF) (hl : op.Legal)
    (hp : c12m_preservesItem k q op) (hs : step q op = .ok (q', o)) (hk : (q'.s.abs k).isSome = true) {it0 : Item}
    (h0 : storedItem q k = some it0) : storedItem q' k = some it0 :=
  c12m_step_item_persists hq hl hp hs hk h0

/-- **… and every history of such operations**, as long as `k` stays in the queue; `c12m_preservedThroughout k q ops`
asks `c12m_preservesItem k q₁ op` of each operation on the queue `q₁` it is executed on -/
theorem C12m_payload_persists_history {q q' : Q P} {ops : List (Op P)} {outs : List (Out P)} {k : Nat} {it0 : Item}
    (hq : q.s.WF) (hl : ∀ op ∈ ops, op.Legal) (hp : c12m_preservedThroughout k q ops)
    (hpres : cont_presentThroughout k q ops) (h0 : storedItem q k = some it0) (hr : run q ops = .ok (q', outs)) :
    storedItem q' k = some it0 :=
  c12m_run_item_persists ops hq hl hp hpres h0 hr

/-- the hypothesis of `C12_payload_persists` implies the one of `C12m_payload_persists`, on every queue -/
theorem C12m_subsumes_old {k : Nat} (q : Q P) {op : Op P} (h : cont_preservesItem k op) : c12m_preservesItem k q op :=
  c12m_preservesItem_of_cont q h

/-- … and the hypothesis of `C12_payload_persists_history` the one of `C12m_payload_persists_history` -/
theorem C12m_subsumes_old_history {k : Nat} (q : Q P) {ops : List (Op P)}
    (h : ∀ op ∈ ops, op.Legal ∧ cont_preservesItem k op) :
    (∀ op ∈ ops, op.Legal) ∧ c12m_preservedThroughout k q ops :=
  ⟨fun op hop => (h op hop).1, c12m_preservedThroughout_of_cont ops q (fun op hop => (h op hop).2)⟩

/-- **`iter_mut`, exactly**: with `k` stored in slot `j`, the stored item of `k` afterwards is the old one IFF the
writes made through the references yielded for slot `j`, composed in order, return the item they found
(`c12m_iterMutKeeps` asks it of each such write separately, which is sufficient: `C12m_payload_persists`) -/
theorem C12m_iterMut_exact {kind : Kind} {s s' : Store P} {leak : Bool} {prog : List (ICall × IMWrite P)}
    {outs : List IOut} (h : s.WF) (hs : step ⟨kind, s⟩ (.iterMut leak prog) = .ok (⟨kind, s'⟩, .outs outs))
    {k j : Nat} (hj : IMap.find? s.map k = some j) {e : Item × P} (ha : s.abs k = some e) :
    storedItem ⟨kind, s'⟩ k = some (cont_writesAt j outs prog e).1 ∧
    (storedItem ⟨kind, s'⟩ k = storedItem ⟨kind, s⟩ k ↔ (cont_writesAt j outs prog e).1 = e.1) := by
  have h1 := (C12_iterMut_written h hs hj).1
  have h2 : storedItem ⟨kind, s'⟩ k = some (cont_writesAt j outs prog e).1 := by
    show (s'.abs k).map (·.1) = _
    rw [h1, ha]; rfl
  have h3 : storedItem ⟨kind, s⟩ k = some e.1 := by
    show (s.abs k).map (·.1) = _
    rw [ha]; rfl
  refine ⟨h2, ?_⟩
  rw [h2, h3, Option.some.injEq]

/-- **`append`, exactly**: the item the receiver stores for `k` survives `append(oth)` IFF `oth` is not longer than the
receiver, or does not hold `k`, or holds for `k` the very same item value -/
theorem C12m_append_exact {q q' : Q P} {oth : Store P} {o : Out P} {k : Nat} (hq : q.s.WF) (hl : oth.WF)
    (hs : step q (.append oth) = .ok (q', o)) {it0 : Item} (h0 : storedItem q k = some it0) :
    storedItem q' k = some it0 ↔
      (oth.size ≤ q.s.size ∨ oth.abs k = none ∨ (oth.abs k).map (·.1) = some it0) := by
  constructor
  · intro h'
    by_cases hsz : oth.size ≤ q.s.size
    · exact .inl hsz
    · cases hx : oth.abs k with
      | none => exact .inr (.inl rfl)
      | some x =>
        have hswap : q'.s.abs k = some x := by
          rw [cont_step_append_abs hq hl hs, if_pos (Nat.lt_of_not_le hsz), hx]; rfl
        refine .inr (.inr ?_)
        have : storedItem q' k = some x.1 := by
          show (q'.s.abs k).map (·.1) = _
          rw [hswap]; rfl
        rw [this] at h'
        simpa using h'
  · rintro (hc | hc | hc)
    · exact c12m_step_append_item hq hl (.inl hc) hs h0
    · exact c12m_step_append_item hq hl (.inr hc) hs h0
    · obtain ⟨p0, ha⟩ := cont_storedItem_eq_some.1 h0
      show (q'.s.abs k).map (·.1) = _
      rw [cont_step_append_abs hq hl hs, ha]
      cases hx : oth.abs k with
      | none => split <;> simp
      | some x =>
        rw [hx] at hc
        simp only [Option.map_some, Option.some.injEq] at hc
        split <;> simp [hc]

/-- **What `iter_mut` wrote to `k` is read back after every later history** of operations that do not rewrite it on the
queue they run on — further `iter_mut`s that write the payloads of other elements and `append`s of shorter queues
holding `k` included -/
theorem C12m_iterMut_written_persists {kind : Kind} {s s' : Store P} {leak : Bool} {prog : List (ICall × IMWrite P)}
    {outs : List IOut} (h : s.WF) (hs : step ⟨kind, s⟩ (.iterMut leak prog) = .ok (⟨kind, s'⟩, .outs outs))
    {k j : Nat} (hj : IMap.find? s.map k = some j) {e : Item × P} (ha : s.abs k = some e)
    {q2 : Q P} {ops : List (Op P)} {outs2 : List (Out P)} (hl : ∀ op ∈ ops, op.Legal)
    (hp : c12m_preservedThroughout k ⟨kind, s'⟩ ops) (hpres : cont_presentThroughout k ⟨kind, s'⟩ ops)
    (h2 : run ⟨kind, s'⟩ ops = .ok (q2, outs2)) :
    storedItem q2 k = some (cont_writesAt j outs prog e).1 := by
  have hq1 : s'.WF := (cont_step_refines (q := ⟨kind, s⟩) (op := .iterMut leak prog) h trivial hs).1
  exact C12m_payload_persists_history (q := ⟨kind, s'⟩) hq1 hl hp hpres (C12m_iterMut_exact h hs hj ha).1 h2

/-! ## Non-vacuity: histories the theorems of `C12.lean` do not cover -/
section Examples

private def wr : Item → Item := fun it => ⟨it.key, 77⟩
/-- the queue `other` of the first `append`: it HOLDS key 4 (with another payload) and is shorter than the receiver -/
private def othA : Store Nat := Store.fromVec #[(⟨4, 0⟩, 100), (⟨9, 90⟩, 2)]
private def othB : Store Nat := Store.fromVec #[(⟨4, 1⟩, 0)]
/-- `iter_mut` on `cont_ex5` (slots 0..4 hold keys 1..5): payload 99 written to key 1, priority 0 to key 2, nothing to
key 3, priority 6 (no payload) to key 4 -/
private def progA : List (ICall × IMWrite Nat) :=
  [(.next, ⟨none, some 99⟩), (.next, ⟨some 0, none⟩), (.next, ⟨none, none⟩), (.next, ⟨some 6, none⟩)]
/-- a history around key 4: `iter_mut` writing the payload of ANOTHER element, `append` of a shorter queue that holds 4,
priority updates of 4 carrying other payloads, a pop, `get_mut` writing the payload of another key, a LEAKED `iter_mut`
writing a payload, the conversion to the double-ended queue, `iter_mut` from both ends writing payloads, a removal,
another `append` -/
private def exOps : List (Op Nat) :=
  [.iterMut false progA, .append othA, .changePriority 4 2, .pushIncrease ⟨4, 5⟩ 3, .popFront, .getMut 1 wr,
   .iterMut true [(.next, ⟨none, some 1⟩)], .convert,
   .iterMut false [(.nextBack, ⟨none, some 8⟩), (.next, ⟨none, some 3⟩)], .remove 2, .append othB]

-- `cont_preservesItem` REJECTS this history (first two operations): the program writes a payload, `othA` holds key 4
example : ¬ cont_preservesItem 4 (Op.iterMut false progA) := by
  show ¬ ∀ cw ∈ progA, cw.2.payload = none
  decide
example : ¬ cont_preservesItem 4 (Op.append othA) := by
  show ¬ othA.abs 4 = none
  decide +kernel
-- … `c12m_preservesItem` accepts both on `cont_ex5`: the only write to the slot of key 4 (slot 3) is a priority write; `othA` is shorter
example : cont_ex5.WF ∧ othA.WF ∧ IMap.find? cont_ex5.map 4 = some 3 ∧
    c12m_iterOuts ⟨.pq, cont_ex5⟩ progA = [.slot (some 0), .slot (some 1), .slot (some 2), .slot (some 3)] ∧
    c12m_preservesItem 4 ⟨.pq, cont_ex5⟩ (Op.iterMut false progA) ∧
    othA.abs 4 = some (⟨4, 0⟩, 100) ∧ othA.size ≤ cont_ex5.size ∧
    c12m_preservesItem 4 ⟨.pq, cont_ex5⟩ (Op.append othA) := by
  refine ⟨by decide +kernel, by decide +kernel, by decide +kernel, by decide +kernel, ?_, by decide +kernel,
    by decide +kernel, .inl (by decide +kernel)⟩
  show c12m_iterMutKeeps 4 ⟨.pq, cont_ex5⟩ progA
  decide +kernel
-- `C12m_payload_persists` on these two steps: the stored item of 4 (payload 40) persists, the other writes happened
example : cont_okR (step ⟨.pq, cont_ex5⟩ (.iterMut false progA)) (fun r =>
    storedItem r.1 4 = some ⟨4, 40⟩ ∧ r.1.s.abs 4 = some (⟨4, 40⟩, 6) ∧ r.1.s.abs 1 = some (⟨1, 99⟩, 5) ∧
    cont_okR (step r.1 (.append othA)) (fun r2 =>
      storedItem r2.1 4 = some ⟨4, 40⟩ ∧ r2.1.s.abs 9 = some (⟨9, 90⟩, 2) ∧ r2.1.s.size = 6)) := by decide +kernel
-- a write through `iter_mut` to key 4 itself that changes the payload is (rightly) NOT accepted
example : ¬ c12m_preservesItem 4 ⟨.pq, cont_ex5⟩
    (Op.iterMut false [(.next, ⟨none, none⟩), (.next, ⟨none, none⟩), (.next, ⟨none, none⟩), (.next, ⟨none, some 41⟩)]) := by
  show ¬ c12m_iterMutKeeps 4 ⟨.pq, cont_ex5⟩ _
  decide +kernel
-- … nor is an `append` of a LONGER queue holding 4 (`C12_append_swaps`: its item wins)
example : ¬ c12m_preservesItem 4 ⟨.pq, cont_ex5⟩ (Op.append (Store.fromVec
    #[(⟨4, 0⟩, 100), (⟨9, 90⟩, 2), (⟨10, 0⟩, 3), (⟨11, 0⟩, 4), (⟨12, 0⟩, 5), (⟨13, 0⟩, 6)])) := by
  show ¬ (_ ≤ _ ∨ _ = none)
  decide +kernel

-- the hypotheses of `C12m_payload_persists_history` on the whole history `exOps`
private theorem exOps_legal : ∀ op ∈ exOps, op.Legal := by
  intro op hop
  simp only [exOps, List.mem_cons, List.not_mem_nil, or_false] at hop
  rcases hop with rfl | rfl | rfl | rfl | rfl | rfl | rfl | rfl | rfl | rfl | rfl
  · trivial
  · show othA.WF; decide +kernel
  · trivial
  · trivial
  · trivial
  · exact fun _ => rfl
  · trivial
  · trivial
  · trivial
  · trivial
  · show othB.WF; decide +kernel
private theorem exOps_preserved : c12m_preservedThroughout 4 ⟨.pq, cont_ex5⟩ exOps :=
  c12m_preservedThroughout_of_B exOps (by decide +kernel)
private theorem exOps_present : cont_presentThroughout 4 ⟨.pq, cont_ex5⟩ exOps :=
  c12m_presentThroughout_of_B exOps (by decide +kernel)
-- … so the theorem applies to it:
example {q' : Q Nat} {outs : List (Out Nat)} (hr : run ⟨.pq, cont_ex5⟩ exOps = .ok (q', outs)) :
    storedItem q' 4 = some ⟨4, 40⟩ :=
  C12m_payload_persists_history (by decide +kernel) exOps_legal exOps_preserved exOps_present (by decide +kernel) hr
-- … and the run exists: it ends in a double-ended queue that still stores payload 40 for key 4 (priority 3), while the
-- payloads of keys 1 and 5 were rewritten by `get_mut` / `iter_mut` and key 9 came from `othA`
example : cont_okR (run ⟨.pq, cont_ex5⟩ exOps) (fun r => r.1.kind = .dpq ∧ storedItem r.1 4 = some ⟨4, 40⟩ ∧
    r.1.s.get 4 = some (⟨4, 40⟩, 3) ∧ r.1.s.abs 1 = some (⟨1, 3⟩, 5) ∧ r.1.s.abs 5 = some (⟨5, 8⟩, 3) ∧
    r.1.s.abs 9 = some (⟨9, 90⟩, 2) ∧ r.1.s.abs 2 = none ∧ r.1.s.abs 3 = none ∧ r.1.s.len = 4) := by decide +kernel

-- `C12m_iterMut_written_persists`: `iter_mut` writes payload 41 to key 4 (slot 3, yielded once, by the 4th call); the
-- rest of `exOps` (which writes other payloads through `iter_mut` and appends queues holding 4) reads 41 back; its
-- hypotheses are established by the Boolean checkers `c12m_preservedThroughoutB` / `c12m_presentThroughoutB` of `ContentsMore.lean`
private def progW : List (ICall × IMWrite Nat) :=
  [(.next, ⟨none, none⟩), (.next, ⟨none, none⟩), (.next, ⟨none, none⟩), (.next, ⟨none, some 41⟩)]
example : cont_okR (step ⟨.pq, cont_ex5⟩ (.iterMut false progW)) (fun r1 =>
    r1.1.kind = .pq ∧ storedItem r1.1 4 = some ⟨4, 41⟩ ∧
    c12m_preservedThroughoutB 4 r1.1 exOps.tail = true ∧ c12m_presentThroughoutB 4 r1.1 exOps.tail = true ∧
    cont_okR (run r1.1 exOps.tail) (fun r2 => storedItem r2.1 4 = some ⟨4, 41⟩ ∧ r2.1.s.get 4 = some (⟨4, 41⟩, 3))) := by
  decide +kernel
-- `C12m_iterMut_exact`: the composed writes at slot 3 (`cont_writesAt`) for the two programs
example : (cont_writesAt 3 (c12m_iterOuts ⟨.pq, cont_ex5⟩ progW) progW ((⟨4, 40⟩, 1) : Item × Nat)).1 = ⟨4, 41⟩ ∧
    (cont_writesAt 3 (c12m_iterOuts ⟨.pq, cont_ex5⟩ progA) progA ((⟨4, 40⟩, 1) : Item × Nat)) = (⟨4, 40⟩, 6) := by
  decide +kernel

end Examples

end PQ

#print axioms PQ.C12m_payload_persists
#print axioms PQ.C12m_payload_persists_history
#print axioms PQ.C12m_subsumes_old
#print axioms PQ.C12m_subsumes_old_history
#print axioms PQ.C12m_iterMut_exact
#print axioms PQ.C12m_append_exact
#print axioms PQ.C12m_iterMut_written_persists
