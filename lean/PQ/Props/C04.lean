import PQ.Lemmas.History
import PQ.Lemmas.DebugLemmas
/-!
# C04 — "Fault-free use never panics and never touches memory out of bounds"

> Starting from any constructor, no finite sequence of calls to the safe public API with well-behaved user code (a
> total `Ord`, consistent `Hash`/`Eq`, closures that return) panics, aborts or performs an out-of-bounds or otherwise
> undefined memory access, the documented capacity-overflow panics of `reserve` aside.  Equivalently, after every public
> operation the index structures that the unchecked accesses trust are mutually consistent and agree with the reported
> length.

Quantifier: **all finite histories** `ops : List (Op P)` on **either queue kind**, from `new()` — the other
constructors (`From<Vec>`, `FromIterator`, `Deserialize`, `From<the other kind>`, `with_capacity`) are operations of the
alphabet that ignore or keep the old state, so "from any constructor" is "any history" — and more generally from any
well-formed state; **including** the histories that leave the order unspecified (a leaked `iter_mut` guard,
`.iterMut true prog`) and then continue with arbitrary operations.  The only hypothesis is `Op.Legal`: closures do
not change the identity (`Hash`/`Eq`) of an item, which is the crate's documented requirement ("well-behaved user
code"), and the other queue handed to `append` (`Op.append o`: ANY store `o`) is itself a queue, i.e. well-formed (`o.WF`,
e.g. any state reachable by a legal history — it need not be ordered); `P` is any type with a total preorder
(`Std.IsLinearPreorder`, the model of a total `Ord`).

## How the statement reads on the real code

Every way the real code can leave the fault-free path is an explicit `Fault` of the model (`PQ/Model/Basic.lean`), so
"`run` never returns `.error f`" is a theorem about the model and not an artefact of totalised definitions:

* `Fault.oob site` — an **unchecked** access (`get_unchecked{,_mut}`) out of range: undefined behaviour in the real code.
  Every `site` number is listed under `model_sites` of an entry of `/verif/unsafe_inventory.json` (which enumerates all
  `unsafe` blocks/functions of the crate):
  - `101 102` `Store::swap`; `105` `Store::get_priority_from_position`; `109 110 112 113` `Store::swap_remove`;
    `114` `Store::swap_remove_if`; `116` `Store::change_priority`; `117` `Store::change_priority_by`;
    `121–126` `Store::remove` (store.rs);
  - `201 311 320 323` `Store::index_at`, `202 203 312–315 321 322 324 325` `Store::move_from`,
    `205 206 316 317` `Hole::drop` (the `bubble_up` hole of both queues);
  - `207` `PriorityQueue::up_heapify`, `209` `PriorityQueue::peek_mut`, `210` `PriorityQueue::push`;
  - `327 328` `DoublePriorityQueue::peek_min/peek_max`, `329 330` `peek_min_mut/peek_max_mut`, `331` `push`.
  The raw-pointer reborrows of the two `IterMut::next{,_back}` have no fault site: they are modelled as "a slot is
  emitted", and their soundness condition (no slot twice, only stored slots) is C09, which `hist_iterMutRun_spec` lifts
  to the `iter_mut` operation of a history.
* `Fault.indexPanic site` (`103 104 107 111 119 120`: `Vec::swap`, `Vec::swap_remove`), `Fault.unwrapNone site`
  (`106 115 190 204 303 304 308 310 318 319`: `Option::unwrap`; `190` is the one in `impl Debug for Store`), `Fault.arith site` (`108 118 301 306`: `size -= 1`;
  `208 302 305 307 309 326`: `parent(i) = (i - 1) / 2` at `i = 0`; `401 402`: the checked subtraction in
  `IterMut::len/size_hint`) — ordinary panics (with overflow checks on).
* `Fault.fuel` — a loop of the model ran out of fuel (no counterpart in the real code; excluded by the same theorem).
* `Fault.capacity` — the **documented capacity-overflow panic** of `reserve` / `with_capacity`, the one panic the claim
  allows — is produced by `step` **exactly** when `extend` / `from_iter` is handed an iterator whose `size_hint` announces a
  lower bound `≥ capLimit = 2^61` elements (`reserveC`, `PQ/Model/Store.lean`; `C04_capacity_exactly`).  Such a hint is
  never `Op.Legal`: a legal `size_hint` has `lo ≤ xs.size < capLimit` (its lower bound does not exceed what the iterator
  yields).  `Deserialize` never produces it, whatever length the (untrusted) input announces: the pre-allocation is capped
  (C15).  The explicit capacity operations are no-ops of the model (`Op.capacityOp`; capacity is not part of the modelled
  state; their own overflow panic is exercised by the correspondence check only).
* `Fault.userPanic` is **never produced by `step`**: user callbacks are total functions here (closures that panic are the
  subject of C10).

`QWF q` (`PQ/Lemmas/History.lean`) is `q.s.WF = q.s.TWF q.s.size` (`PQ/Lemmas/Defs.lean`): `map`, `heap`, `qp` all have length `size`, `heap` and
`qp` are mutually inverse bijections of `0..size`, and keys are unique — exactly what the unchecked accesses trust.
-/
namespace PQ
variable {P : Type} [LT P] [DecidableLT P] [LE P] [Std.IsLinearPreorder P] [Std.LawfulOrderLT P]

/-- **C04, from any well-formed state** (in particular after an injected fault that left a well-formed state: used by
C10).  Every history of legal operations — leaked `iter_mut` guards allowed anywhere — runs to completion without any
fault, answers every operation, and ends in a well-formed state. -/
theorem C04_from_any_wf (ops : List (Op P)) {q : Q P} (hq : QWF q) (hl : ∀ op ∈ ops, op.Legal) :
    ∃ q' outs, run q ops = .ok (q', outs) ∧ outs.length = ops.length ∧ QWF q' := by
  obtain ⟨q', outs, h1, h2, h3⟩ := hist_run_safe ops hq hl
  exact ⟨q', outs, h1, h3, h2⟩

/-- **C04, no fault.**  From `new()` of either kind, every history of legal operations runs to completion. -/
theorem C04_nofault (ops : List (Op P)) (hl : ∀ op ∈ ops, op.Legal) (k : Kind) :
    ∃ q' outs, run (Q.new k) ops = .ok (q', outs) := by
  obtain ⟨q', outs, h, _⟩ := C04_from_any_wf ops (hist_new_wf k) hl
  exact ⟨q', outs, h⟩

/-- **C04, no fault of any sort**: no out-of-bounds unchecked access (`Fault.oob`), no panic (`indexPanic`,
`unwrapNone`, `arith`), nothing else -/
theorem C04_nofault_ne (ops : List (Op P)) (hl : ∀ op ∈ ops, op.Legal) (k : Kind) :
    ∀ f, run (Q.new k) ops ≠ .error f := by
  intro f hf
  obtain ⟨q', outs, h⟩ := C04_nofault ops hl k
  rw [h] at hf
  cases hf

/-- **C04, the index structures stay consistent.**  After every history from `new()` the final store is well-formed:
`map`, `heap` and `qp` have exactly `size` entries, `heap` and `qp` are mutually inverse bijections of `0..size`, and no
two slots hold the same key. -/
theorem C04_wf_reach (ops : List (Op P)) (hl : ∀ op ∈ ops, op.Legal) (k : Kind) :
    ∃ q' outs, run (Q.new k) ops = .ok (q', outs) ∧ outs.length = ops.length ∧ q'.s.WF ∧
      q'.s.map.size = q'.s.size ∧ q'.s.heap.size = q'.s.size ∧ q'.s.qp.size = q'.s.size ∧
      (∀ p, p < q'.s.size → ∃ i, q'.s.heap[p]? = some i ∧ q'.s.qp[i]? = some p) ∧
      (∀ i, i < q'.s.size → ∃ p, q'.s.qp[i]? = some p ∧ q'.s.heap[p]? = some i) ∧
      q'.s.map.NoDupKeys := by
  obtain ⟨q', outs, h1, h2, h3⟩ := C04_from_any_wf ops (hist_new_wf k) hl
  have hwf : q'.s.WF := h3
  exact ⟨q', outs, h1, h2, hwf, hwf.map_size, hwf.heap_size, hwf.qp_size, hwf.heap_qp, hwf.qp_heap, hwf.nodup⟩

/-- **C04, "after every public operation"**: the state after EVERY prefix of the history is well-formed (not only the
final one), and the run of the prefix is fault-free. -/
theorem C04_every_prefix (ops : List (Op P)) (hl : ∀ op ∈ ops, op.Legal) (k : Kind) (n : Nat) :
    ∃ q' outs, run (Q.new k) (ops.take n) = .ok (q', outs) ∧ q'.s.WF :=
  let ⟨q', outs, h1, _, h3⟩ := C04_from_any_wf (ops.take n) (hist_new_wf k)
    (fun op h => hl op (List.mem_of_mem_take h))
  ⟨q', outs, h1, h3⟩

/-- **C04, one step** (the inductive core, for every constructor of `Op` and both kinds): a legal operation on a
well-formed queue returns normally and leaves a well-formed queue — whether or not the queue is ordered. -/
theorem C04_step {q : Q P} {op : Op P} (hq : QWF q) (hl : op.Legal) :
    ∃ q' o, step q op = .ok (q', o) ∧ QWF q' :=
  hist_step_safe hq hl

/-- **C04, the one allowed panic, exactly.**  On a well-formed queue, for an operation that is legal except possibly for
the `size_hint` it announces, `step` answers `Fault.capacity` if and only if the operation is `extend` / `from_iter` with an
announced lower bound `lo ≥ capLimit` (then `reserve(lo)` / `with_capacity(lo)` panics with "capacity overflow" before
anything else happens); with every other lower bound — legal or not — it succeeds. -/
theorem C04_capacity_exactly {q : Q P} {op : Op P} (hq : QWF q)
    (hl : op.Legal ∨ ∃ lo xs, op = .extend lo xs ∨ op = .fromIter lo xs) :
    (step q op = .error .capacity ↔ ∃ lo xs, (op = .extend lo xs ∨ op = .fromIter lo xs) ∧ capLimit ≤ lo) ∧
    ((¬ ∃ lo xs, (op = .extend lo xs ∨ op = .fromIter lo xs) ∧ capLimit ≤ lo) → ∃ q' o, step q op = .ok (q', o) ∧ QWF q') := by
  have hcap : ∀ lo xs, capLimit ≤ lo →
      step q (.extend lo xs) = .error .capacity ∧ step q (.fromIter lo xs) = .error .capacity := by
    intro lo xs hlo
    obtain ⟨kind, s⟩ := q
    cases kind <;>
      simp only [step, MaxQ.extend_of_ge xs hlo, DQ.extend_of_ge xs hlo, MaxQ.fromIter_of_ge xs hlo,
        DQ.fromIter_of_ge xs hlo, bind, Except.bind] <;> first | exact ⟨rfl, rfl⟩ | exact ⟨trivial, trivial⟩ | trivial
  have hok : (¬ ∃ lo xs, (op = .extend lo xs ∨ op = .fromIter lo xs) ∧ capLimit ≤ lo) →
      ∃ q' o, step q op = .ok (q', o) ∧ QWF q' := by
    intro hn
    rcases hl with hl | ⟨lo, xs, rfl | rfl⟩
    · exact hist_step_safe hq hl
    · have hlo : lo < capLimit := Nat.lt_of_not_le (fun h => hn ⟨lo, xs, .inl rfl, h⟩)
      obtain ⟨kind, s⟩ := q
      cases kind
      · obtain ⟨s', he, hwf, _⟩ := MaxQ.extend_safe hq lo xs hlo
        refine ⟨⟨Kind.pq, s'⟩, Out.unit, ?_, hwf⟩
        simp only [step, he, bind, Except.bind, pure, Except.pure]
      · obtain ⟨s', he, hwf, _⟩ := DQ.extend_safe hq lo xs hlo
        refine ⟨⟨Kind.dpq, s'⟩, Out.unit, ?_, hwf⟩
        simp only [step, he, bind, Except.bind, pure, Except.pure]
    · have hlo : lo < capLimit := Nat.lt_of_not_le (fun h => hn ⟨lo, xs, .inr rfl, h⟩)
      obtain ⟨kind, s⟩ := q
      cases kind
      · obtain ⟨s', he, hwf, _⟩ := MaxQ.fromIter_safe lo xs hlo
        refine ⟨⟨Kind.pq, s'⟩, Out.unit, ?_, hwf⟩
        simp only [step, he, bind, Except.bind, pure, Except.pure]
      · obtain ⟨s', he, hwf, _⟩ := DQ.fromIter_safe lo xs hlo
        refine ⟨⟨Kind.dpq, s'⟩, Out.unit, ?_, hwf⟩
        simp only [step, he, bind, Except.bind, pure, Except.pure]
  refine ⟨⟨fun h => ?_, ?_⟩, hok⟩
  · apply Classical.byContradiction
    intro hn
    obtain ⟨q', o, h', _⟩ := hok hn
    rw [h'] at h; cases h
  · rintro ⟨lo, xs, rfl | rfl, hlo⟩
    · exact (hcap lo xs hlo).1
    · exact (hcap lo xs hlo).2

/-- **C04, the leaked guard itself**: `iter_mut` with ANY program of calls and writes, guard leaked, from a well-formed
queue of either kind: no fault, every slot is handed out at most once and is a stored slot, the keys of all slots are
unchanged, the result is well-formed. -/
theorem C04_leaked_iterMut {q : Q P} (hq : QWF q) (prog : List (ICall × IMWrite P)) :
    ∃ outs m', step q (.iterMut true prog) = .ok ({ q with s := { q.s with map := m' } }, .outs outs) ∧
      QWF { q with s := { q.s with map := m' } } ∧
      (slots outs).Nodup ∧ (∀ i ∈ slots outs, i < q.s.size) ∧
      (∀ j : Nat, (m'[j]?).map (fun e : Item × P => e.1.key) = (q.s.map[j]?).map (fun e : Item × P => e.1.key)) := by
  have h : q.s.WF := hq
  obtain ⟨outs, m', hrun, _, _, hnd, hlt, hsz, hkeys, _, _⟩ := hist_iterMutRun_spec q.kind q.s.map prog
  refine ⟨outs, m', ?_, Store.wf_of_map_update h hsz (h.nodup.congr_keys hkeys), hnd,
    fun i hi => by have := hlt i hi; rw [h.map_size] at this; exact this, hkeys⟩
  simp only [step, hrun, bind, Except.bind, pure, Except.pure, if_true]

/-- **C04, `Debug`** (`{:?}` of both queue kinds goes through `impl Debug for Store`, which `unwrap`s a map lookup for
every heap position): after every history from `new()` — leaked guards included — formatting does not panic, and what it
lists is, in heap order, every slot exactly once together with the entry stored in that slot. -/
theorem C04_debug_after_history (ops : List (Op P)) (hl : ∀ op ∈ ops, op.Legal) (k : Kind) :
    ∃ q' outs l, run (Q.new k) ops = .ok (q', outs) ∧ q'.s.debugEntries = .ok l ∧
      l.map (·.1) = q'.s.heap.toList ∧ l.length = q'.s.size ∧
      ∀ x ∈ l, q'.s.map[x.1]? = some (x.2.1, x.2.2) := by
  obtain ⟨q', outs, h1, _, h3⟩ := C04_from_any_wf ops (hist_new_wf k) hl
  obtain ⟨l, h4, h5, h6, h7⟩ := debugEntries_wf q'.s h3
  exact ⟨q', outs, l, h1, h4, h5, h6, h7⟩

/-! ## Non-vacuity: histories that leak a guard and continue, on both kinds -/
section Examples

/-- the other queue handed to `append`: built by pushes and then disordered by a leaked guard (well-formed, index tables
not the identity, NOT ordered), twelve elements — longer than the receiver at that point, so the stores are swapped -/
private def exOther : Store Nat :=
  match run (Q.new .pq) [.extend 0 (Array.ofFn (n := 12) fun i => (⟨50 + i.val, 0⟩, (7 * i.val) % 12)),
      .iterMut true [(.next, ⟨some 100, none⟩), (.next, ⟨some 0, none⟩)]] with
  | .ok (q, _) => q.s
  | .error _ => Store.empty

example : exOther.WF ∧ ¬ MaxQ.Inv exOther ∧ exOther.size = 12 ∧ exOther.heap ≠ Array.range 12 := by decide +kernel

/-- forty pairs over two new keys, from an iterator that announces all forty: on the nine-element max-heap this is the
REBUILD strategy of `extend` (`better_to_rebuild 9 40`), on the six-element min-max heap the push strategy -/
private def ex40 : Array (Item × Nat) := Array.ofFn (n := 40) fun i => (⟨32 + i.val % 2, 0⟩, i.val)

/-- pushes, a leaked guard that turns the order upside down (every priority rewritten), then every kind of
order-dependent operation on the disordered queue, a second leak, and more operations -/
private def exOps : List (Op Nat) :=
  [.fromVec (Array.ofFn (n := 9) fun i => (⟨i.val, 0⟩, 3 * i.val)),
   .iterMut true ((List.range 9).map fun i => (ICall.next, (⟨some (40 - 4 * i), none⟩ : IMWrite Nat))),
   .popFront, .push ⟨20, 0⟩ 100, .push ⟨3, 1⟩ 0, .changePriority 5 1, .changePriorityBy 6 (· + 50), .remove 2,
   .popBack, .popFrontIf (fun it p => (true, it, p)), .popBackIf (fun it p => (false, it, p + 9)),
   .peekFrontMut (fun it => ⟨it.key, 5⟩), .peekBackMut (fun it => ⟨it.key, 6⟩), .pushIncrease ⟨7, 0⟩ 99,
   .pushDecrease ⟨8, 0⟩ 0, .getMut 7 (fun it => ⟨it.key, 1⟩), .extend 0 #[(⟨30, 0⟩, 1), (⟨31, 0⟩, 77)],
   .iterMut true [(.nextBack, ⟨some 1000, none⟩), (.next, ⟨some 0, some 4⟩), (.len, ⟨none, none⟩)],
   .popFront, .popBack, .extend 40 ex40, .capacityOp, .popFront, .append exOther, .drain, .popFront,
   .push ⟨1, 1⟩ 1]

example : ∀ op ∈ exOps, op.Legal := by
  intro op h
  simp only [exOps, List.mem_cons, List.not_mem_nil, or_false] at h
  rcases h with h | h | h | h | h | h | h | h | h | h | h | h | h | h | h | h | h | h | h | h | h | h | h | h | h | h | h <;>
    subst h <;> first | exact trivial | (intro _; rfl) | (intro _ _; rfl) | (show Store.WF _; decide +kernel) |
      (show _ ∧ _ < capLimit; decide +kernel)

example : Arith.betterToRebuild 9 40 = true ∧ Arith.betterToRebuild 6 40 = false ∧
    hist_okR (run (Q.new .pq) (exOps.take 20)) (fun r => r.1.s.size = 9) ∧
    hist_okR (run (Q.new .dpq) (exOps.take 20)) (fun r => r.1.s.size = 6) := by decide +kernel
-- both kinds: the history runs to completion; well-formed after the whole history …
example : hist_okR (run (Q.new .pq) exOps) (fun r => r.1.s.WF ∧ r.2.length = 27 ∧ r.1.s.size = 1) := by decide +kernel
example : hist_okR (run (Q.new .dpq) exOps) (fun r => r.1.s.WF ∧ r.2.length = 27 ∧ r.1.s.size = 1) := by decide +kernel
-- … and in the middle, where the queue is well-formed but NOT ordered (so the order-dependent operations that follow
-- really run on a disordered store)
example : hist_okR (run (Q.new .pq) (exOps.take 2)) (fun r => r.1.s.WF ∧ ¬ MaxQ.Inv r.1.s ∧ r.1.s.size = 9) := by
  decide +kernel
example : hist_okR (run (Q.new .pq) (exOps.take 18)) (fun r => r.1.s.WF ∧ ¬ MaxQ.Inv r.1.s) := by decide +kernel
-- the `append` of the (longer, disordered, non-identity) other queue: receiver and other are swapped, the union is
-- rebuilt, the other queue is reported empty
example : hist_okR (run (Q.new .pq) (exOps.take 23)) (fun r => r.1.s.size < 12) ∧
    hist_okR (run (Q.new .pq) (exOps.take 24)) (fun r => MaxQ.Inv r.1.s ∧ 12 ≤ r.1.s.size ∧
      r.1.s.map.extract 0 12 = exOther.map ∧ (r.2.getLast? matches some (.other 0 0 0 0))) := by decide +kernel
-- the one allowed panic: an iterator announcing 2^61 elements (it yields one) — `Fault.capacity`; the hint is not legal
example : ¬ (Op.extend (2 ^ 61) #[((⟨1, 0⟩ : Item), 1)] : Op Nat).Legal := fun h => absurd h.1 (by decide)
example : (match step (Q.new .pq) (.extend (2 ^ 61) #[((⟨1, 0⟩ : Item), 1)] : Op Nat) with
    | .error .capacity => true | _ => false) = true ∧
  (match run (Q.new .dpq) [.push ⟨1, 0⟩ 1, .fromIter (2 ^ 64 - 1) #[((⟨1, 0⟩ : Item), 1)], .popFront] with
    | .error .capacity => true | _ => false) = true := by decide +kernel
-- `Debug` on the disordered queue: nine entries, heap order
example : hist_okR (run (Q.new .dpq) (exOps.take 2))
    (fun r => (match r.1.s.debugEntries with | .ok l => l.length == 9 | .error _ => false) = true) := by decide +kernel
-- and the `unwrap` is real: a table naming a slot the map does not have makes `Debug` panic
example : (match ({ map := #[], heap := #[0], qp := #[0], size := 1 } : Store Nat).debugEntries with
    | .error (.unwrapNone 190) => true | _ => false) = true := by decide
-- the hypothesis `Legal` is needed: a `get_mut` write that changes the identity of an item breaks key uniqueness
example : ¬ (Op.getMut 1 (fun _ => ⟨2, 0⟩) : Op Nat).Legal := fun h => absurd (h ⟨1, 0⟩) (by decide)
example : hist_okR (run (Q.new .pq) [.push ⟨1, 0⟩ 1, .push ⟨2, 0⟩ 2, .getMut 1 (fun _ => ⟨2, 0⟩)])
    (fun r => ¬ r.1.s.WF) := by decide +kernel

end Examples


/-- **C04, the read-only unchecked sites** (`peek_min` 327, `peek_max` 328 — they are observations, not operations of the
history alphabet): after every history from `new()`, leaked guards included (so the queue may be disordered), both peeks
return normally; `peek_max` performs at most one comparison. -/
theorem C04_peeks_after_history (ops : List (Op P)) (hl : ∀ op ∈ ops, op.Legal) (k : Kind) :
    ∃ q' outs, run (Q.new k) ops = .ok (q', outs) ∧
      (∃ r, DQ.peekMin q'.s = .ok r) ∧ (∃ n r, DQ.peekMax q'.s = .ok (q'.s.tick n, r) ∧ n ≤ 1) := by
  obtain ⟨q', outs, h1, _, h3⟩ := C04_from_any_wf ops (hist_new_wf k) hl
  obtain ⟨r, hr, _⟩ := DQ.peekMin_safe (s := q'.s) h3
  obtain ⟨n, r', hr', hn, _⟩ := DQ.peekMax_safe (s := q'.s) h3
  exact ⟨q', outs, h1, ⟨r, hr⟩, ⟨n, r', hr', hn⟩⟩

end PQ

#print axioms PQ.C04_from_any_wf
#print axioms PQ.C04_nofault
#print axioms PQ.C04_nofault_ne
#print axioms PQ.C04_wf_reach
#print axioms PQ.C04_every_prefix
#print axioms PQ.C04_step
#print axioms PQ.C04_capacity_exactly
#print axioms PQ.C04_leaked_iterMut
#print axioms PQ.C04_debug_after_history
#print axioms PQ.C04_peeks_after_history
