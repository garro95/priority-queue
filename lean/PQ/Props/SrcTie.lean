import PQ.Lemmas.SrcEquiv
import PQ.Lemmas.SrcEquivStore
import PQ.Lemmas.SrcEquivDQ
import PQ.Lemmas.SrcEquivOps
import PQ.Lemmas.SrcEquivStore2
import PQ.Lemmas.SrcEquivPush
import PQ.Lemmas.SrcEquivOps2
import PQ.Lemmas.SrcEquivBulk
import PQ.Lemmas.SrcEquivBulkQ
import PQ.Lemmas.SrcEquivExtend
import PQ.Lemmas.SrcEquivPanic
import PQ.Lemmas.SrcEquivPanic2
import PQ.Lemmas.SrcEquivPanicPQ
import PQ.Lemmas.SrcEquivPanicDQ
import PQ.Lemmas.SrcEquivPanicBulk
import PQ.Lemmas.SrcEquivPanicExtend
import PQ.Lemmas.SrcEquivIter
import PQ.Lemmas.SrcEquivSmall
import PQ.Lemmas.SrcEquivCap
/-!
# Source-translated tie: audit file

The Rust functions below are tied to the hand-written model by a PROVED equivalence: `tools/gen_src.py` translates
their source text (from `/repo/src`, on every run) into terms of the IR of `PQ/Model/Src.lean`
(`PQ/Model/SrcGen.lean`, generated), and for every input and every sufficient fuel the interpreter `PQ.Src.run` on the
generated term returns exactly what the hand-written model function returns: the same store (including the
comparison counter `ticks`), the same result value, the same fault with the same site number.

| Rust function                                   | generated term        | model function   | theorem                   |
|--------------------------------------------------|-----------------------|------------------|---------------------------|
| `Store::swap`                                    | `SrcGen.storeSwap`    | `Store.swap`     | `SrcEquiv.storeSwap`      |
| `Store::get_priority_from_position`              | `SrcGen.storePrioAt`  | `Store.prioAt`   | `SrcEquiv.storePrioAt`    |
| `Store::swap_remove` (map part `swap_remove_index`: primitive) | `SrcGen.storeSwapRemove` | `Store.swapRemove` | `SrcEquiv.storeSwapRemove` |
| `Store::remove` (map part `swap_remove_full`: primitive)       | `SrcGen.storeRemove`     | `Store.remove`     | `SrcEquiv.storeRemove`     |
| `PriorityQueue::heapify`                         | `SrcGen.pqHeapify`    | `MaxQ.heapify`   | `SrcEquiv.pqHeapify`      |
| `PriorityQueue::bubble_up` (+ `Hole::{new,index_at,move_from}`, `Drop for Hole`, inlined) | `SrcGen.pqBubbleUp` | `MaxQ.bubbleUp` | `SrcEquiv.pqBubbleUp` |
| `PriorityQueue::up_heapify`                      | `SrcGen.pqUpHeapify`  | `MaxQ.upHeapify` | `SrcEquiv.pqUpHeapify`    |
| `PriorityQueue::heap_build`                      | `SrcGen.pqHeapBuild`  | `MaxQ.heapBuild` | `SrcEquiv.pqHeapBuild`    |
| `DoublePriorityQueue::heapify`                  | `SrcGen.dqHeapify`    | `DQ.heapify`     | `SrcEquiv.dqHeapify`      |
| `DoublePriorityQueue::heapify_min` (candidate selection = IR primitive `firstMinBy`, candidates translated) | `SrcGen.dqHeapifyMin` | `DQ.heapifyMinLoop s.size` | `SrcEquiv.dqHeapifyMin` (for `1 ≤ size`) |
| `DoublePriorityQueue::heapify_max` (`lastMaxBy`)  | `SrcGen.dqHeapifyMax` | `DQ.heapifyMaxLoop s.size` | `SrcEquiv.dqHeapifyMax` (for `1 ≤ size`) |
| `DoublePriorityQueue::bubble_up` (+ `Hole`)      | `SrcGen.dqBubbleUp`   | `DQ.bubbleUp`    | `SrcEquiv.dqBubbleUp`     |
| `DoublePriorityQueue::bubble_up_min`             | `SrcGen.dqBubbleUpMin`| `DQ.bubbleUpMinLoop (pos+1)` | `SrcEquiv.dqBubbleUpMin` |
| `DoublePriorityQueue::bubble_up_max`             | `SrcGen.dqBubbleUpMax`| `DQ.bubbleUpMaxLoop (pos+1)` | `SrcEquiv.dqBubbleUpMax` |
| `DoublePriorityQueue::up_heapify`                | `SrcGen.dqUpHeapify`  | `DQ.upHeapify`   | `SrcEquiv.dqUpHeapify`    |
| `DoublePriorityQueue::heap_build`                | `SrcGen.dqHeapBuild`  | `DQ.heapBuild`   | `SrcEquiv.dqHeapBuild`    |
| `DoublePriorityQueue::find_max`                  | `SrcGen.dqFindMax`    | `DQ.findMax`     | `SrcEquiv.dqFindMax`      |
| `DoublePriorityQueue::find_min`                  | `SrcGen.dqFindMin`    | `DQ.findMin`     | `SrcEquiv.dqFindMin`      |
| `PriorityQueue::pop`                             | `SrcGen.pqPop`        | `MaxQ.pop`       | `SrcEquiv.pqPop`          |
| `PriorityQueue::remove`                          | `SrcGen.pqRemove`     | `MaxQ.remove`    | `SrcEquiv.pqRemove`       |
| `DoublePriorityQueue::pop_min`                   | `SrcGen.dqPopMin`     | `DQ.popMin`      | `SrcEquiv.dqPopMin`       |
| `DoublePriorityQueue::pop_max`                   | `SrcGen.dqPopMax`     | `DQ.popMax`      | `SrcEquiv.dqPopMax`       |
| `DoublePriorityQueue::remove`                    | `SrcGen.dqRemove`     | `DQ.remove`      | `SrcEquiv.dqRemove`       |

| `Store::clear` (+ statement order pinned by `storeClear_order`) | `SrcGen.storeClear` | `Store.clear` | `SrcEquiv.storeClear` |
| `Store::drain` (value carries the tables/size at hand-out: empty) | `SrcGen.storeDrain` | `Store.drain` | `SrcEquiv.storeDrain` |
| `Store::retain_mut`                              | `SrcGen.storeRetainMut` | `Store.retainMut` | `SrcEquiv.storeRetainMut` |
| `Store::append`                                  | `SrcGen.storeAppend`  | `Store.append`   | `SrcEquiv.storeAppend`    |
| `Store::swap_remove_if`                          | `SrcGen.storeSwapRemoveIf` | `Store.swapRemoveIf` | `SrcEquiv.storeSwapRemoveIf` |
| `Store::change_priority`                         | `SrcGen.storeChangePriority` | `Store.changePriority` | `SrcEquiv.storeChangePriority` |
| `Store::change_priority_by`                      | `SrcGen.storeChangePriorityBy` | `Store.changePriorityBy` | `SrcEquiv.storeChangePriorityBy` |
| `PriorityQueue::push` / `DoublePriorityQueue::push` | `SrcGen.pqPush` / `dqPush` | `MaxQ.push` / `DQ.push` | `SrcEquiv.pqPush` / `dqPush` |
| `change_priority`, `change_priority_by` (both)   | `SrcGen.{pq,dq}ChangePriority{,By}` | `{MaxQ,DQ}.changePriority{,By}` | `SrcEquiv.{pq,dq}ChangePriority{,By}` |
| `push_increase`, `push_decrease` (both)          | `SrcGen.{pq,dq}Push{In,De}crease` | `{MaxQ,DQ}.push{In,De}crease` | `SrcEquiv.{pq,dq}Push{In,De}crease` |
| `pop_if`, `pop_min_if`, `pop_max_if`             | `SrcGen.pqPopIf`, `dqPopMinIf`, `dqPopMaxIf` | `MaxQ.popIf`, `DQ.popMinIf`, `DQ.popMaxIf` | `SrcEquiv.pqPopIf`, … |
| `peek`, `peek_min`, `peek_max`                   | `SrcGen.pqPeek`, `dqPeekMin`, `dqPeekMax` | `MaxQ.peek`, `DQ.peekMin`, `DQ.peekMax` | `SrcEquiv.pqPeek`, … |
| `peek_mut`, `peek_min_mut`, `peek_max_mut` (+ the caller's write `w`) | `SrcGen.pqPeekMut`, … | `MaxQ.peekMutWrite`, `DQ.peek{Min,Max}MutWrite` | `SrcEquiv.pqPeekMut`, … |

| `From<Vec<(I,P)>> for Store` (for `vec.len() < capLimit`) | `SrcGen.storeFromVec` | `Store.fromVec` | `SrcEquiv.storeFromVec` |
| `FromIterator for Store`                         | `SrcGen.storeFromIter` | `reserveC lo; Store.fromIter` | `SrcEquiv.storeFromIter` |
| `Extend for Store`                               | `SrcGen.storeExtend`  | `Store.extend`   | `SrcEquiv.storeExtend`    |
| serde `visit_seq` (capped pre-allocation = `Arith.deserPrealloc`) | `SrcGen.storeVisitSeq` | `Store.visitSeq` | `SrcEquiv.storeVisitSeq` |
| `Store::retain`                                  | `SrcGen.storeRetain`  | `Store.retainMut` (read-only predicate) | `SrcEquiv.storeRetain` |
| `retain_mut`, `retain`, `append` (both queues)   | `SrcGen.{pq,dq}{RetainMut,Retain,Append}` | `{MaxQ,DQ}.{retainMut,append}` | `SrcEquiv.{pq,dq}{RetainMut,Retain,Append}` |
| `From<Vec>`, `FromIterator`, `From<other queue>`, `Deserialize` (both queues) | `SrcGen.{pq,dq}From{Vec,Iter,Queue}`, `{pq,dq}Deserialize` | `{MaxQ,DQ}.{fromVec,fromIter,ofStore,deserialize}` | `SrcEquiv.{pq,dq}From…`, `{pq,dq}Deserialize` |

| `Extend` (both queues: `reserve`, `better_to_rebuild`, rebuild or push loop) | `SrcGen.{pq,dq}Extend` | `{MaxQ,DQ}.extend` | `SrcEquiv.{pq,dq}Extend` |

| `priority_queue::IterMut::{new, next}`, `Drop` (no `next_back` / `len` / `size_hint` in the source: checked by the translator) | `SrcGen.pqIterMut{New,Next,Drop}` | `PIterMut.new`, `PIterMut.step … .next`, `MaxQ.heapBuild` | `SrcEquiv.pqIterMut{New,Next,Drop}` |
| `double_priority_queue::IterMut::{new, next, next_back, len, size_hint}`, `Drop` | `SrcGen.dqIterMut{New,Next,NextBack,Len,SizeHint,Drop}` | `DIterMut.new`, `DIterMut.step`, `DQ.heapBuild` | `SrcEquiv.dqIterMut…` |
| `IntoSortedIter` of both queues (`next`; DPQ also `next_back`, `len`, `size_hint`) | `SrcGen.pqSortedNext`, `dqSorted{Next,NextBack,Len,SizeHint}` | `MaxQ.pop`, `DQ.popMin`, `DQ.popMax`, `Store.len` | `SrcEquiv.pqSortedNext`, `dqSorted…` |
| `core_iterators::{Drain, Iter, IntoIter}::{next, next_back, len, size_hint}` (pure delegation) | `SrcGen.{drain,iter,intoIter}{Next,NextBack,Len,SizeHint}` | `Cursor.step` | `SrcEquiv.{drain,iter,intoIter}…` |
| `into_vec` (store and both queues) | `SrcGen.storeIntoVec`, `{pq,dq}IntoVec` | the items of `map.toList` (`Obs.intoVec`) | `SrcEquiv.storeIntoVec`, `{pq,dq}IntoVec` |
| `into_sorted_vec`, `into_ascending_sorted_vec`, `into_descending_sorted_vec` | `SrcGen.pqIntoSortedVec`, `dqInto{Asc,Desc}Vec` | the items of `MaxQ.intoSortedVec`, `DQ.into{Ascending,Descending}SortedVec` | `SrcEquiv.pqIntoSortedVec`, `dqInto{Asc,Desc}Vec` |
| `PartialEq for Store` | `SrcGen.storeEq` | `Store.eqv` | `SrcEquiv.storeEq` |
| `Serialize for Store` | `SrcGen.storeSerialize` | `(Some(size), map)`: the input `Store.visitSeq` reads | `SrcEquiv.storeSerialize` |
| `Store::{reserve, reserve_exact, try_reserve, try_reserve_exact, shrink_to_fit, capacity}` | `SrcGen.cap…` (`PQ/Model/SrcCap.lean`) | `Cap.stepC` for every allocator | `SrcEquivCap.cap…_eq` |

Forwards and helpers CHECKED TOKEN-EXACTLY (no theorem: `tools/src_skeleton.json` freezes the body; a mismatch makes the
translator report EVERY function as unparsed, i.e. the whole tie stale):

| Rust function | frozen body | what relies on it |
|---|---|---|
| `Store::with_capacity_and_hasher` | `Self { map: IndexMap::with_capacity_and_hasher(capacity, hash_builder), heap: Vec::with_capacity(capacity), qp: Vec::with_capacity(capacity), size: 0 }` | `.storeNew` / `.storeNewCap` of the constructors (`Store.empty`) |
| `Store::{default, with_default_hasher, with_capacity_and_default_hasher, with_hasher}`, these four and `with_capacity_and_hasher` of both queues, `new`, `with_capacity` | one-line chains ending in `with_capacity_and_hasher` | the constructors, `visit_seq` |
| `Store::get_priority` = `self.map.get(item)`; `{PriorityQueue, DoublePriorityQueue}::get_priority` = `self.store.get_priority(item)` | | `prioMapOrGt/Lt` of `push_increase/decrease` |
| `Store::{get, get_mut, len, is_empty, iter}`, `IntoIterator for Store / &Store` | `self.map.get_full(item).map(…)`, `self.size`, `Iter { iter: self.map.iter() }`, … | `Store.get`, `.len`, the wrappers of `core_iterators.rs` |
| `Deserialize for Store::deserialize` = `deserializer.deserialize_seq(StoreVisitor { marker: PhantomData })`, `visit_unit` = `Ok(Store::with_default_hasher())` | | `storeVisitSeq` being what `Store::deserialize` runs |
| both queues: `clear`, `drain`, `iter`, `iter_mut` (`IterMut::new(self)`), `into_sorted_iter` (`IntoSortedIter { pq: self }`), `into_iter` ×3, `eq` (`self.store == other.store`), `Serialize` (`self.store.serialize(serializer)`), `get`, `get_mut`, `len`, `is_empty` | `self.store.<same name>(…)` | the model's queue-level operations being the store's |
| both queues: `reserve`, `reserve_exact`, `try_reserve`, `try_reserve_exact`, `shrink_to_fit`, `capacity` | `self.store.<same name>(additional)` | `.reserve` of `extend`; `Cap.stepC` |
| `From<StdTryReserveError>` / `From<IndexMapTryReserveError> for TryReserveError` (`src/lib.rs`) | `Self { kind: Std(source) }` / `Self { kind: IndexMap(source) }` | the `?` of the `try_reserve*` forwards |

The same file pins, for every file under `src/`, the ordered list of items (attributes, `use`, `mod`, `struct`, `trait`,
`impl` headers token-exactly, `fn` signatures), the set of files, `Cargo.toml`'s source-selecting parts and the absence of
`build.rs`: see `PQ/Model/SRC_README.md`, "What the translator checks".

Under panics (`PQ/Model/SrcF.lean`: the `fuse`-th comparison panics, frames unwind, the translated `Drop for Hole` runs):

| Rust function | fused twin of `PQ/Model/Crash.lean` | theorem |
|---|---|---|
| `PriorityQueue::bubble_up` | `Crash.MaxQ.bubbleUpF` | `SrcEquivF.pqBubbleUpF` |
| `PriorityQueue::push` of a new item (`size += 1` BEFORE the sift-up) | `Crash.MaxQ.pushF` | `SrcEquivF.pqPushF_new` |
| `DoublePriorityQueue::bubble_up_min` / `bubble_up_max` (seen from the owner of the hole) | `Crash.DQ.bubbleUpMinLoopF` / `bubbleUpMaxLoopF` | `SrcEquivF.call_dqBubbleUpMinF` / `call_dqBubbleUpMaxF` |
| `DoublePriorityQueue::bubble_up` | `Crash.DQ.bubbleUpF` | `SrcEquivF.dqBubbleUpF` |
| `DoublePriorityQueue::push` of a new item | `Crash.DQ.pushF` | `SrcEquivF.dqPushF_new` |
| `PriorityQueue::heapify` (swap-based: the store as it is) | `Crash.MaxQ.heapifyF` | `SrcEquivF.pqHeapifyF` |
| `PriorityQueue::up_heapify`, `heap_build` | `Crash.MaxQ.upHeapifyF`, `heapBuildF` | `SrcEquivF.pqUpHeapifyF`, `pqHeapBuildF` |
| `PriorityQueue::{pop, pop_if, remove, change_priority, change_priority_by}` | `Crash.MaxQ.{popF, popIfF, removeF, changePriorityF, changePriorityByF}` | `SrcEquivF.pq{Pop,PopIf,Remove,ChangePriority,ChangePriorityBy}F` |
| `PriorityQueue::push` (new or present item), `push_increase`, `push_decrease` | `Crash.MaxQ.{pushF, pushIncreaseF, pushDecreaseF}` | `SrcEquivF.pqPushF`, `pqPushIncreaseF`, `pqPushDecreaseF` |
| `DoublePriorityQueue::heapify_min`, `heapify_max`, `heapify` | `Crash.DQ.heapifyMinLoopF`, `heapifyMaxLoopF`, `heapifyF` | `SrcEquivF.dqHeapifyMinF`, `dqHeapifyMaxF`, `dqHeapifyF` |
| `DoublePriorityQueue::up_heapify`, `heap_build`, `find_max` | `Crash.DQ.upHeapifyF`, `heapBuildF`, `findMaxF` | `SrcEquivF.dqUpHeapifyF`, `dqHeapBuildF`, `dqFindMaxF` |
| `DoublePriorityQueue::{peek_max, peek_max_mut (+ the caller's write), pop_min, pop_max, pop_min_if, pop_max_if}` | `Crash.DQ.{peekMaxF, peekMaxMutWriteF, popMinF, popMaxF, popMinIfF, popMaxIfF}` | `SrcEquivF.dq{PeekMax,PeekMaxMut,PopMin,PopMax,PopMinIf,PopMaxIf}F` |
| `DoublePriorityQueue::{remove, change_priority, change_priority_by, push, push_increase, push_decrease}` | `Crash.DQ.{removeF, changePriorityF, changePriorityByF, pushF, pushIncreaseF, pushDecreaseF}` | `SrcEquivF.dq{Remove,ChangePriority,ChangePriorityBy,Push,PushIncrease,PushDecrease}F` |
| `retain_mut`, `retain`, `append`, `From<other queue>` (both queues) | `Crash.{MaxQ,DQ}.{retainMutF, appendF, ofStoreF}` | `SrcEquivF.{pq,dq}{RetainMut,Retain,Append,FromQueue}F` |
| `From<Vec>`, `FromIterator`, `Deserialize` (both queues; the queue under construction is dropped: `asNew`) | `Crash.{MaxQ,DQ}.{fromVecF, fromIterF, deserializeF}` | `SrcEquivF.{pq,dq}{FromVec,FromIter,Deserialize}F` |
| `Extend` (both queues) | `Crash.{MaxQ,DQ}.extendF` | `SrcEquivF.{pq,dq}ExtendF` |
| `Drop for IterMut` (both queues) | `Crash.{MaxQ,DQ}.heapBuildF` | `SrcEquivF.{pq,dq}IterMutDropF` |
| `Store::clear` when dropping an element panics: tables empty, `size = 0` | (no twin: stated directly) | `SrcEquivF.storeClearF` |
| every comparison-free function (the `Store` layer, `find_min`, `peek`, `peek_mut`): the fused interpreter IS the plain one | (the plain model) | `SrcEquivF.execF_noPanic`, `callF_pf` |

NOT tied this way: see `PQ/Model/SRC_README.md`.

Trusted: the Python translator and the interpreter's reading of the primitives (see `PQ/Model/SRC_README.md`).
-/
namespace PQ.SrcTie
open PQ PQ.Src

/-! Non-vacuity: the interpreter really runs the generated terms (kernel evaluation on a concrete store), and the
fuel bounds of the theorems are met by concrete instances. -/

/-- a well-formed three-element store whose root violates the heap order -/
def s3 : Store Nat :=
  { map := #[(⟨10, 0⟩, 1), (⟨11, 0⟩, 5), (⟨12, 0⟩, 3)], heap := #[0, 1, 2], qp := #[0, 1, 2], size := 3 }

/-- what the examples below compare of an interpreter result: the two index tables, the tick counter, the returned position (if any) -/
def obs (r : R (Store Nat × Val Nat)) : Option (Array Nat × Array Nat × Nat × Option Nat) :=
  match r with
  | .ok (s', .nat p) => some (s'.heap, s'.qp, s'.ticks, some p)
  | .ok (s', _) => some (s'.heap, s'.qp, s'.ticks, none)
  | .error _ => none

def obsM (r : R (Store Nat)) : Option (Array Nat × Array Nat × Nat × Option Nat) :=
  match r with
  | .ok s' => some (s'.heap, s'.qp, s'.ticks, none)
  | .error _ => none

def fault {α : Type} (r : R α) : Option Fault :=
  match r with
  | .ok _ => none
  | .error e => some e

example : obs (Src.run SrcGen.prog 5 .pqHeapify s3 [0]) = some (#[1, 0, 2], #[1, 0, 2], 2, none) := by decide
example : obsM (MaxQ.heapify s3 0) = some (#[1, 0, 2], #[1, 0, 2], 2, none) := by decide

/-- sift-up of the last element (priority 3 over the root's 1) -/
example : obs (Src.run SrcGen.prog 4 .pqBubbleUp s3 [2, 2]) = some (#[2, 1, 0], #[2, 1, 0], 1, some 0) := by decide

/-- an out-of-range position faults at the same site in both -/
example : fault (Src.run SrcGen.prog 9 .pqUpHeapify s3 [7]) = some (.oob 207) ∧
    fault (MaxQ.upHeapify s3 7) = some (.oob 207) := by decide

example : obs (Src.run SrcGen.prog 6 .pqHeapBuild s3 []) = some (#[1, 0, 2], #[1, 0, 2], 2, none) := by decide

/-- `swap_remove(0)` on the three-element store: same tables in the interpreter and the model -/
example : obs (Src.run SrcGen.prog 1 .storeSwapRemove s3 [0]) = some (#[0, 1], #[0, 1], 0, none) ∧
    obsM ((s3.swapRemove 0).map (·.1)) = some (#[0, 1], #[0, 1], 0, none) := by decide

/-- the min-max heap: `heap_build` on the three-element store (root 1 is already the minimum) and `find_max` -/
example : obs (Src.run SrcGen.prog 7 .dqHeapBuild s3 []) = obsM (DQ.heapBuild s3) ∧
    (obsM (DQ.heapBuild s3)).isSome := by decide
example : (match Src.run SrcGen.prog 2 .dqFindMax s3 [] with
    | .ok (s', .optNat r) => (s'.ticks, r)
    | _ => (99, none)) = (1, some 1) := by decide

/-- `pop` through the interpreter and through the model: same tables, same tick count -/
example : obs (Src.run SrcGen.prog 6 .pqPop s3 []) = obsM ((MaxQ.pop s3).map (·.1)) ∧
    (obsM ((MaxQ.pop s3).map (·.1))).isSome := by decide
example : obs (Src.run SrcGen.prog 7 .dqPopMax s3 []) = obsM ((DQ.popMax s3).map (·.1)) ∧
    (obsM ((DQ.popMax s3).map (·.1))).isSome := by decide

/-- too little fuel is reported as such, never as a wrong result -/
example : fault (Src.run SrcGen.prog 1 .pqHeapify s3 [0]) = some .fuel := by decide

/-! Under panics: the fused interpreter really crashes where the fuse says, and leaves what the twin leaves. -/

/-- observation of a fused run: `(crashed?, heap, qp, ticks)` -/
def obsF {α : Type} (proj : α → Store Nat) (r : Crash.CR Nat α) : Option (Bool × Array Nat × Array Nat × Nat) :=
  match r with
  | .ok a => some (false, (proj a).heap, (proj a).qp, (proj a).ticks)
  | .error (.crashed s') => some (true, s'.heap, s'.qp, s'.ticks)
  | .error _ => none

/-- `heapify(0)` on the three-element store makes two comparisons; the second one panicking leaves the store untouched
(nothing was swapped yet), with the first comparison counted -/
example : obsF (·.1) (SrcF.runF SrcGen.prog SrcGen.unwind 2 false 5 .pqHeapify s3 [0]) = some (true, #[0, 1, 2], #[0, 1, 2], 1) ∧
    obsF id (Crash.MaxQ.heapifyF 2 s3 0) = some (true, #[0, 1, 2], #[0, 1, 2], 1) := by decide
/-- with the fuse off the fused interpreter gives the plain result -/
example : obsF (·.1) (SrcF.runF SrcGen.prog SrcGen.unwind 0 false 5 .pqHeapify s3 [0]) = some (false, #[1, 0, 2], #[1, 0, 2], 2) := by
  decide
/-- `pop` whose sift-down panics at its first comparison: the removal is complete (two elements left), the entry is lost -/
example : obsF (·.1) (SrcF.runF SrcGen.prog SrcGen.unwind 1 false 6 .pqPop s3 []) = obsF (·.1) (Crash.MaxQ.popF 1 s3) ∧
    (obsF (·.1) (Crash.MaxQ.popF 1 s3)).map (·.1) = some true := by decide

/-! Iterators: the cursor code runs on concrete cursors. -/
example : (match Src.run SrcGen.prog 1 .dqIterMutNextBack s3 [1, 3] with
    | .ok (_, .cursor fs o) => some (fs, o)
    | _ => none) = some ([1, 2], some (.slot (some 2))) := by decide
example : (match Src.run SrcGen.prog 1 .pqIterMutNext s3 [3] with
    | .ok (_, .cursor fs o) => some (fs, o)
    | _ => none) = some ([4], some (.slot none)) := by decide
example : fault (Src.run SrcGen.prog 1 .dqIterMutLen s3 [3, 1]) = some (.arith 401) := by decide

end PQ.SrcTie

#print axioms PQ.SrcEquiv.storeSwap
#print axioms PQ.SrcEquiv.storePrioAt
#print axioms PQ.SrcEquiv.storeSwapRemove
#print axioms PQ.SrcEquiv.storeRemove
#print axioms PQ.SrcEquiv.pqHeapify
#print axioms PQ.SrcEquiv.pqBubbleUp
#print axioms PQ.SrcEquiv.pqUpHeapify
#print axioms PQ.SrcEquiv.pqHeapBuild
#print axioms PQ.SrcEquiv.dqHeapify
#print axioms PQ.SrcEquiv.dqHeapifyMin
#print axioms PQ.SrcEquiv.dqHeapifyMax
#print axioms PQ.SrcEquiv.dqBubbleUp
#print axioms PQ.SrcEquiv.dqBubbleUpMin
#print axioms PQ.SrcEquiv.dqBubbleUpMax
#print axioms PQ.SrcEquiv.dqUpHeapify
#print axioms PQ.SrcEquiv.dqHeapBuild
#print axioms PQ.SrcEquiv.dqFindMax
#print axioms PQ.SrcEquiv.dqFindMin
#print axioms PQ.SrcEquiv.pqPop
#print axioms PQ.SrcEquiv.pqRemove
#print axioms PQ.SrcEquiv.dqPopMin
#print axioms PQ.SrcEquiv.dqPopMax
#print axioms PQ.SrcEquiv.dqRemove
#print axioms PQ.SrcEquiv.storeClear
#print axioms PQ.SrcEquiv.storeClear_order
#print axioms PQ.SrcEquiv.storeDrain
#print axioms PQ.SrcEquiv.storeRetainMut
#print axioms PQ.SrcEquiv.storeAppend
#print axioms PQ.SrcEquiv.storeSwapRemoveIf
#print axioms PQ.SrcEquiv.storeChangePriority
#print axioms PQ.SrcEquiv.storeChangePriorityBy
#print axioms PQ.SrcEquiv.pqPush
#print axioms PQ.SrcEquiv.dqPush
#print axioms PQ.SrcEquiv.pqChangePriority
#print axioms PQ.SrcEquiv.dqChangePriority
#print axioms PQ.SrcEquiv.pqChangePriorityBy
#print axioms PQ.SrcEquiv.dqChangePriorityBy
#print axioms PQ.SrcEquiv.pqPushIncrease
#print axioms PQ.SrcEquiv.pqPushDecrease
#print axioms PQ.SrcEquiv.dqPushIncrease
#print axioms PQ.SrcEquiv.dqPushDecrease
#print axioms PQ.SrcEquiv.pqPopIf
#print axioms PQ.SrcEquiv.dqPopMinIf
#print axioms PQ.SrcEquiv.dqPopMaxIf
#print axioms PQ.SrcEquiv.pqPeek
#print axioms PQ.SrcEquiv.dqPeekMin
#print axioms PQ.SrcEquiv.dqPeekMax
#print axioms PQ.SrcEquiv.pqPeekMut
#print axioms PQ.SrcEquiv.dqPeekMinMut
#print axioms PQ.SrcEquiv.dqPeekMaxMut
#print axioms PQ.SrcEquiv.storeFromVec
#print axioms PQ.SrcEquiv.storeFromIter
#print axioms PQ.SrcEquiv.storeExtend
#print axioms PQ.SrcEquiv.storeVisitSeq
#print axioms PQ.SrcEquiv.storeRetain
#print axioms PQ.SrcEquiv.pqRetainMut
#print axioms PQ.SrcEquiv.pqRetain
#print axioms PQ.SrcEquiv.pqAppend
#print axioms PQ.SrcEquiv.pqFromVec
#print axioms PQ.SrcEquiv.pqFromIter
#print axioms PQ.SrcEquiv.pqFromQueue
#print axioms PQ.SrcEquiv.pqDeserialize
#print axioms PQ.SrcEquiv.dqRetainMut
#print axioms PQ.SrcEquiv.dqRetain
#print axioms PQ.SrcEquiv.dqAppend
#print axioms PQ.SrcEquiv.dqFromVec
#print axioms PQ.SrcEquiv.dqFromIter
#print axioms PQ.SrcEquiv.dqFromQueue
#print axioms PQ.SrcEquiv.dqDeserialize
#print axioms PQ.SrcEquiv.pqExtend
#print axioms PQ.SrcEquiv.dqExtend
#print axioms PQ.SrcEquivF.pqBubbleUpF
#print axioms PQ.SrcEquivF.pqPushF_new
#print axioms PQ.SrcEquivF.storeClearF
#print axioms PQ.SrcEquivF.call_dqBubbleUpMinF
#print axioms PQ.SrcEquivF.call_dqBubbleUpMaxF
#print axioms PQ.SrcEquivF.dqBubbleUpF
#print axioms PQ.SrcEquivF.dqPushF_new
#print axioms PQ.SrcEquivF.pqHeapifyF
#print axioms PQ.SrcEquivF.pqUpHeapifyF
#print axioms PQ.SrcEquivF.pqHeapBuildF
#print axioms PQ.SrcEquivF.pqPopF
#print axioms PQ.SrcEquivF.pqPopIfF
#print axioms PQ.SrcEquivF.pqRemoveF
#print axioms PQ.SrcEquivF.pqChangePriorityF
#print axioms PQ.SrcEquivF.pqChangePriorityByF
#print axioms PQ.SrcEquivF.pqPushF
#print axioms PQ.SrcEquivF.pqPushIncreaseF
#print axioms PQ.SrcEquivF.pqPushDecreaseF
#print axioms PQ.SrcEquivF.dqHeapifyMinF
#print axioms PQ.SrcEquivF.dqHeapifyMaxF
#print axioms PQ.SrcEquivF.dqHeapifyF
#print axioms PQ.SrcEquivF.dqUpHeapifyF
#print axioms PQ.SrcEquivF.dqHeapBuildF
#print axioms PQ.SrcEquivF.dqFindMaxF
#print axioms PQ.SrcEquivF.dqPeekMaxF
#print axioms PQ.SrcEquivF.dqPeekMaxMutF
#print axioms PQ.SrcEquivF.dqPopMinF
#print axioms PQ.SrcEquivF.dqPopMaxF
#print axioms PQ.SrcEquivF.dqRemoveF
#print axioms PQ.SrcEquivF.dqChangePriorityF
#print axioms PQ.SrcEquivF.dqChangePriorityByF
#print axioms PQ.SrcEquivF.dqPushF
#print axioms PQ.SrcEquivF.dqPushIncreaseF
#print axioms PQ.SrcEquivF.dqPushDecreaseF
#print axioms PQ.SrcEquivF.dqPopMinIfF
#print axioms PQ.SrcEquivF.dqPopMaxIfF
#print axioms PQ.SrcEquivF.pqRetainMutF
#print axioms PQ.SrcEquivF.pqRetainF
#print axioms PQ.SrcEquivF.pqAppendF
#print axioms PQ.SrcEquivF.pqFromVecF
#print axioms PQ.SrcEquivF.pqFromIterF
#print axioms PQ.SrcEquivF.pqFromQueueF
#print axioms PQ.SrcEquivF.pqDeserializeF
#print axioms PQ.SrcEquivF.dqRetainMutF
#print axioms PQ.SrcEquivF.dqRetainF
#print axioms PQ.SrcEquivF.dqAppendF
#print axioms PQ.SrcEquivF.dqFromVecF
#print axioms PQ.SrcEquivF.dqFromIterF
#print axioms PQ.SrcEquivF.dqFromQueueF
#print axioms PQ.SrcEquivF.dqDeserializeF
#print axioms PQ.SrcEquivF.pqExtendF
#print axioms PQ.SrcEquivF.dqExtendF
#print axioms PQ.SrcEquivF.execF_noPanic
#print axioms PQ.SrcEquivF.callF_pf
#print axioms PQ.SrcEquivF.pfSet_ok
#print axioms PQ.SrcEquivF.pqIterMutDropF
#print axioms PQ.SrcEquivF.dqIterMutDropF
#print axioms PQ.SrcEquiv.pqIterMutNew
#print axioms PQ.SrcEquiv.pqIterMutNext
#print axioms PQ.SrcEquiv.pqIterMutDrop
#print axioms PQ.SrcEquiv.dqIterMutNew
#print axioms PQ.SrcEquiv.dqIterMutNext
#print axioms PQ.SrcEquiv.dqIterMutNextBack
#print axioms PQ.SrcEquiv.dqIterMutLen
#print axioms PQ.SrcEquiv.dqIterMutSizeHint
#print axioms PQ.SrcEquiv.dqIterMutDrop
#print axioms PQ.SrcEquiv.pqSortedNext
#print axioms PQ.SrcEquiv.dqSortedNext
#print axioms PQ.SrcEquiv.dqSortedNextBack
#print axioms PQ.SrcEquiv.dqSortedLen
#print axioms PQ.SrcEquiv.dqSortedSizeHint
#print axioms PQ.SrcEquiv.drainNext
#print axioms PQ.SrcEquiv.drainNextBack
#print axioms PQ.SrcEquiv.drainLen
#print axioms PQ.SrcEquiv.drainSizeHint
#print axioms PQ.SrcEquiv.iterNext
#print axioms PQ.SrcEquiv.iterNextBack
#print axioms PQ.SrcEquiv.iterLen
#print axioms PQ.SrcEquiv.iterSizeHint
#print axioms PQ.SrcEquiv.intoIterNext
#print axioms PQ.SrcEquiv.intoIterNextBack
#print axioms PQ.SrcEquiv.intoIterLen
#print axioms PQ.SrcEquiv.intoIterSizeHint
#print axioms PQ.SrcEquiv.storeIntoVec
#print axioms PQ.SrcEquiv.pqIntoVec
#print axioms PQ.SrcEquiv.dqIntoVec
#print axioms PQ.SrcEquiv.pqIntoSortedVec
#print axioms PQ.SrcEquiv.dqIntoAscVec
#print axioms PQ.SrcEquiv.dqIntoDescVec
#print axioms PQ.SrcEquiv.storeEq
#print axioms PQ.SrcEquiv.storeSerialize
#print axioms PQ.SrcEquivCap.capReserve_eq
#print axioms PQ.SrcEquivCap.capReserveExact_eq
#print axioms PQ.SrcEquivCap.capTryReserve_eq
#print axioms PQ.SrcEquivCap.capTryReserveExact_eq
#print axioms PQ.SrcEquivCap.capShrinkToFit_eq
#print axioms PQ.SrcEquivCap.capCapacity_eq
