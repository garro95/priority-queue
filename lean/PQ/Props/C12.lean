import PQ.Lemmas.ContentsMore
/-!
# C12 — Priority updates never replace or disturb the stored item value

"push on an already present item, push_increase, push_decrease, change_priority and change_priority_by use the given key
only for lookup: the item value stored in the queue (including any part of it that does not take part in Eq/Hash) is the
one first inserted, and changes made to such parts through get_mut, peek_mut, peek_min_mut, peek_max_mut or iter_mut
persist across all later lookups, priority updates, reorderings and removals of other elements; lookups through a
borrowed form of the key address the same element as the owned key."

In the model `Item = {key, payload}`: `key` is what `Eq`/`Hash` look at, `payload` is the part outside `Eq`/`Hash`.
`storedItem q k` is the item value (key AND payload) stored for key `k`.  Both queue kinds, `WF` only (`q.s.WF` is
what `QWF q` of `History.lean` unfolds to).

* `C12_update_keeps_item` — the five priority updates addressed to a present key keep the stored item, whatever
  payload the lookup key carried.
* `C12_payload_persists` — one step: EVERY legal operation `op` with `cont_preservesItem k op` that leaves `k` in
  the queue keeps `storedItem · k`.  `cont_preservesItem k op` (file `Contents.lean`) holds unconditionally for `push`,
  `push_increase`, `push_decrease`, `change_priority`, `change_priority_by`, `remove`, `pop*`, `extend`,
  `From<other kind>`, the capacity operations, `clear`, `drain`; for `get_mut(k', w)` it asks `k' = k → w` is the identity on items with
  key `k`; for `peek_*_mut(w)`, `pop_*_if(f)`, `retain_mut(f)` that the closure returns items with key `k` as they are; for
  `iter_mut` that the program writes no payload; for `append(other)` that `other` (any well-formed queue of the same kind) does not hold `k` (see
  `C12_append_*`: the crate swaps the two queues when `other` is larger, and then `other`'s item value wins); it is
  false for `From<Vec>`, `FromIterator`, `Deserialize`, which replace the whole queue.
* `C12_payload_persists_history` — histories, by induction: as long as `k` stays in the queue, its stored item is the
  one at the start.
* `C12_getMut_read_back`, `C12_peekMut_written`, `C12_iterMut_written` — what was written through `get_mut`,
  `peek_mut`/`peek_min_mut`/`peek_max_mut`, `iter_mut` IS the stored item afterwards, and (with the history theorem) is
  what `get` / `get_mut` read back after any such history.

The borrowed-key clause cannot be expressed in the model (keys are `Nat`; there is no owned/borrowed distinction): it is
carried by the correspondence check, whose items are `String`-named and are looked up through `&str` in `get`,
`get_priority`, `get_mut`, `change_priority`, `change_priority_by`, `remove` and compared with the model's answers.
-/
set_option linter.unusedSectionVars false
namespace PQ
open Store
variable {P : Type} [LT P] [DecidableLT P] [LE P] [Std.IsLinearPreorder P] [Std.LawfulOrderLT P]

/-- **Priority updates use the given item only for lookup**: `push` (present item), `push_increase`, `push_decrease`,
`change_priority`, `change_priority_by` addressed to a stored key keep the stored item value — `it0`, payload
included — whatever payload the item passed in carried; only the priority may differ afterwards -/
theorem C12_update_keeps_item {q q' : Q P} {op : Op P} {o : Out P} (hq : q.s.WF) (hs : step q op = .ok (q', o))
    {k : Nat} (hu : cont_isUpdateOf k op) {it0 : Item} {p0 : P} (ha : q.s.abs k = some (it0, p0)) :
    ∃ p', q'.s.abs k = some (it0, p') := by
  have spec : ∀ {op : Op P}, step q op = .ok (q', o) → op.Legal → specStep q.kind q.s.abs op o q'.s.abs :=
    fun hs hl => (cont_step_refines hq hl hs).2.2
  have same : q'.s.abs = q.s.abs → ∃ p', q'.s.abs k = some (it0, p') := fun h => ⟨p0, by rw [h]; exact ha⟩
  cases op with
  | push it p => cases hu; rw [(spec hs trivial).2]; exact cont_absPush_item ha
  | pushIncrease it p =>
    cases hu
    have hspec := spec hs trivial
    rcases cont_pushDir_cases (c := (· < p)) hspec.1 hspec.2.1 hspec.2.2 with h | h
    · rw [h]; exact cont_absPush_item ha
    · exact same h
  | pushDecrease it p =>
    cases hu
    have hspec := spec hs trivial
    rcases cont_pushDir_cases (c := (p < ·)) hspec.1 hspec.2.1 hspec.2.2 with h | h
    · rw [h]; exact cont_absPush_item ha
    · exact same h
  | changePriority k' p => cases hu; rw [(spec hs trivial).2]; exact cont_keyed_item ha (fun _ => rfl)
  | changePriorityBy k' g => cases hu; rw [(spec hs trivial).2]; exact cont_keyed_item ha (fun _ => rfl)
  | _ => exact absurd hu id

/-- **The stored item survives every operation that neither rewrites it nor removes it** (one step, all 27 operations;
see the header for what `cont_preservesItem k op` asks of each) -/
theorem C12_payload_persists {q q' : Q P} {op : Op P} {o : Out P} {k : Nat} (hq : q.s.WF) (hl : op.Legal)
    (hp : cont_preservesItem k op) (hs : step q op = .ok (q', o)) (hk : (q'.s.abs k).isSome = true) {it0 : Item}
    (h0 : storedItem q k = some it0) : storedItem q' k = some it0 :=
  cont_step_item_persists hq hl hp hs hk h0

/-- **… and every history of such operations**, as long as `k` stays in the queue (`cont_presentThroughout`: `k` is
stored after every prefix of the history): lookups, priority updates, reorderings and removals of other elements, bulk
operations, conversions between the kinds -/
theorem C12_payload_persists_history {q q' : Q P} {ops : List (Op P)} {outs : List (Out P)} {k : Nat} {it0 : Item}
    (hq : q.s.WF) (hl : ∀ op ∈ ops, op.Legal ∧ cont_preservesItem k op) (hpres : cont_presentThroughout k q ops)
    (h0 : storedItem q k = some it0) (hr : run q ops = .ok (q', outs)) : storedItem q' k = some it0 :=
  cont_run_item_persists ops hq hl hpres h0 hr

/-- **What `get_mut` wrote is read back**: `get_mut(k)` hands out the stored pair; after the caller's write `w` the
stored item is `w it0`; after any later history that neither rewrites nor removes `k`, `get`, `get_mut` and
`storedItem` still report `w it0` -/
theorem C12_getMut_read_back {q q1 q2 : Q P} {k : Nat} {w : Item → Item} {it0 : Item} {p0 : P} {o : Out P}
    {ops : List (Op P)} {outs : List (Out P)} (hq : q.s.WF) (hw : ∀ it, (w it).key = it.key)
    (ha : q.s.abs k = some (it0, p0)) (h1 : step q (.getMut k w) = .ok (q1, o))
    (hl : ∀ op ∈ ops, op.Legal ∧ cont_preservesItem k op) (hpres : cont_presentThroughout k q1 ops)
    (h2 : run q1 ops = .ok (q2, outs)) :
    o = .entry (some (it0, p0)) ∧ q1.s.abs k = some (w it0, p0) ∧ storedItem q2 k = some (w it0) ∧
      ∃ p', q2.s.get k = some (w it0, p') ∧ (q2.s.getMutWrite k id).2 = some (w it0, p') := by
  obtain ⟨hq1, _, hspec⟩ := cont_step_refines (op := .getMut k w) hq hw h1
  obtain ⟨ho, ha1⟩ := hspec
  rw [ha] at ho ha1
  have ha1' : q1.s.abs k = some (w it0, p0) := by rw [ha1]; exact cont_absSet_self
  have h3 := C12_payload_persists_history hq1 hl hpres (cont_storedItem_eq_some.2 ⟨p0, ha1'⟩) h2
  obtain ⟨p', hp'⟩ := cont_storedItem_eq_some.1 h3
  refine ⟨ho, ha1', h3, p', by rw [get_eq_lookup]; exact hp', ?_⟩
  have hq2 := (cont_run_refines hq1 (fun op hop => (hl op hop).1) h2).1
  obtain ⟨s', pos, e1, _⟩ := getMutWrite_spec_some hq2 hp' id rfl
  rw [e1]

/-- **What `peek_mut` / `peek_min_mut` / `peek_max_mut` wrote is the stored item**: the call reports a stored pair `e`
and afterwards the item stored for `e`'s key is `w e.1` (same priority); `C12_payload_persists_history` then carries it
through any later history -/
theorem C12_peekMut_written {q q1 : Q P} {op : Op P} {w : Item → Item} {e : Item × P} (hq : q.s.WF)
    (hw : ∀ it, (w it).key = it.key) (hop : op = .peekFrontMut w ∨ op = .peekBackMut w)
    (h1 : step q op = .ok (q1, .entry (some e))) :
    q.s.abs e.1.key = some e ∧ q1.s.abs e.1.key = some (w e.1, e.2) ∧ storedItem q1 e.1.key = some (w e.1) ∧
      ∀ k, k ≠ e.1.key → q1.s.abs k = q.s.abs k := by
  have key : specPeekMut w q.s.abs (.entry (some e)) q1.s.abs := by
    rcases hop with rfl | rfl
    · exact (cont_step_refines (op := .peekFrontMut w) hq hw h1).2.2
    · obtain ⟨kind, s⟩ := q
      cases kind with
      | pq => cases h1
      | dpq => exact (cont_step_refines (op := .peekBackMut w) hq hw h1).2.2
  rcases key with ⟨_, hc, _⟩ | ⟨e', he', hc, ha'⟩
  · cases hc
  · cases hc
    have h2 : q1.s.abs e.1.key = some (w e.1, e.2) := by rw [ha']; exact cont_absSet_self
    exact ⟨he', h2, cont_storedItem_eq_some.2 ⟨e.2, h2⟩, fun k hk => by rw [ha']; exact cont_absSet_ne hk⟩

/-- **What `iter_mut` wrote is the stored entry**: for the key `k` stored in slot `j`, the entry afterwards is the old
one rewritten by exactly the writes made through the references yielded for slot `j`, in order
(`cont_writesAt`); if slot `j` was yielded once, by call `t`, it is the `t`-th write applied to the old entry (a
payload write sets the payload, a priority write the priority) -/
theorem C12_iterMut_written {kind : Kind} {s s' : Store P} {leak : Bool} {prog : List (ICall × IMWrite P)}
    {outs : List IOut} (h : s.WF) (hs : step ⟨kind, s⟩ (.iterMut leak prog) = .ok (⟨kind, s'⟩, .outs outs))
    {k j : Nat} (hj : IMap.find? s.map k = some j) :
    s'.abs k = (s.abs k).map (cont_writesAt j outs prog) ∧
    (∀ (t : Nat) (cw : ICall × IMWrite P), outs[t]? = some (IOut.slot (some j)) → prog[t]? = some cw →
      (∀ t' : Nat, outs[t']? = some (IOut.slot (some j)) → t' = t) → s'.abs k = (s.abs k).map cw.2.cont_apply) := by
  have h1 := cont_step_iterMut_abs h hs hj
  refine ⟨h1, fun t cw ho hp hu => ?_⟩
  rw [h1]
  cases s.abs k with
  | none => rfl
  | some e => simp only [Option.map_some]; rw [cont_writesAt_once j outs prog e t cw ho hp hu]

/-- **`append` and the stored item**, for ANY well-formed other queue `oth` of the same kind (given by its store): when
`oth` does not hold `k`, or is not larger than `self`, the item `self` stores for `k` stays -/
theorem C12_append_keeps {kind : Kind} {s s' oth : Store P} {o : Out P} (h : s.WF) (ho : oth.WF)
    (hs : step ⟨kind, s⟩ (.append oth) = .ok (⟨kind, s'⟩, o)) {k : Nat} {e : Item × P} (ha : s.abs k = some e)
    (hc : oth.abs k = none ∨ oth.size ≤ s.size) :
    s'.abs k = some e := by
  rw [cont_step_append_abs (q := ⟨kind, s⟩) h ho hs, ha]
  rcases hc with hc | hc
  · rw [hc]
    split <;> simp
  · rw [if_neg (Nat.not_lt.2 hc)]; rfl

/-- … but when the appended queue `oth` is strictly larger and holds `k`, ITS item value (and priority) is the one kept:
the crate swaps the two queues first.  (This is the documented behaviour of `append`; it is the one operation besides
the whole-queue constructors through which a stored item value can be replaced without a `*_mut` access.) -/
theorem C12_append_swaps {kind : Kind} {s s' oth : Store P} {o : Out P} (h : s.WF) (ho : oth.WF)
    (hs : step ⟨kind, s⟩ (.append oth) = .ok (⟨kind, s'⟩, o)) {k : Nat} {x : Item × P}
    (hx : oth.abs k = some x) (hc : s.size < oth.size) : s'.abs k = some x := by
  rw [cont_step_append_abs (q := ⟨kind, s⟩) h ho hs, if_pos hc, hx]; rfl

section Examples

private def wr : Item → Item := fun it => ⟨it.key, 77⟩
/-- a history that updates, reorders and removes around key 4: priority updates of 4 with other payloads, pops and
removals of other elements, a conversion to the other kind, a rebuild -/
private def exOps : List (Op Nat) :=
  [.push ⟨4, 0⟩ 8, .pushIncrease ⟨4, 1⟩ 20, .pushDecrease ⟨4, 2⟩ 6, .changePriority 4 2, .changePriorityBy 4 (· + 1),
   .popFront, .remove 1, .push ⟨6, 60⟩ 30, .convert, .popBack, .extend 0 #[(⟨4, 9⟩, 5), (⟨7, 70⟩, 1)],
   .retainMut (fun it p => (p != 1, it, p))]

-- hypotheses of `C12_update_keeps_item`: a stored key, an update carrying ANOTHER payload
example : cont_ex5.WF ∧ cont_ex5.abs 4 = some (⟨4, 40⟩, 1) ∧ cont_isUpdateOf 4 (Op.push ⟨4, 0⟩ 8 : Op Nat) :=
  ⟨by decide +kernel, by decide +kernel, rfl⟩
example : cont_okR (step ⟨.pq, cont_ex5⟩ (.push ⟨4, 0⟩ 8)) (fun r => r.1.s.abs 4 = some (⟨4, 40⟩, 8)) ∧
    cont_okR (step ⟨.dpq, cont_exD⟩ (.pushIncrease ⟨4, 0⟩ 8)) (fun r => r.1.s.abs 4 = some (⟨4, 40⟩, 8)) ∧
    cont_okR (step ⟨.dpq, cont_exD⟩ (.changePriorityBy 4 (· + 5))) (fun r => r.1.s.abs 4 = some (⟨4, 40⟩, 6)) := by
  decide +kernel
-- hypotheses of `C12_getMut_read_back` / `C12_payload_persists_history`: `get_mut(4)` writes payload 77, then the
-- history `exOps`; every operation is legal and preserves the item of 4, 4 is present after every prefix
example : ∀ it, (wr it).key = it.key := fun _ => rfl
example : ∀ op ∈ exOps, op.Legal ∧ cont_preservesItem 4 op := by
  have t : True ∧ True := ⟨trivial, trivial⟩
  simp only [exOps, List.forall_mem_cons, List.not_mem_nil, false_imp_iff, implies_true, and_true]
  exact ⟨t, t, t, t, t, t, t, t, t, t, ⟨(by decide : _ ∧ _ < capLimit), trivial⟩, fun _ _ => rfl, fun _ _ _ => rfl⟩
example : cont_okR (step ⟨.pq, cont_ex5⟩ (.getMut 4 wr)) (fun r1 =>
    cont_outEntry r1.2 = some (some (⟨4, 40⟩, 1)) ∧ r1.1.s.abs 4 = some (⟨4, 77⟩, 1) ∧
    (∀ n, n ≤ exOps.length → cont_okR (run r1.1 (exOps.take n)) (fun r => (r.1.s.abs 4).isSome = true)) ∧
    cont_okR (run r1.1 exOps) (fun r2 => r2.1.kind = .dpq ∧ r2.1.s.get 4 = some (⟨4, 77⟩, 5) ∧
      r2.1.s.abs 7 = none ∧ r2.1.s.len = 3)) := by decide +kernel
-- `C12_peekMut_written`: both ends of a double-ended queue
example : cont_okR (step ⟨.dpq, cont_exD⟩ (.peekFrontMut wr)) (fun r =>
    cont_outEntry r.2 = some (some (⟨4, 40⟩, 1)) ∧ r.1.s.abs 4 = some (⟨4, 77⟩, 1)) ∧
  cont_okR (step ⟨.dpq, cont_exD⟩ (.peekBackMut wr)) (fun r =>
    cont_outEntry r.2 = some (some (⟨2, 20⟩, 9)) ∧ r.1.s.abs 2 = some (⟨2, 77⟩, 9)) := by decide +kernel
-- `C12_iterMut_written`: key 3 sits in slot 2; the third `next` yields slot 2 and writes payload 5 (priority kept)
example : cont_ex5.WF ∧ IMap.find? cont_ex5.map 3 = some 2 := by decide +kernel
example : cont_okR (step ⟨.pq, cont_ex5⟩ (.iterMut false
    [(.next, ⟨none, none⟩), (.next, ⟨some 0, none⟩), (.next, ⟨none, some 5⟩)])) (fun r =>
      r.1.s.abs 3 = some (⟨3, 5⟩, 7) ∧ r.1.s.abs 2 = some (⟨2, 20⟩, 0) ∧ r.1.s.abs 1 = some (⟨1, 10⟩, 5)) := by
  decide +kernel
-- `C12_append_keeps` / `C12_append_swaps`: a small other queue leaves the stored item of 4 alone; a larger one
-- (six distinct keys against five) replaces it
example : cont_okR (step ⟨.pq, cont_ex5⟩ (.append (Store.fromVec #[(⟨4, 0⟩, 100), (⟨9, 90⟩, 2)]))) (fun r =>
    r.1.s.abs 4 = some (⟨4, 40⟩, 1) ∧ r.1.s.abs 9 = some (⟨9, 90⟩, 2)) := by decide +kernel
example : cont_okR (step ⟨.pq, cont_ex5⟩ (.append (Store.fromVec
    #[(⟨4, 0⟩, 100), (⟨9, 90⟩, 2), (⟨10, 0⟩, 3), (⟨11, 0⟩, 4), (⟨12, 0⟩, 5), (⟨13, 0⟩, 6)]))) (fun r =>
    r.1.s.abs 4 = some (⟨4, 0⟩, 100) ∧ r.1.s.abs 1 = some (⟨1, 10⟩, 5)) := by decide +kernel
/-- an other queue that is a real heap (built by six pushes: its index tables are NOT the identity) -/
private def oth6 : Store Nat :=
  match MaxQ.pushAll [(⟨4, 0⟩, 100), (⟨9, 90⟩, 2), (⟨10, 0⟩, 3), (⟨11, 0⟩, 400), (⟨12, 0⟩, 5), (⟨13, 0⟩, 600)] Store.empty with
  | .ok s => s
  | .error _ => Store.empty
-- the hypotheses of `C12_append_swaps` on it: well-formed, tables not the identity, strictly larger, holds key 4
example : oth6.WF ∧ oth6.heap ≠ Array.range 6 ∧ cont_ex5.size < oth6.size ∧ oth6.abs 4 = some (⟨4, 0⟩, 100) := by
  decide +kernel
example : cont_okR (step ⟨.pq, cont_ex5⟩ (.append oth6)) (fun r =>
    r.1.s.abs 4 = some (⟨4, 0⟩, 100) ∧ r.1.s.abs 1 = some (⟨1, 10⟩, 5) ∧ r.1.s.size = 10 ∧ MaxQ.Inv r.1.s ∧
    r.2 matches .other 0 0 0 0) := by decide +kernel

end Examples

end PQ

#print axioms PQ.C12_update_keeps_item
#print axioms PQ.C12_payload_persists
#print axioms PQ.C12_payload_persists_history
#print axioms PQ.C12_getMut_read_back
#print axioms PQ.C12_peekMut_written
#print axioms PQ.C12_iterMut_written
#print axioms PQ.C12_append_keeps
#print axioms PQ.C12_append_swaps
