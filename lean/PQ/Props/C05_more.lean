import PQ.Lemmas.CrashTicks
import PQ.Props.C05
import PQ.Props.C10
/-!
# C05, continued — the comparison count of an INTERRUPTED call

The correspondence check also compares the number of `Ord::cmp` calls of a call that is interrupted by a panicking
comparison: when the `k`-th comparison of an operation panics, the real code has performed exactly `k` comparison calls (the
`k`-th being the one that panics) and none while unwinding; the check's judge holds that count to the bound C05 proves for the
completed call.  The justification — an interrupted call has performed a prefix of the comparisons of the completed call —
is proved here, for both queue kinds and every operation of the alphabet `Op` (`PQ/Model/Ops.lean`).

Setting (`PQ/Model/Crash.lean`, `PQ/Props/C10.lean`): `stepF fuse q op` is the fused twin of `step q op`; ordinals are
absolute values of the ghost counter `Store.ticks`; the comparison performed while the current store is `s` has ordinal
`s.ticks + 1`, the one whose ordinal equals `fuse` panics and is NOT counted in the crash state.

An operation numbers its comparisons from `tkBase q op` (`PQ/Lemmas/CrashTicks.lean`): `q.s.ticks`, except for `append` —
`Store::append` first exchanges receiver and argument when the argument is larger (`mem::swap`), the ghost counter travels
with the store, so the rebuild numbers from the counter of the store that becomes the receiver — and for the constructors
`fromVec / fromIter / deserialize` (fresh store: `0`).  The interrupted call has made `fuse - tkBase q op` comparison calls, the
panicking one included; the completed call `q2.s.ticks - tkBase q op`.
-/
namespace PQ
open PQ.Crash

section Any
variable {P : Type} [LT P] [DecidableLT P]

/-- the crash state has counted exactly the comparisons before the panicking one, whatever the queue (well-formed or not) and
the operation (legal or not); that the fuse lay in the future of `tkBase q op` is a consequence of the crash, not a hypothesis -/
theorem C05_crash_ticks_exact {fuse : Nat} {q q' : Q P} {op : Op P} (h : stepF fuse q op = .error (.crashed q')) :
    q'.s.ticks + 1 = fuse ∧ tkBase q op ≤ q'.s.ticks := by
  have := tkq_stepF fuse q op
  rw [h] at this
  exact ⟨this.1, this.2.1⟩

omit [LT P] [DecidableLT P] in
theorem C05_tkBase (q : Q P) (op : Op P) :
    (∀ o, op = .append o → tkBase q op = (q.s.append o).1.ticks ∧ (tkBase q op = q.s.ticks ∨ tkBase q op = o.ticks) ∧
        (o.size ≤ q.s.size → tkBase q op = q.s.ticks)) ∧
    ((∃ xs, op = .fromVec xs) ∨ (∃ lo xs, op = .fromIter lo xs) ∨ (∃ h xs, op = .deserialize h xs) → tkBase q op = 0) ∧
    ((∀ o, op ≠ .append o) → (∀ xs, op ≠ .fromVec xs) → (∀ lo xs, op ≠ .fromIter lo xs) →
        (∀ h xs, op ≠ .deserialize h xs) → tkBase q op = q.s.ticks) := by
  refine ⟨fun o e => ?_, fun e => ?_, fun h1 h2 h3 h4 => ?_⟩
  · subst e
    have key : (q.s.append o).1.ticks = if o.size > q.s.size then o.ticks else q.s.ticks := by
      rw [Store.ticks_append_fst]
      unfold Store.appendOrder
      split <;> rfl
    refine ⟨rfl, ?_, fun hle => ?_⟩
    · show (q.s.append o).1.ticks = q.s.ticks ∨ (q.s.append o).1.ticks = o.ticks
      rw [key]; split
      · exact Or.inr rfl
      · exact Or.inl rfl
    · show (q.s.append o).1.ticks = q.s.ticks
      rw [key, if_neg (by omega)]
  · rcases e with ⟨xs, rfl⟩ | ⟨lo, xs, rfl⟩ | ⟨h, xs, rfl⟩ <;> rfl
  · cases op with
    | append o => exact absurd rfl (h1 o)
    | fromVec xs => exact absurd rfl (h2 xs)
    | fromIter lo xs => exact absurd rfl (h3 lo xs)
    | deserialize h xs => exact absurd rfl (h4 h xs)
    | _ => rfl

theorem C05_crashNew_future {fuse : Nat} {q : Q P} {op : Op P} (h : stepF fuse q op = .error .crashedNew) :
    tkBase q op < fuse := by
  have := tkq_stepF fuse q op
  rw [h] at this
  exact this.1

/-- if the fused run crashes, the completed call — whenever it returns — performs the panicking comparison as well -/
theorem C05_crash_prefix_any {fuse : Nat} {q : Q P} {op : Op P}
    (h : (∃ q', stepF fuse q op = .error (.crashed q')) ∨ stepF fuse q op = .error .crashedNew)
    {q2 : Q P} {out : Out P} (hp : step q op = .ok (q2, out)) : fuse ≤ q2.s.ticks := by
  have h0 : unQ (stepF 0 q op) = .ok (q2, out) := by rw [cr_stepF_zero, hp]; rfl
  have := tkq_stepF fuse q op
  rcases h with ⟨q', h⟩ | h
  · rw [h] at this; exact this.2.2 _ h0
  · rw [h] at this; exact this.2 _ h0

theorem C05_ok_beyond {fuse : Nat} {q q2 : Q P} {op : Op P} {out : Out P} (h : stepF fuse q op = .ok (q2, out))
    (hf : tkBase q op < fuse) : q2.s.ticks < fuse := by
  have := tkq_stepF fuse q op
  rw [h] at this
  exact this.2 hf

end Any

section WF
variable {P : Type} [LT P] [DecidableLT P] [LE P] [Std.IsLinearPreorder P] [Std.LawfulOrderLT P]

/-- an interrupted call has performed a prefix of the comparisons of the completed call: on a well-formed queue the completed
call of a legal operation exists (C04) and ends at or beyond the fuse -/
theorem C05_crash_prefix {fuse : Nat} {q : Q P} {op : Op P} (hq : QWF q) (hl : op.Legal)
    (h : (∃ q', stepF fuse q op = .error (.crashed q')) ∨ stepF fuse q op = .error .crashedNew) :
    ∃ q2 out, step q op = .ok (q2, out) ∧ QWF q2 ∧ tkBase q op < fuse ∧ fuse ≤ q2.s.ticks ∧
      ∀ q', stepF fuse q op = .error (.crashed q') → q'.s.ticks + 1 = fuse ∧ q'.s.ticks < q2.s.ticks := by
  obtain ⟨q2, out, hp, hw⟩ := C04_step hq hl
  have hle : fuse ≤ q2.s.ticks := C05_crash_prefix_any h hp
  refine ⟨q2, out, hp, hw, ?_, hle, fun q' hc => ?_⟩
  · rcases h with ⟨q', hc⟩ | hc
    · have := C05_crash_ticks_exact hc; omega
    · exact C05_crashNew_future hc
  · have := C05_crash_ticks_exact hc; omega

/-- interrupted count ≤ completed count -/
theorem C05_interrupted_le_completed {fuse : Nat} {q : Q P} {op : Op P} (hq : QWF q) (hl : op.Legal)
    (h : (∃ q', stepF fuse q op = .error (.crashed q')) ∨ stepF fuse q op = .error .crashedNew) :
    ∃ q2 out, step q op = .ok (q2, out) ∧ 1 ≤ fuse - tkBase q op ∧ fuse - tkBase q op ≤ q2.s.ticks - tkBase q op := by
  obtain ⟨q2, out, hp, _, h1, h2, _⟩ := C05_crash_prefix hq hl h
  exact ⟨q2, out, hp, by omega, by omega⟩

/-- every bound of the completed call bounds the interrupted call (the panicking comparison included) -/
theorem C05_interrupted_bound {fuse B : Nat} {q : Q P} {op : Op P} (hq : QWF q) (hl : op.Legal)
    (hB : ∀ q2 out, step q op = .ok (q2, out) → q2.s.ticks ≤ tkBase q op + B)
    (h : (∃ q', stepF fuse q op = .error (.crashed q')) ∨ stepF fuse q op = .error .crashedNew) :
    1 ≤ fuse - tkBase q op ∧ fuse - tkBase q op ≤ B := by
  obtain ⟨q2, out, hp, _, h1, h2, _⟩ := C05_crash_prefix hq hl h
  have := hB q2 out hp
  exact ⟨by omega, by omega⟩

/-- the fuse fires iff it is the ordinal of a comparison of the completed call: the `k`-th comparison of a call can be made to
panic exactly for `1 ≤ k ≤` the count of the completed call -/
theorem C05_crash_iff {fuse : Nat} {q q2 : Q P} {op : Op P} {out : Out P} (hq : QWF q) (hl : op.Legal)
    (hp : step q op = .ok (q2, out)) :
    ((∃ q', stepF fuse q op = .error (.crashed q')) ∨ stepF fuse q op = .error .crashedNew) ↔
      (tkBase q op < fuse ∧ fuse ≤ q2.s.ticks) := by
  constructor
  · intro h
    obtain ⟨q3, out3, hp3, _, h1, h2, _⟩ := C05_crash_prefix hq hl h
    rw [hp] at hp3; cases hp3
    exact ⟨h1, h2⟩
  · rintro ⟨h1, h2⟩
    cases hs : stepF fuse q op with
    | ok r =>
      obtain ⟨q3, out3⟩ := r
      have hp3 := C10_ok_is_plain fuse hq hl hs
      rw [hp] at hp3; cases hp3
      have := C05_ok_beyond hs h1
      omega
    | error e =>
      cases e with
      | fault f => exact absurd hs (C10_no_model_fault fuse hq hl f)
      | crashed q' => exact Or.inl ⟨q', rfl⟩
      | crashedNew => exact Or.inr rfl

/-- the plain `step` of an operation is a store-level function `y` followed by a repackaging that keeps the counter
(`HasTk.tk`: the counter of the store in `y`'s result): a bound on the counter `y` ends with bounds the interrupted call -/
theorem C05_interrupted_of_store {α : Type} [HasTk α] {fuse B : Nat} {q : Q P} {op : Op P} {y : R α}
    {f : α → R (Q P × Out P)}
    (h : (∃ q', stepF fuse q op = .error (.crashed q')) ∨ stepF fuse q op = .error .crashedNew) (hq : QWF q) (hl : op.Legal)
    (hstep : step q op = y >>= f) (hB : ∀ a, y = .ok a → HasTk.tk a ≤ tkBase q op + B)
    (hf : ∀ a, ∃ r, f a = .ok r ∧ r.1.s.ticks = HasTk.tk a := by exact fun _ => ⟨_, rfl, rfl⟩) :
    1 ≤ fuse - tkBase q op ∧ fuse - tkBase q op ≤ B := by
  refine C05_interrupted_bound hq hl (fun q2 out hp => ?_) h
  obtain ⟨a, ha, hr⟩ := bind_eq_ok.1 (hstep ▸ hp)
  obtain ⟨r, h1, h2⟩ := hf a
  cases h1.symm.trans hr
  exact h2 ▸ hB a ha

/-! The bounds of `C05.lean` for the interrupted calls of `PriorityQueue::push / pop / change_priority / remove / push_increase`
and `DoublePriorityQueue::push / pop_min / pop_max / change_priority / remove` -/

theorem C05_pq_push_interrupted {fuse : Nat} {s : Store P} {it : Item} {p : P} {q' : Q P} (hs : s.WF)
    (h : stepF fuse ⟨.pq, s⟩ (.push it p) = .error (.crashed q')) :
    q'.s.ticks + 1 = fuse ∧ 1 ≤ fuse - s.ticks ∧ fuse - s.ticks ≤ 3 * Nat.log2 (s.size + 1) :=
  ⟨(C05_crash_ticks_exact h).1, C05_interrupted_of_store (.inl ⟨q', h⟩) hs trivial rfl
    fun _ ha => C05_pq_push hs.qpLt ha⟩

theorem C05_pq_pop_interrupted {fuse : Nat} {s : Store P} {q' : Q P} (hs : s.WF)
    (h : stepF fuse ⟨.pq, s⟩ (.popFront) = .error (.crashed q')) :
    q'.s.ticks + 1 = fuse ∧ 1 ≤ fuse - s.ticks ∧ fuse - s.ticks ≤ 2 * Nat.log2 s.size :=
  ⟨(C05_crash_ticks_exact h).1, C05_interrupted_of_store (.inl ⟨q', h⟩) hs trivial rfl
    fun _ ha => C05_pq_pop ha⟩

theorem C05_pq_changePriority_interrupted {fuse : Nat} {s : Store P} {k : Nat} {p : P} {q' : Q P} (hs : s.WF)
    (h : stepF fuse ⟨.pq, s⟩ (.changePriority k p) = .error (.crashed q')) :
    q'.s.ticks + 1 = fuse ∧ 1 ≤ fuse - s.ticks ∧ fuse - s.ticks ≤ 3 * Nat.log2 s.size :=
  ⟨(C05_crash_ticks_exact h).1, C05_interrupted_of_store (.inl ⟨q', h⟩) hs trivial rfl
    fun _ ha => C05_pq_changePriority hs.qpLt ha⟩

theorem C05_pq_remove_interrupted {fuse : Nat} {s : Store P} {k : Nat} {q' : Q P} (hs : s.WF)
    (h : stepF fuse ⟨.pq, s⟩ (.remove k) = .error (.crashed q')) :
    q'.s.ticks + 1 = fuse ∧ 1 ≤ fuse - s.ticks ∧ fuse - s.ticks ≤ 3 * Nat.log2 s.size :=
  ⟨(C05_crash_ticks_exact h).1, C05_interrupted_of_store (.inl ⟨q', h⟩) hs trivial rfl
    fun _ ha => C05_pq_remove ha⟩

/-- a crash at the first comparison, the pre-check, leaves the queue untouched (`PQ/Model/Crash.lean`) -/
theorem C05_pq_pushIncrease_interrupted {fuse : Nat} {s : Store P} {it : Item} {p : P} {q' : Q P} (hs : s.WF)
    (h : stepF fuse ⟨.pq, s⟩ (.pushIncrease it p) = .error (.crashed q')) :
    q'.s.ticks + 1 = fuse ∧ 1 ≤ fuse - s.ticks ∧ fuse - s.ticks ≤ 3 * Nat.log2 (s.size + 1) + 1 :=
  ⟨(C05_crash_ticks_exact h).1, C05_interrupted_of_store (.inl ⟨q', h⟩) hs trivial rfl
    fun _ ha => Nat.add_assoc .. ▸ C05_pq_pushIncrease hs.qpLt ha⟩

theorem C05_dpq_push_interrupted {fuse : Nat} {s : Store P} {it : Item} {p : P} {q' : Q P} (hs : s.WF)
    (h : stepF fuse ⟨.dpq, s⟩ (.push it p) = .error (.crashed q')) :
    q'.s.ticks + 1 = fuse ∧ 1 ≤ fuse - s.ticks ∧ fuse - s.ticks ≤ 8 * Nat.log2 (s.size + 1) + 8 :=
  ⟨(C05_crash_ticks_exact h).1, C05_interrupted_of_store (.inl ⟨q', h⟩) hs trivial rfl
    fun _ ha => Nat.add_assoc .. ▸ C05_dpq_push hs.qpLt ha⟩

theorem C05_dpq_popMin_interrupted {fuse : Nat} {s : Store P} {q' : Q P} (hs : s.WF)
    (h : stepF fuse ⟨.dpq, s⟩ (.popFront) = .error (.crashed q')) :
    q'.s.ticks + 1 = fuse ∧ 1 ≤ fuse - s.ticks ∧ fuse - s.ticks ≤ 4 * Nat.log2 s.size + 4 :=
  ⟨(C05_crash_ticks_exact h).1, C05_interrupted_of_store (.inl ⟨q', h⟩) hs trivial rfl
    fun _ ha => Nat.add_assoc .. ▸ C05_dpq_popMin ha⟩

/-- a crash at the first comparison, `find_max`, leaves the queue untouched (`PQ/Model/Crash.lean`) -/
theorem C05_dpq_popMax_interrupted {fuse : Nat} {s : Store P} {q' : Q P} (hs : s.WF)
    (h : stepF fuse ⟨.dpq, s⟩ (.popBack) = .error (.crashed q')) :
    q'.s.ticks + 1 = fuse ∧ 1 ≤ fuse - s.ticks ∧ fuse - s.ticks ≤ 4 * Nat.log2 s.size + 5 :=
  ⟨(C05_crash_ticks_exact h).1, C05_interrupted_of_store (.inl ⟨q', h⟩) hs trivial rfl
    fun _ ha => Nat.add_assoc .. ▸ C05_dpq_popMax ha⟩

theorem C05_dpq_changePriority_interrupted {fuse : Nat} {s : Store P} {k : Nat} {p : P} {q' : Q P} (hs : s.WF)
    (h : stepF fuse ⟨.dpq, s⟩ (.changePriority k p) = .error (.crashed q')) :
    q'.s.ticks + 1 = fuse ∧ 1 ≤ fuse - s.ticks ∧ fuse - s.ticks ≤ 8 * Nat.log2 s.size + 8 :=
  ⟨(C05_crash_ticks_exact h).1, C05_interrupted_of_store (.inl ⟨q', h⟩) hs trivial rfl
    fun _ ha => Nat.add_assoc .. ▸ C05_dpq_changePriority hs.qpLt ha⟩

theorem C05_dpq_remove_interrupted {fuse : Nat} {s : Store P} {k : Nat} {q' : Q P} (hs : s.WF)
    (h : stepF fuse ⟨.dpq, s⟩ (.remove k) = .error (.crashed q')) :
    q'.s.ticks + 1 = fuse ∧ 1 ≤ fuse - s.ticks ∧ fuse - s.ticks ≤ 8 * Nat.log2 s.size + 8 :=
  ⟨(C05_crash_ticks_exact h).1, C05_interrupted_of_store (.inl ⟨q', h⟩) hs trivial rfl
    fun _ ha => Nat.add_assoc .. ▸ C05_dpq_remove ha⟩

/-- interrupted conversions `From<DoublePriorityQueue>` / `From<PriorityQueue>` (linear rebuilds): at most `2 * n` resp.
`7 * n` comparison calls -/
theorem C05_convert_interrupted {fuse : Nat} {q q' : Q P} (hq : QWF q)
    (h : stepF fuse q .convert = .error (.crashed q')) :
    q'.s.ticks + 1 = fuse ∧ 1 ≤ fuse - q.s.ticks ∧
      fuse - q.s.ticks ≤ (match q.kind with | .pq => 7 | .dpq => 2) * q.s.size := by
  refine ⟨(C05_crash_ticks_exact h).1, ?_⟩
  obtain ⟨k, s⟩ := q
  cases k
  · exact C05_interrupted_of_store (.inl ⟨q', h⟩) hq trivial rfl (C05_dpq_bulk_linear.2.2.2.2.1 s)
  · exact C05_interrupted_of_store (.inl ⟨q', h⟩) hq trivial rfl (C05_pq_bulk_linear.2.2.2.2.1 s)

/-- interrupted `From<Vec>` (a constructor: the fresh queue is dropped, `crashedNew`): at most `2 * len` resp. `7 * len`
comparison calls, counted from `0` -/
theorem C05_fromVec_interrupted {fuse : Nat} {q : Q P} {xs : Array (Item × P)} (hq : QWF q)
    (h : stepF fuse q (.fromVec xs) = .error .crashedNew) :
    1 ≤ fuse ∧ fuse ≤ (match q.kind with | .pq => 2 | .dpq => 7) * xs.size := by
  obtain ⟨k, s⟩ := q
  cases k
  · exact C05_interrupted_of_store (.inr h) hq trivial rfl
      fun a ha => Nat.le_trans (C05_pq_bulk_linear.1 xs a ha).2 (Nat.le_add_left ..)
  · exact C05_interrupted_of_store (.inr h) hq trivial rfl
      fun a ha => Nat.le_trans (C05_dpq_bulk_linear.1 xs a ha).2 (Nat.le_add_left ..)

end WF

section Examples

private def it (k : Nat) : Item := ⟨k, 100 + k⟩
private def v7 : Array (Item × Nat) := #[(it 1, 30), (it 2, 10), (it 3, 70), (it 4, 20), (it 5, 60), (it 6, 50), (it 7, 40)]
private def v3 : Array (Item × Nat) := #[(it 8, 65), (it 2, 99), (it 9, 5)]

/-- its store is `m7` / `d7` of the examples of `PQ/Model/Crash.lean` -/
private def q7 (k : Kind) : Q Nat :=
  match run (Q.new k) [.fromVec v7] with
  | .ok (q, _) => q
  | .error _ => Q.new k

private def crashedInto (r : CRQ Nat (Q Nat × Out Nat)) (p : Q Nat → Prop) : Prop :=
  match r with
  | .error (.crashed q') => p q'
  | _ => False

private instance (r : CRQ Nat (Q Nat × Out Nat)) (p : Q Nat → Prop) [DecidablePred p] : Decidable (crashedInto r p) := by
  unfold crashedInto; split <;> infer_instance

private def endsAt (r : R (Q Nat × Out Nat)) (n : Nat) : Prop := hist_okR r (fun x => x.1.s.ticks = n)

private instance (r : R (Q Nat × Out Nat)) (n : Nat) : Decidable (endsAt r n) := by unfold endsAt; infer_instance

private def crashedNewB (r : CRQ Nat (Q Nat × Out Nat)) : Bool :=
  match r with
  | .error .crashedNew => true
  | _ => false

private def okB (r : CRQ Nat (Q Nat × Out Nat)) : Bool :=
  match r with
  | .ok _ => true
  | _ => false

private instance (q : Q Nat) : Decidable (QWF q) := inferInstanceAs (Decidable q.s.WF)

-- the hypotheses: well-formed 7-element queues of both kinds whose counters are not zero (8 resp. 11 comparisons were made
-- by the construction)
example : QWF (q7 .pq) ∧ (q7 .pq).s.size = 7 ∧ (q7 .pq).s.ticks = 8 := by decide +kernel
example : QWF (q7 .dpq) ∧ (q7 .dpq).s.size = 7 ∧ (q7 .dpq).s.ticks = 11 := by decide +kernel

-- `push` of a new maximum into the 7-element max-heap: the completed call makes 3 comparisons (counter 8 → 11); with the 2nd
-- one panicking (fuse = ticks + 2) the crash state has counted 1 (counter 9 = fuse - 1), and 2 ≤ 3 ≤ 3 * log2 8 = 9
example : crashedInto (stepF ((q7 .pq).s.ticks + 2) (q7 .pq) (.push (it 8) 99)) (fun q' =>
    q'.s.ticks = (q7 .pq).s.ticks + 1 ∧ q'.s.ticks + 1 = (q7 .pq).s.ticks + 2) ∧
    endsAt (step (q7 .pq) (.push (it 8) 99)) ((q7 .pq).s.ticks + 3) ∧ 3 * Nat.log2 ((q7 .pq).s.size + 1) = 9 := by
  decide +kernel
-- every fuse in (ticks, ticks + 3] crashes, with exactly fuse - 1 counted; fuse = ticks + 4 and fuse = ticks do not
example : (∀ k ∈ [1, 2, 3], crashedInto (stepF ((q7 .pq).s.ticks + k) (q7 .pq) (.push (it 8) 99)) (fun q' =>
    q'.s.ticks + 1 = (q7 .pq).s.ticks + k)) ∧
    okB (stepF ((q7 .pq).s.ticks + 4) (q7 .pq) (.push (it 8) 99)) = true ∧
    okB (stepF ((q7 .pq).s.ticks) (q7 .pq) (.push (it 8) 99)) = true := by decide +kernel
-- the same on the min-max heap: the completed `push` makes 2 comparisons; crash at the 2nd: 1 counted
example : crashedInto (stepF ((q7 .dpq).s.ticks + 2) (q7 .dpq) (.push (it 8) 99)) (fun q' =>
    q'.s.ticks = (q7 .dpq).s.ticks + 1 ∧ q'.s.ticks + 1 = (q7 .dpq).s.ticks + 2) ∧
    endsAt (step (q7 .dpq) (.push (it 8) 99)) ((q7 .dpq).s.ticks + 2) ∧
    okB (stepF ((q7 .dpq).s.ticks + 3) (q7 .dpq) (.push (it 8) 99)) = true := by decide +kernel
-- `pop` / `pop_max` / `change_priority` interrupted at their 2nd comparison
example : crashedInto (stepF ((q7 .pq).s.ticks + 2) (q7 .pq) .popFront) (fun q' => q'.s.ticks = (q7 .pq).s.ticks + 1) ∧
    endsAt (step (q7 .pq) .popFront) ((q7 .pq).s.ticks + 4) := by decide +kernel
example : crashedInto (stepF ((q7 .dpq).s.ticks + 2) (q7 .dpq) .popBack) (fun q' => q'.s.ticks = (q7 .dpq).s.ticks + 1) := by
  decide +kernel
example : crashedInto (stepF ((q7 .dpq).s.ticks + 2) (q7 .dpq) (.changePriority 3 1)) (fun q' =>
    q'.s.ticks = (q7 .dpq).s.ticks + 1) := by decide +kernel
-- `append` of a LARGER queue (counter 8) to a 3-element queue with counter 0: receiver and argument are exchanged, the
-- comparisons of the rebuild are numbered from the counter of the larger store: `tkBase = 8`, not the receiver's `0`; a fuse
-- of `2` — in the future of the receiver's own counter — does not fire, `8 + 2` does, with `8 + 1` counted
private def q3 : Q Nat := ⟨.pq, Store.fromVec v3⟩
example : QWF q3 ∧ q3.s.ticks = 0 ∧ tkBase q3 (.append (q7 .pq).s) = 8 := by decide +kernel
example : (Op.append (q7 .pq).s).Legal := by show (q7 .pq).s.WF; decide +kernel
example : okB (stepF 2 q3 (.append (q7 .pq).s)) = true ∧
    crashedInto (stepF (8 + 2) q3 (.append (q7 .pq).s)) (fun q' => q'.s.ticks = 8 + 1 ∧ q'.s.size = 9) := by decide +kernel
-- a constructor numbers from 0 and drops the fresh queue
example : crashedNewB (stepF 2 (q7 .pq) (.fromVec v7)) = true ∧ endsAt (step (q7 .pq) (.fromVec v7)) 8 ∧
    okB (stepF 9 (q7 .pq) (.fromVec v7)) = true := by decide +kernel

end Examples

end PQ

#print axioms PQ.C05_crash_ticks_exact
#print axioms PQ.C05_tkBase
#print axioms PQ.C05_crashNew_future
#print axioms PQ.C05_crash_prefix_any
#print axioms PQ.C05_ok_beyond
#print axioms PQ.C05_crash_prefix
#print axioms PQ.C05_interrupted_le_completed
#print axioms PQ.C05_interrupted_bound
#print axioms PQ.C05_crash_iff
#print axioms PQ.C05_pq_push_interrupted
#print axioms PQ.C05_pq_pop_interrupted
#print axioms PQ.C05_pq_changePriority_interrupted
#print axioms PQ.C05_pq_remove_interrupted
#print axioms PQ.C05_pq_pushIncrease_interrupted
#print axioms PQ.C05_dpq_push_interrupted
#print axioms PQ.C05_dpq_popMin_interrupted
#print axioms PQ.C05_dpq_popMax_interrupted
#print axioms PQ.C05_dpq_changePriority_interrupted
#print axioms PQ.C05_dpq_remove_interrupted
#print axioms PQ.C05_convert_interrupted
#print axioms PQ.C05_fromVec_interrupted
