import PQ.Lemmas.Contents
/-!
# C11 — `push_increase` and `push_decrease` only move a priority in their direction

"push_increase inserts an absent item (returning None), raises the priority of a present item iff the offered priority
is strictly greater (returning the old priority), and otherwise leaves the queue untouched and returns the offered
priority; push_decrease is the mirror image.  In every case the queue stays correctly ordered and no other element
changes."

For both queue kinds, under the queue's invariant (`MaxQ.Inv = WF ∧ MaxHeap`, `DQ.Inv = WF ∧ MinMaxHeap`), one theorem
per operation with exactly the three cases of the statement.  In every case: no fault, the invariant holds afterwards,
every other key is unchanged.  In the "no change" case the store is the input store up to the ghost comparison counter
(`s' = s.tick`, hence `Store.Same s' s`: map, heap, index table and size are EQUAL) and the OFFERED priority is
returned.  A present item keeps its stored item value (C12); an absent one is stored as offered.
`C11_pushIncrease_iff` / `C11_pushDecrease_iff` restate the contents half for `step` on a queue of either kind that
is only well-formed.
-/
set_option linter.unusedSectionVars false
namespace PQ
open Store
variable {P : Type} [LT P] [DecidableLT P] [LE P] [Std.IsLinearPreorder P] [Std.LawfulOrderLT P]

theorem C11_pushIncrease_pq {s : Store P} (h : MaxQ.Inv s) (it : Item) (p : P) :
    ∃ s' r, MaxQ.pushIncrease s it p = .ok (s', r) ∧ MaxQ.Inv s' ∧
      (∀ k, k ≠ it.key → s'.abs k = s.abs k) ∧
      (s.abs it.key = none → r = none ∧ s'.abs it.key = some (it, p) ∧ s'.size = s.size + 1) ∧
      (∀ it0 p0, s.abs it.key = some (it0, p0) → p0 < p →
        r = some p0 ∧ s'.abs it.key = some (it0, p) ∧ s'.size = s.size) ∧
      (∀ it0 p0, s.abs it.key = some (it0, p0) → ¬ p0 < p →
        r = some p ∧ s' = s.tick ∧ Store.Same s' s ∧ s'.abs = s.abs) := by
  obtain ⟨h0, h1, h2⟩ := MaxQ.pushIncrease_spec h it p
  obtain ⟨s', r, e1, e2, e3, e4⟩ :=
    cont_pushDir_join (c := (· < p)) (h.tick 1) h0 h1 (fun e ha hc => (h2 e ha hc).1)
  exact ⟨s', r, e1, e2, cont_pushDir_effect (c := (· < p)) e3 e4⟩

theorem C11_pushDecrease_pq {s : Store P} (h : MaxQ.Inv s) (it : Item) (p : P) :
    ∃ s' r, MaxQ.pushDecrease s it p = .ok (s', r) ∧ MaxQ.Inv s' ∧
      (∀ k, k ≠ it.key → s'.abs k = s.abs k) ∧
      (s.abs it.key = none → r = none ∧ s'.abs it.key = some (it, p) ∧ s'.size = s.size + 1) ∧
      (∀ it0 p0, s.abs it.key = some (it0, p0) → p < p0 →
        r = some p0 ∧ s'.abs it.key = some (it0, p) ∧ s'.size = s.size) ∧
      (∀ it0 p0, s.abs it.key = some (it0, p0) → ¬ p < p0 →
        r = some p ∧ s' = s.tick ∧ Store.Same s' s ∧ s'.abs = s.abs) := by
  obtain ⟨h0, h1, h2⟩ := MaxQ.pushDecrease_spec h it p
  obtain ⟨s', r, e1, e2, e3, e4⟩ :=
    cont_pushDir_join (c := (p < ·)) (h.tick 1) h0 h1 (fun e ha hc => (h2 e ha hc).1)
  exact ⟨s', r, e1, e2, cont_pushDir_effect (c := (p < ·)) e3 e4⟩

theorem C11_pushIncrease_dpq {s : Store P} (h : DQ.Inv s) (it : Item) (p : P) :
    ∃ s' r, DQ.pushIncrease s it p = .ok (s', r) ∧ DQ.Inv s' ∧
      (∀ k, k ≠ it.key → s'.abs k = s.abs k) ∧
      (s.abs it.key = none → r = none ∧ s'.abs it.key = some (it, p) ∧ s'.size = s.size + 1) ∧
      (∀ it0 p0, s.abs it.key = some (it0, p0) → p0 < p →
        r = some p0 ∧ s'.abs it.key = some (it0, p) ∧ s'.size = s.size) ∧
      (∀ it0 p0, s.abs it.key = some (it0, p0) → ¬ p0 < p →
        r = some p ∧ s' = s.tick ∧ Store.Same s' s ∧ s'.abs = s.abs) := by
  obtain ⟨h0, h1, h2⟩ := DQ.pushIncrease_spec h it p
  obtain ⟨s', r, e1, e2, e3, e4⟩ := cont_pushDir_join (c := (· < p)) (DQ.inv_tick h 1) h0 h1 h2
  exact ⟨s', r, e1, e2, cont_pushDir_effect (c := (· < p)) e3 e4⟩

theorem C11_pushDecrease_dpq {s : Store P} (h : DQ.Inv s) (it : Item) (p : P) :
    ∃ s' r, DQ.pushDecrease s it p = .ok (s', r) ∧ DQ.Inv s' ∧
      (∀ k, k ≠ it.key → s'.abs k = s.abs k) ∧
      (s.abs it.key = none → r = none ∧ s'.abs it.key = some (it, p) ∧ s'.size = s.size + 1) ∧
      (∀ it0 p0, s.abs it.key = some (it0, p0) → p < p0 →
        r = some p0 ∧ s'.abs it.key = some (it0, p) ∧ s'.size = s.size) ∧
      (∀ it0 p0, s.abs it.key = some (it0, p0) → ¬ p < p0 →
        r = some p ∧ s' = s.tick ∧ Store.Same s' s ∧ s'.abs = s.abs) := by
  obtain ⟨h0, h1, h2⟩ := DQ.pushDecrease_spec h it p
  obtain ⟨s', r, e1, e2, e3, e4⟩ := cont_pushDir_join (c := (p < ·)) (DQ.inv_tick h 1) h0 h1 h2
  exact ⟨s', r, e1, e2, cont_pushDir_effect (c := (p < ·)) e3 e4⟩

/-- **"raises the priority iff the offered one is strictly greater"**, both kinds at once, in terms of the priority held
afterwards: the priority of a present item after `push_increase` differs from the one before only if the offered one is
strictly greater, and then it is the offered one -/
theorem C11_pushIncrease_iff {kind : Kind} {s : Store P} (h : s.WF) (it : Item) (p : P) {it0 : Item} {p0 : P}
    (ha : s.abs it.key = some (it0, p0)) :
    ∃ s' r, step ⟨kind, s⟩ (.pushIncrease it p) = .ok (⟨kind, s'⟩, .prio r) ∧ s'.WF ∧
      (∀ k, k ≠ it.key → s'.abs k = s.abs k) ∧
      s'.abs it.key = some (it0, if p0 < p then p else p0) ∧ r = some (if p0 < p then p0 else p) := by
  obtain ⟨s', o, e1, e2, _, h1, h2⟩ := cont_step_total (kind := kind) h (.pushIncrease it p) trivial
  obtain ⟨f1, f2, rfl⟩ := cont_pushDir_present (c := (· < p)) ha h1 h2
  exact ⟨s', _, e1, e2, f1, f2, rfl⟩

/-- the mirror image for `push_decrease` -/
theorem C11_pushDecrease_iff {kind : Kind} {s : Store P} (h : s.WF) (it : Item) (p : P) {it0 : Item} {p0 : P}
    (ha : s.abs it.key = some (it0, p0)) :
    ∃ s' r, step ⟨kind, s⟩ (.pushDecrease it p) = .ok (⟨kind, s'⟩, .prio r) ∧ s'.WF ∧
      (∀ k, k ≠ it.key → s'.abs k = s.abs k) ∧
      s'.abs it.key = some (it0, if p < p0 then p else p0) ∧ r = some (if p < p0 then p0 else p) := by
  obtain ⟨s', o, e1, e2, _, h1, h2⟩ := cont_step_total (kind := kind) h (.pushDecrease it p) trivial
  obtain ⟨f1, f2, rfl⟩ := cont_pushDir_present (c := (p < ·)) ha h1 h2
  exact ⟨s', _, e1, e2, f1, f2, rfl⟩

/-! ## Non-vacuity: all three cases on a concrete queue of each kind -/
section Examples

-- hypotheses of `C11_pushIncrease_pq` / `C11_pushDecrease_pq`: the invariant; key 6 absent, key 4 present with priority 1
example : MaxQ.Inv cont_ex5 ∧ cont_ex5.abs 6 = none ∧ cont_ex5.abs 4 = some (⟨4, 40⟩, 1) := by decide +kernel
example : cont_okR (MaxQ.pushIncrease cont_ex5 ⟨6, 60⟩ 8) (fun r => MaxQ.Inv r.1 ∧ r.2 = none ∧ r.1.size = 6 ∧
    r.1.abs 6 = some (⟨6, 60⟩, 8)) := by decide +kernel
example : cont_okR (MaxQ.pushIncrease cont_ex5 ⟨4, 0⟩ 8) (fun r => MaxQ.Inv r.1 ∧ r.2 = some 1 ∧
    r.1.abs 4 = some (⟨4, 40⟩, 8) ∧ r.1.abs 3 = cont_ex5.abs 3) := by decide +kernel
example : cont_okR (MaxQ.pushIncrease cont_ex5 ⟨4, 0⟩ 1) (fun r => r.2 = some 1 ∧ r.1.map = cont_ex5.map ∧
    r.1.heap = cont_ex5.heap ∧ r.1.qp = cont_ex5.qp ∧ r.1.size = cont_ex5.size ∧ r.1.ticks = cont_ex5.ticks + 1) := by
  decide +kernel
example : cont_okR (MaxQ.pushDecrease cont_ex5 ⟨6, 60⟩ 8) (fun r => MaxQ.Inv r.1 ∧ r.2 = none ∧ r.1.size = 6) := by
  decide +kernel
example : cont_okR (MaxQ.pushDecrease cont_ex5 ⟨2, 0⟩ 4) (fun r => MaxQ.Inv r.1 ∧ r.2 = some 9 ∧
    r.1.abs 2 = some (⟨2, 20⟩, 4)) := by decide +kernel
example : cont_okR (MaxQ.pushDecrease cont_ex5 ⟨2, 0⟩ 12) (fun r => r.2 = some 12 ∧ r.1.map = cont_ex5.map ∧
    r.1.heap = cont_ex5.heap) := by decide +kernel
-- hypotheses of `C11_pushIncrease_dpq` / `C11_pushDecrease_dpq`: `DQ.exQ` (eight items, priorities 10 … 80) satisfies
-- the invariant; key 9 absent, key 2 present with priority 20
example : DQ.Inv DQ.exQ ∧ DQ.exQ.abs 9 = none ∧ DQ.exQ.abs 2 = some (⟨2, 0⟩, 20) := ⟨DQ.exQ_inv, by decide +kernel⟩
example : cont_okR (DQ.pushIncrease DQ.exQ ⟨9, 1⟩ 5) (fun r => r.2 = none ∧ r.1.size = 9 ∧ r.1.abs 9 = some (⟨9, 1⟩, 5)) := by
  decide +kernel
example : cont_okR (DQ.pushIncrease DQ.exQ ⟨2, 7⟩ 90) (fun r => r.2 = some 20 ∧ r.1.abs 2 = some (⟨2, 0⟩, 90) ∧
    r.1.abs 3 = DQ.exQ.abs 3) := by decide +kernel
example : cont_okR (DQ.pushIncrease DQ.exQ ⟨2, 7⟩ 20) (fun r => r.2 = some 20 ∧ r.1.map = DQ.exQ.map ∧
    r.1.heap = DQ.exQ.heap ∧ r.1.qp = DQ.exQ.qp ∧ r.1.ticks = DQ.exQ.ticks + 1) := by decide +kernel
example : cont_okR (DQ.pushDecrease DQ.exQ ⟨2, 7⟩ 5) (fun r => r.2 = some 20 ∧ r.1.abs 2 = some (⟨2, 0⟩, 5)) := by
  decide +kernel
example : cont_okR (DQ.pushDecrease DQ.exQ ⟨2, 7⟩ 25) (fun r => r.2 = some 25 ∧ r.1.map = DQ.exQ.map ∧
    r.1.heap = DQ.exQ.heap) := by decide +kernel
-- hypotheses of `C11_pushIncrease_iff` / `C11_pushDecrease_iff`: `WF` only, either kind
example : cont_exD.WF ∧ cont_exD.abs 4 = some (⟨4, 40⟩, 1) := by decide +kernel

end Examples

end PQ

#print axioms PQ.C11_pushIncrease_pq
#print axioms PQ.C11_pushDecrease_pq
#print axioms PQ.C11_pushIncrease_dpq
#print axioms PQ.C11_pushDecrease_dpq
#print axioms PQ.C11_pushIncrease_iff
#print axioms PQ.C11_pushDecrease_iff
