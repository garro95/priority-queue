import PQ.Lemmas.BulkProps
import PQ.Lemmas.History
/-!
# C08 — In-place bulk mutation applies exactly the requested changes and restores order

> `retain` and `retain_mut` call the predicate exactly once per stored element, keep exactly the elements it accepts,
> and `retain_mut` keeps the priorities it wrote; `iter_mut` visits each element at most once and every priority
> written through it is the element's priority afterwards, however much of the iterator was consumed before it was
> dropped.  The `pop_if` family shows its predicate the current extreme element, removes and returns it with any
> priority the predicate wrote iff the predicate returns true, and otherwise keeps the element with the written
> priority.  After each of these calls the queue is correctly ordered again.

Closures are data: `f : Item → P → Bool × Item × P` returns the verdict together with the item and the priority the
closure left behind through its `&mut` references (`retain` is `retain_mut` with a closure that writes nothing); the
one thing the crate demands of a closure is that it does not change an item's identity, `(f it p).2.1.key = it.key`
(`Op.Legal`).  `IMap.retainStep f e = if (f e.1 e.2).1 then some ((f e.1 e.2).2.1, (f e.1 e.2).2.2) else none`.
An `iter_mut` session is a program `prog : List (ICall × IMWrite P)`: each call is followed by a write through the
reference it yielded (`IMWrite.apply`); `prog` is arbitrary, so every partial consumption is covered; `leak = false`
is "the iterator was dropped" (the rebuild runs).
-/
namespace PQ
open Store
variable {P : Type} [LT P] [DecidableLT P] [LE P] [Std.IsLinearPreorder P] [Std.LawfulOrderLT P]

/-- **`retain_mut` / `retain`** on a well-formed queue (it need not even be ordered), both kinds: never faults; the
result is correctly ordered; the map of the result is `s.map.toList.filterMap (retainStep f)`: the predicate is applied
to the stored entries in slot order, to each exactly once (`filterMap` applies its function once per element; this list
IS the call log), exactly the accepted ones are kept, in order, with the item and priority the predicate wrote; by key:
`k` is kept iff it was stored and its entry was accepted; the length is the number of accepted entries -/
theorem C08_retainMut {s : Store P} (h : s.WF) (f : Item → P → Bool × Item × P)
    (hf : ∀ it p, (f it p).2.1.key = it.key) :
    (∃ s', MaxQ.retainMut s f = .ok s' ∧ MaxQ.Inv s' ∧
      s'.map.toList = s.map.toList.filterMap (IMap.retainStep f) ∧
      (∀ k, s'.abs k = (s.abs k).bind (IMap.retainStep f)) ∧
      s'.size = (s.map.toList.filterMap (IMap.retainStep f)).length) ∧
    (∃ s', DQ.retainMut s f = .ok s' ∧ DQ.Inv s' ∧
      s'.map.toList = s.map.toList.filterMap (IMap.retainStep f) ∧
      (∀ k, s'.abs k = (s.abs k).bind (IMap.retainStep f)) ∧
      s'.size = (s.map.toList.filterMap (IMap.retainStep f)).length) := by
  constructor
  · obtain ⟨s', hrun, hwf, hmap, hsz, hm⟩ := MaxQ.heapBuild_spec (wf_retainMut h hf)
    refine ⟨s', hrun, ⟨hwf, hm⟩, by rw [hmap]; exact toList_retainMut s f, fun k => ?_, ?_⟩
    · show IMap.lookup s'.map k = _
      rw [hmap]; exact lookup_retainMut h hf k
    · rw [hsz, size_retainMut, ← Array.length_toList, IMap.toList_retain']
  · obtain ⟨s', hrun, hinv, habs, hlist, hsz⟩ := DQ.retainMut_spec h f hf
    exact ⟨s', hrun, hinv, hlist, fun k => congrFun habs k, hsz⟩

example : bp_exW.WF ∧ ¬ MaxQ.Inv bp_exW ∧ (∀ it p, (bp_fDrop it p).2.1.key = it.key) ∧
    bp_okR (MaxQ.retainMut bp_exW bp_fDrop) (fun s' => MaxQ.Inv s' ∧ s'.size = 4 ∧ s'.abs 3 = none ∧
      s'.abs 2 = some (⟨2, 21⟩, 10) ∧
      s'.map = #[(⟨1, 11⟩, 5), (⟨2, 21⟩, 10), (⟨4, 41⟩, 9), (⟨5, 51⟩, 7)]) ∧
    bp_okR (DQ.retainMut bp_exW bp_fDrop) (fun s' => s'.size = 4 ∧ s'.abs 3 = none ∧
      s'.abs 2 = some (⟨2, 21⟩, 10)) := by
  refine ⟨bp_exW_wf, by decide +kernel, bp_fDrop_legal, by decide +kernel, by decide +kernel⟩

theorem c08_heapBuildK {kind : Kind} {s : Store P} (h : s.WF) :
    ∃ s', heapBuildK kind s = .ok s' ∧ s'.map = s.map ∧ s'.size = s.size ∧ QInv ⟨kind, s'⟩ := by
  cases kind with
  | pq =>
    obtain ⟨s', hb, hwf, hmap, hsz, hm⟩ := MaxQ.heapBuild_spec h
    exact ⟨s', hb, hmap, hsz, (⟨hwf, hm⟩ : MaxQ.Inv s')⟩
  | dpq =>
    obtain ⟨s', hb, hwf, hmap, hsz, hm⟩ := DQ.heapBuild_spec h
    exact ⟨s', hb, hmap, hsz, (⟨hwf, hm⟩ : DQ.Inv s')⟩

/-- **`iter_mut`, consumed as far as the client likes and then dropped**, both kinds, from a well-formed queue (the
previous order is irrelevant), for EVERY program: the operation succeeds; the calls are answered by the iterator machine
of the queue kind (`PIterMut` / `DIterMut`, see C09), one answer per call; no slot is yielded twice and only stored
slots are yielded; the slot yielded by call `t` holds afterwards the entry it had with the write of call `t` applied
(priority and payload; the key cannot be written), every slot not yielded is unchanged; the length is unchanged;
looking up the key of the entry that was in slot `j` finds what is in slot `j` now; and the queue is correctly ordered
again (`QInv`) -/
theorem C08_iterMut {q : Q P} (hq : QWF q) (prog : List (ICall × IMWrite P)) :
    ∃ outs s', step q (.iterMut false prog) = .ok ({ q with s := s' }, .outs outs) ∧
      (match q.kind with
        | .pq => outs = PIterMut.run q.s.map.size PIterMut.new (prog.map (·.1))
        | .dpq => DIterMut.run q.s.map.size (DIterMut.new q.s.map.size) (prog.map (·.1)) = .ok outs) ∧
      outs.length = prog.length ∧
      (slots outs).Nodup ∧ (∀ i ∈ slots outs, i < q.s.size) ∧
      iterMutRun q.kind q.s.map.size prog PIterMut.new (DIterMut.new q.s.map.size) q.s.map = .ok (outs, s'.map) ∧
      (∀ (t j : Nat) (w : IMWrite P), outs[t]? = some (IOut.slot (some j)) → (prog[t]?).map (·.2) = some w →
        s'.map[j]? = (q.s.map[j]?).map w.apply) ∧
      (∀ j : Nat, j ∉ slots outs → s'.map[j]? = q.s.map[j]?) ∧
      s'.size = q.s.size ∧
      (∀ (j : Nat) (e : Item × P), q.s.map[j]? = some e → s'.abs e.1.key = s'.map[j]?) ∧
      QInv { q with s := s' } := by
  obtain ⟨kind, s⟩ := q
  have hs : s.WF := hq
  obtain ⟨outs, m', hrun, hmach, hlen, hnd, hlt, hsz, hkeys, hyield, hrest⟩ := hist_iterMutRun_spec kind s.map prog
  have hndk : IMap.NoDupKeys m' := hs.nodup.congr_keys hkeys
  have hwf1 : ({ s with map := m' } : Store P).WF := wf_of_map_update hs hsz hndk
  have hlt' : ∀ i ∈ slots outs, i < s.size := fun i hi => by have := hlt i hi; rw [hs.map_size] at this; exact this
  have hbykey : ∀ (j : Nat) (e : Item × P), s.map[j]? = some e → IMap.lookup m' e.1.key = m'[j]? := by
    intro j e he
    have hk := hkeys j
    rw [he] at hk
    cases he' : m'[j]? with
    | none => rw [he'] at hk; cases hk
    | some e' =>
      rw [he'] at hk
      simp only [Option.map_some, Option.some.injEq] at hk
      rw [← hk]
      exact IMap.lookup_of_getElem? hndk he'
  obtain ⟨s', hb, hmap', hsz', hinv⟩ := c08_heapBuildK (kind := kind) hwf1
  have hmap'' : s'.map = m' := hmap'
  refine ⟨outs, s', (bind_of_ok hrun _).trans (bind_of_ok hb _), hmach, hlen, hnd, hlt', by rw [hmap'']; exact hrun,
    by rw [hmap'']; exact hyield, by rw [hmap'']; exact hrest, hsz', fun j e he => ?_, hinv⟩
  show IMap.lookup s'.map _ = _
  rw [hmap'']; exact hbykey j e he

/-- a partial consumption from both ends with priority and payload writes; the smallest priority is written into the
element that was the maximum -/
example : QWF (⟨.dpq, DQ.exQ⟩ : Q Nat) ∧
    bp_okR (step (⟨.dpq, DQ.exQ⟩ : Q Nat) (.iterMut false
      [(.next, ⟨some 100, none⟩), (.len, ⟨some 0, none⟩), (.nextBack, ⟨some 1, some 7⟩), (.next, ⟨none, some 5⟩)]))
      (fun r => r.1.s.size = 8 ∧ r.1.s.abs 1 = some (⟨1, 0⟩, 100) ∧ r.1.s.abs 8 = some (⟨8, 7⟩, 1) ∧
        r.1.s.abs 2 = some (⟨2, 5⟩, 20) ∧ r.1.s.abs 3 = some (⟨3, 0⟩, 70) ∧
        bp_okR (DQ.peekMin r.1.s) (fun e => e = some (⟨8, 7⟩, 1)) ∧
        bp_okR (DQ.peekMax r.1.s) (fun e => e.2 = some (⟨1, 0⟩, 100))) :=
  ⟨DQ.exQ_inv.1, by decide +kernel⟩

example : QWF (⟨.pq, bp_exW⟩ : Q Nat) ∧
    bp_okR (step (⟨.pq, bp_exW⟩ : Q Nat) (.iterMut false [(.next, ⟨some 100, none⟩), (.next, ⟨none, some 5⟩)]))
      (fun r => MaxQ.Inv r.1.s ∧ r.1.s.abs 1 = some (⟨1, 10⟩, 100) ∧ r.1.s.abs 2 = some (⟨2, 5⟩, 0) ∧
        MaxQ.peek r.1.s = some (⟨1, 10⟩, 100)) := ⟨bp_exW_wf, by decide +kernel⟩

/-- **`PriorityQueue::pop_if`**: on an empty queue nothing happens; otherwise the predicate is applied to exactly the
entry `peek` shows, a maximum; if it answers true the entry — with the item and priority the predicate wrote — is
returned and its key removed (length − 1); if it answers false `None` is returned and the entry stays with the item and
priority the predicate wrote (length unchanged); in every case the queue is correctly ordered afterwards -/
theorem C08_popIf_pq {s : Store P} (h : MaxQ.Inv s) (f : Item → P → Bool × Item × P)
    (hf : ∀ it p, (f it p).2.1.key = it.key) :
    (s.size = 0 → MaxQ.popIf s f = .ok (s, none)) ∧
    (0 < s.size → ∃ e, MaxQ.peek s = some e ∧ s.IsMax e ∧
      ((f e.1 e.2).1 = true → ∃ s', MaxQ.popIf s f = .ok (s', some ((f e.1 e.2).2.1, (f e.1 e.2).2.2)) ∧ MaxQ.Inv s' ∧
          s'.abs = absRemove s.abs e.1.key ∧ s'.size = s.size - 1) ∧
      ((f e.1 e.2).1 = false → ∃ s', MaxQ.popIf s f = .ok (s', none) ∧ MaxQ.Inv s' ∧
          s'.abs = absSet s.abs e.1.key ((f e.1 e.2).2.1, (f e.1 e.2).2.2) ∧ s'.size = s.size)) :=
  MaxQ.popIf_spec h f hf

example : MaxQ.Inv bp_exP ∧ 0 < bp_exP.size ∧ (∀ it p, (bp_fYes it p).2.1.key = it.key) ∧
    bp_okR (MaxQ.popIf bp_exP bp_fYes) (fun r => MaxQ.Inv r.1 ∧ r.2 = some (⟨2, 99⟩, 10) ∧ r.1.size = 4 ∧
      r.1.abs 2 = none) ∧
    bp_okR (MaxQ.popIf bp_exP (fun it p => (false, ⟨it.key, 99⟩, p - 8))) (fun r => MaxQ.Inv r.1 ∧ r.2 = none ∧
      r.1.size = 5 ∧ r.1.abs 2 = some (⟨2, 99⟩, 1) ∧ MaxQ.peek r.1 = some (⟨3, 30⟩, 7)) := by
  refine ⟨bp_exP_inv, by decide, bp_fYes_legal, by decide +kernel, by decide +kernel⟩

/-- **`DoublePriorityQueue::pop_min_if`**: as `pop_if`, the predicate sees exactly the entry `peek_min` shows, a minimum -/
theorem C08_popMinIf {s : Store P} (h : DQ.Inv s) (f : Item → P → Bool × Item × P)
    (hf : ∀ it p, (f it p).2.1.key = it.key) :
    (s.size = 0 → DQ.popMinIf s f = .ok (s, none)) ∧
    (0 < s.size → ∃ e, DQ.peekMin s = .ok (some e) ∧ s.IsMin e ∧
      ((f e.1 e.2).1 = true → ∃ s', DQ.popMinIf s f = .ok (s', some ((f e.1 e.2).2.1, (f e.1 e.2).2.2)) ∧ DQ.Inv s' ∧
          s'.abs = absRemove s.abs e.1.key ∧ s'.size = s.size - 1) ∧
      ((f e.1 e.2).1 = false → ∃ s', DQ.popMinIf s f = .ok (s', none) ∧ DQ.Inv s' ∧
          s'.abs = absSet s.abs e.1.key ((f e.1 e.2).2.1, (f e.1 e.2).2.2) ∧ s'.size = s.size)) :=
  DQ.popMinIf_spec h f hf

example : DQ.Inv DQ.exQ ∧ 0 < DQ.exQ.size ∧ (∀ it p, (DQ.exPred it p).2.1.key = it.key) ∧
    bp_okR (DQ.popMinIf DQ.exQ DQ.exPred) (fun r => r.2 = none ∧ r.1.size = 8 ∧ r.1.abs 4 = some (⟨4, 1⟩, 11)) ∧
    bp_okR (DQ.popMinIf DQ.exQ bp_fYes) (fun r => r.2 = some (⟨4, 99⟩, 11) ∧ r.1.size = 7 ∧ r.1.abs 4 = none) := by
  refine ⟨DQ.exQ_inv, by decide +kernel, fun _ _ => rfl, by decide +kernel, by decide +kernel⟩

/-- **`DoublePriorityQueue::pop_max_if`**: the predicate sees exactly the entry `peek_max` shows, a maximum (`k ≤ 1` is
the one comparison `find_max` may perform) -/
theorem C08_popMaxIf {s : Store P} (h : DQ.Inv s) (f : Item → P → Bool × Item × P)
    (hf : ∀ it p, (f it p).2.1.key = it.key) :
    (s.size = 0 → DQ.popMaxIf s f = .ok (s, none)) ∧
    (0 < s.size → ∃ k e, DQ.peekMax s = .ok (s.tick k, some e) ∧ k ≤ 1 ∧ s.IsMax e ∧
      ((f e.1 e.2).1 = true → ∃ s', DQ.popMaxIf s f = .ok (s', some ((f e.1 e.2).2.1, (f e.1 e.2).2.2)) ∧ DQ.Inv s' ∧
          s'.abs = absRemove s.abs e.1.key ∧ s'.size = s.size - 1) ∧
      ((f e.1 e.2).1 = false → ∃ s', DQ.popMaxIf s f = .ok (s', none) ∧ DQ.Inv s' ∧
          s'.abs = absSet s.abs e.1.key ((f e.1 e.2).2.1, (f e.1 e.2).2.2) ∧ s'.size = s.size)) :=
  DQ.popMaxIf_spec h f hf

example : DQ.Inv DQ.exQ ∧ 0 < DQ.exQ.size ∧
    bp_okR (DQ.popMaxIf DQ.exQ DQ.exPred) (fun r => r.2 = some (⟨8, 1⟩, 81) ∧ r.1.size = 7 ∧ r.1.abs 8 = none) ∧
    bp_okR (DQ.popMaxIf DQ.exQ bp_fNo) (fun r => r.2 = none ∧ r.1.size = 8 ∧ r.1.abs 8 = some (⟨8, 99⟩, 81)) := by
  refine ⟨DQ.exQ_inv, by decide +kernel, by decide +kernel, by decide +kernel⟩

end PQ

#print axioms PQ.C08_retainMut
#print axioms PQ.C08_iterMut
#print axioms PQ.C08_popIf_pq
#print axioms PQ.C08_popMinIf
#print axioms PQ.C08_popMaxIf
