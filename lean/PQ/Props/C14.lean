import PQ.Lemmas.IMapLemmas
/-!
# C14 — equality of queues is equality of contents

"Two queues of the same kind compare equal iff they hold the same set of (item, priority) pairs,
regardless of the histories that produced them, their internal arrangement, capacity or hasher state;
equality is reflexive, symmetric and transitive."

The crate's `PartialEq` is modelled by `Store.eqv a b = IMap.eqv a.map b.map` (IndexMap equality: same
length and every entry of the left is found *by key* in the right with an equal priority).  Items are
compared by `key` only, exactly like the Rust `Eq` of the items (payloads take no part in `Eq`/`Hash`).
Hence "the same set of (item, priority) pairs" is: every key is bound to the same priority on both sides
(or to none on both sides), which is `∀ k, (lookup a k).map (·.2) = (lookup b k).map (·.2)`;
`C14_eqv_iff_pairs` restates it as equality of the sets `{(key, priority)}` of stored entries.
Neither `heap`, `qp`, `size`, `ticks` (internal arrangement) nor the slot order of the map (history)
appears on the right-hand side; capacity and hasher state do not exist in the model at all.

`NoDupKeys` (part of `Store.WF`) is necessary: see `C14_refl_needs_noDup`.
-/
namespace PQ
open IMap
variable {P : Type}

theorem C14_aux_pigeonhole {l₁ : List Nat} : ∀ {l₂ : List Nat}, l₁.Nodup → l₁ ⊆ l₂ →
    l₁.length ≤ l₂.length ∧ (l₂.Nodup → l₂.length ≤ l₁.length → l₂ ⊆ l₁) := by
  induction l₁ with
  | nil =>
    intro l₂ _ _
    refine ⟨Nat.zero_le _, ?_⟩
    intro _ hlen
    have : l₂ = [] := List.eq_nil_of_length_eq_zero (Nat.le_zero.1 hlen)
    subst this; exact List.Subset.refl _
  | cons a l ih =>
    intro l₂ hnd hsub
    rw [List.nodup_cons] at hnd
    obtain ⟨hal, hndl⟩ := hnd
    have ha2 : a ∈ l₂ := hsub List.mem_cons_self
    have hsub' : l ⊆ l₂.erase a := by
      intro x hx
      have hxa : x ≠ a := fun h => hal (h ▸ hx)
      exact (List.mem_erase_of_ne hxa).2 (hsub (List.mem_cons_of_mem _ hx))
    have hlen : (l₂.erase a).length = l₂.length - 1 := List.length_erase_of_mem ha2
    have hpos : 0 < l₂.length := List.length_pos_of_mem ha2
    obtain ⟨ih1, ih2⟩ := ih hndl hsub'
    refine ⟨by simp only [List.length_cons]; omega, ?_⟩
    intro hnd2 hlen2
    simp only [List.length_cons] at hlen2
    have := ih2 (hnd2.erase a) (by omega)
    intro x hx
    by_cases hxa : x = a
    · subst hxa; exact List.mem_cons_self
    · exact List.mem_cons_of_mem _ (this ((List.mem_erase_of_ne hxa).2 hx))

def IMap.keys (m : IMap P) : List Nat := m.toList.map (·.1.key)

theorem IMap.mem_keys_iff {m : IMap P} {k : Nat} :
    k ∈ IMap.keys m ↔ ∃ (i : Nat) (e : Item × P), m[i]? = some e ∧ e.1.key = k := by
  unfold IMap.keys
  rw [List.mem_map]
  constructor
  · rintro ⟨e, he, hk⟩
    obtain ⟨i, hi⟩ := Array.mem_iff_getElem?.1 (Array.mem_toList_iff.1 he)
    exact ⟨i, e, hi, hk⟩
  · rintro ⟨i, e, hi, hk⟩
    exact ⟨e, Array.mem_toList_iff.2 (Array.mem_iff_getElem?.2 ⟨i, hi⟩), hk⟩

theorem IMap.mem_keys_iff_lookup {m : IMap P} {k : Nat} :
    k ∈ IMap.keys m ↔ (lookup m k).isSome = true := by
  rw [IMap.mem_keys_iff, lookup_isSome_eq_contains, contains_eq_true_iff]

theorem IMap.length_keys (m : IMap P) : (IMap.keys m).length = m.size := by
  unfold IMap.keys; simp

/-! Rust compares the values of the two IndexMaps with the priority type's own `PartialEq`, which need not be identity
(`Lemmas/EqvBy.lean`).  `IMap.eqv` is the instance at Lean's `=`; what holds for every comparison is proved here once. -/

/-- IndexMap equality with the value comparison `peq` (Rust: the priority type's `PartialEq::eq`): same length and
every entry of the left is found by key in the right with a `peq`-equal priority -/
def IMap.eqvBy (peq : P → P → Bool) (a b : IMap P) : Bool :=
  a.size == b.size && a.all fun e =>
    match getFull b e.1.key with
    | some (_, _, q) => peq e.2 q
    | none => false

/-- **with identity as the comparison, `eqvBy` is the model's `eqv`** (so `IMap.eqv_iff_forall` and `C14_eqv_iff` are the
instances at `peq := (· = ·)` of `eqvBy_iff_forall` and `eqvBy_iff_keys` below) -/
theorem eqvBy_decide_eq [DecidableEq P] : IMap.eqvBy (fun x y : P => decide (x = y)) = IMap.eqv := rfl


theorem eqvBy_iff_forall {peq : P → P → Bool} {a b : IMap P} :
    IMap.eqvBy peq a b = true ↔
      a.size = b.size ∧
        ∀ (i : Nat) (e : Item × P), a[i]? = some e → ∃ x, lookup b e.1.key = some x ∧ peq e.2 x.2 = true := by
  unfold IMap.eqvBy
  rw [Bool.and_eq_true, beq_iff_eq, Array.all_eq_true_iff_forall_mem]
  have hentry : ∀ e : Item × P,
      ((match getFull b e.1.key with
        | some (_, _, q) => peq e.2 q
        | none => false) = true) ↔ ∃ x, lookup b e.1.key = some x ∧ peq e.2 x.2 = true := by
    intro e
    rw [← getFull_map_eq_lookup]
    cases getFull b e.1.key with
    | none => simp
    | some r =>
      obtain ⟨i, it, q⟩ := r
      simp
  constructor
  · rintro ⟨hs, hall⟩
    exact ⟨hs, fun i e he => (hentry e).1 (hall e (Array.mem_iff_getElem?.2 ⟨i, he⟩))⟩
  · rintro ⟨hs, hall⟩
    refine ⟨hs, fun e he => ?_⟩
    obtain ⟨i, hi⟩ := Array.mem_iff_getElem?.1 he
    exact (hentry e).2 (hall i e hi)

theorem eqvBy_keys_subset {peq : P → P → Bool} {a b : IMap P} (h : IMap.eqvBy peq a b = true) :
    IMap.keys a ⊆ IMap.keys b := by
  obtain ⟨_, hall⟩ := eqvBy_iff_forall.1 h
  intro k hk
  obtain ⟨i, e, he, rfl⟩ := IMap.mem_keys_iff.1 hk
  obtain ⟨x, hx, _⟩ := hall i e he
  rw [IMap.mem_keys_iff_lookup, hx]; rfl

/-- **equality is equality of contents up to `peq`** (map level): on maps with unique keys, for ANY comparison `peq`, the
crate's `==` answers `true` iff the two maps have the same length and every key is bound on both sides with
`peq`-related priorities or on neither side.  Nothing else (slot order, payloads of the items, `heap`/`qp`) matters. -/
theorem eqvBy_iff {peq : P → P → Bool} {a b : IMap P} (ha : NoDupKeys a) (hb : NoDupKeys b) :
    IMap.eqvBy peq a b = true ↔ a.size = b.size ∧ ∀ k,
      (match lookup a k, lookup b k with
        | some x, some y => peq x.2 y.2
        | none, none => true
        | _, _ => false) = true := by
  have nda : (IMap.keys a).Nodup := noDupKeys_iff_nodup.1 ha
  have ndb : (IMap.keys b).Nodup := noDupKeys_iff_nodup.1 hb
  constructor
  · intro h
    obtain ⟨hs, hall⟩ := eqvBy_iff_forall.1 h
    refine ⟨hs, fun k => ?_⟩
    have hsub' : IMap.keys b ⊆ IMap.keys a :=
      (C14_aux_pigeonhole nda (eqvBy_keys_subset h)).2 ndb
        (by rw [IMap.length_keys, IMap.length_keys, hs]; exact Nat.le_refl _)
    cases hla : lookup a k with
    | some e =>
      obtain ⟨i, he, hk⟩ := (lookup_eq_some_iff ha).1 hla
      obtain ⟨x, hx, hp⟩ := hall i e he
      rw [hk] at hx
      simp only [hx]; exact hp
    | none =>
      cases hlb : lookup b k with
      | none => rfl
      | some x =>
        have : k ∈ IMap.keys b := by rw [IMap.mem_keys_iff_lookup, hlb]; rfl
        have := hsub' this
        rw [IMap.mem_keys_iff_lookup, hla] at this
        cases this
  · rintro ⟨hs, h⟩
    refine eqvBy_iff_forall.2 ⟨hs, fun i e he => ?_⟩
    have hk := h e.1.key
    rw [lookup_of_getElem? ha he] at hk
    cases hlb : lookup b e.1.key with
    | none => simp [hlb] at hk
    | some y => exact ⟨y, rfl, by simpa [hlb] using hk⟩

/-- key agreement alone: on maps with unique keys it forces equal sizes (pigeonhole in both directions), so the size
conjunct of `eqvBy_iff` is redundant -/
theorem eqvBy_iff_keys {peq : P → P → Bool} {a b : IMap P} (ha : NoDupKeys a) (hb : NoDupKeys b) :
    IMap.eqvBy peq a b = true ↔ ∀ k,
      (match lookup a k, lookup b k with
        | some x, some y => peq x.2 y.2
        | none, none => true
        | _, _ => false) = true := by
  rw [eqvBy_iff ha hb]
  refine ⟨fun h => h.2, fun h => ⟨?_, h⟩⟩
  have hs : ∀ k, (lookup a k).isSome = (lookup b k).isSome := by
    intro k
    have := h k
    cases hla : lookup a k <;> cases hlb : lookup b k <;> simp [hla, hlb] at this ⊢
  have hsub : ∀ {x y : IMap P}, (∀ k, (lookup x k).isSome = (lookup y k).isSome) → IMap.keys x ⊆ IMap.keys y := by
    intro x y hxy k hk
    rw [IMap.mem_keys_iff_lookup] at hk ⊢
    rw [← hxy k]
    exact hk
  have nda : (IMap.keys a).Nodup := noDupKeys_iff_nodup.1 ha
  have ndb : (IMap.keys b).Nodup := noDupKeys_iff_nodup.1 hb
  have h1 := (C14_aux_pigeonhole nda (hsub hs)).1
  have h2 := (C14_aux_pigeonhole ndb (hsub fun k => (hs k).symm)).1
  rw [IMap.length_keys, IMap.length_keys] at h1 h2
  exact Nat.le_antisymm h1 h2

theorem IMap.eqv_iff_forall [DecidableEq P] {a b : IMap P} :
    IMap.eqv a b = true ↔
      a.size = b.size ∧
        ∀ (i : Nat) (e : Item × P), a[i]? = some e → (lookup b e.1.key).map (·.2) = some e.2 := by
  rw [← eqvBy_decide_eq, eqvBy_iff_forall]
  refine and_congr_right fun _ => forall_congr' fun i => forall_congr' fun e => imp_congr_right fun _ => ?_
  rw [Option.map_eq_some_iff]
  exact exists_congr fun x => and_congr_right fun _ => by rw [decide_eq_true_eq, eq_comm]

/-- **C14** (map level): under unique keys, the crate's equality holds iff every key is bound to the same
priority on both sides.  That equal sizes need not be asked for is the pigeonhole principle (`eqvBy_iff_keys`). -/
theorem C14_eqv_iff [DecidableEq P] {a b : IMap P} (ha : NoDupKeys a) (hb : NoDupKeys b) :
    IMap.eqv a b = true ↔ ∀ k, (lookup a k).map (·.2) = (lookup b k).map (·.2) := by
  rw [← eqvBy_decide_eq, eqvBy_iff_keys ha hb]
  refine forall_congr' fun k => ?_
  cases lookup a k <;> cases lookup b k <;> simp

theorem IMap.lookup_prio_eq_some_iff {m : IMap P} (hm : NoDupKeys m) {k : Nat} {p : P} :
    (lookup m k).map (·.2) = some p ↔ ∃ (i : Nat) (e : Item × P), m[i]? = some e ∧ e.1.key = k ∧ e.2 = p := by
  rw [Option.map_eq_some_iff]
  constructor
  · rintro ⟨e, he, hp⟩
    obtain ⟨i, hi, hk⟩ := (lookup_eq_some_iff hm).1 he
    exact ⟨i, e, hi, hk, hp⟩
  · rintro ⟨i, e, hi, hk, hp⟩
    exact ⟨e, (lookup_eq_some_iff hm).2 ⟨i, hi, hk⟩, hp⟩

/-- **C14** (set-of-pairs form): equality holds iff the two maps store the same set of
(key, priority) pairs — slot positions (`i`, `j`) are existentially quantified away on both sides. -/
theorem C14_eqv_iff_pairs [DecidableEq P] {a b : IMap P} (ha : NoDupKeys a) (hb : NoDupKeys b) :
    IMap.eqv a b = true ↔
      ∀ (k : Nat) (p : P),
        (∃ (i : Nat) (e : Item × P), a[i]? = some e ∧ e.1.key = k ∧ e.2 = p) ↔
        (∃ (j : Nat) (e : Item × P), b[j]? = some e ∧ e.1.key = k ∧ e.2 = p) := by
  rw [C14_eqv_iff ha hb]
  constructor
  · intro h k p
    rw [← IMap.lookup_prio_eq_some_iff ha, ← IMap.lookup_prio_eq_some_iff hb, h k]
  · intro h k
    apply Option.ext
    intro p
    rw [IMap.lookup_prio_eq_some_iff ha, IMap.lookup_prio_eq_some_iff hb]
    exact h k p

/-- `Store.eqv` reads nothing but the two maps: heap order, position table, size counter and comparison
counter of either side are irrelevant (definitionally). -/
theorem C14_store_eqv_only_map [DecidableEq P] (s t : Store P)
    (h₁ h₂ q₁ q₂ : Array Nat) (n₁ n₂ c₁ c₂ : Nat) :
    Store.eqv { map := s.map, heap := h₁, qp := q₁, size := n₁, ticks := c₁ }
              { map := t.map, heap := h₂, qp := q₂, size := n₂, ticks := c₂ } = Store.eqv s t := rfl

/-- **C14** for queues, assuming only unique keys in the two maps -/
theorem C14_store_eqv_iff_of_noDup [DecidableEq P] {s t : Store P}
    (hs : NoDupKeys s.map) (ht : NoDupKeys t.map) :
    Store.eqv s t = true ↔ ∀ k, (lookup s.map k).map (·.2) = (lookup t.map k).map (·.2) :=
  C14_eqv_iff hs ht

/-- **C14** for well-formed queues: they compare equal iff every key has the same priority (or none) in
both; `heap`, `qp`, `size`, `ticks` and the slot order of the maps do not occur on the right. -/
theorem C14_store_eqv_iff [DecidableEq P] {s t : Store P} (hs : s.WF) (ht : t.WF) :
    Store.eqv s t = true ↔ ∀ k, (lookup s.map k).map (·.2) = (lookup t.map k).map (·.2) :=
  C14_eqv_iff hs.nodup ht.nodup

/-- **C14** for well-formed queues, set-of-pairs form (`Store.Mem s e` is `∃ i, s.map[i]? = some e`) -/
theorem C14_store_eqv_iff_pairs [DecidableEq P] {s t : Store P} (hs : s.WF) (ht : t.WF) :
    Store.eqv s t = true ↔
      ∀ (k : Nat) (p : P),
        (∃ e, s.Mem e ∧ e.1.key = k ∧ e.2 = p) ↔ (∃ e, t.Mem e ∧ e.1.key = k ∧ e.2 = p) := by
  unfold Store.eqv
  rw [C14_eqv_iff_pairs hs.nodup ht.nodup]
  constructor
  · intro h k p
    constructor
    · rintro ⟨e, ⟨i, hi⟩, hk, hp⟩
      obtain ⟨j, e', hj, hk', hp'⟩ := (h k p).1 ⟨i, e, hi, hk, hp⟩
      exact ⟨e', ⟨j, hj⟩, hk', hp'⟩
    · rintro ⟨e, ⟨i, hi⟩, hk, hp⟩
      obtain ⟨j, e', hj, hk', hp'⟩ := (h k p).2 ⟨i, e, hi, hk, hp⟩
      exact ⟨e', ⟨j, hj⟩, hk', hp'⟩
  · intro h k p
    constructor
    · rintro ⟨i, e, hi, hk, hp⟩
      obtain ⟨e', ⟨j, hj⟩, hk', hp'⟩ := (h k p).1 ⟨e, ⟨i, hi⟩, hk, hp⟩
      exact ⟨j, e', hj, hk', hp'⟩
    · rintro ⟨i, e, hi, hk, hp⟩
      obtain ⟨e', ⟨j, hj⟩, hk', hp'⟩ := (h k p).2 ⟨e, ⟨i, hi⟩, hk, hp⟩
      exact ⟨j, e', hj, hk', hp'⟩

theorem C14_refl [DecidableEq P] {a : IMap P} (ha : NoDupKeys a) : IMap.eqv a a = true :=
  (C14_eqv_iff ha ha).2 fun _ => rfl

theorem C14_symm [DecidableEq P] {a b : IMap P} (ha : NoDupKeys a) (hb : NoDupKeys b)
    (h : IMap.eqv a b = true) : IMap.eqv b a = true :=
  (C14_eqv_iff hb ha).2 fun k => ((C14_eqv_iff ha hb).1 h k).symm

theorem C14_symm_eq [DecidableEq P] {a b : IMap P} (ha : NoDupKeys a) (hb : NoDupKeys b) :
    IMap.eqv a b = IMap.eqv b a := by
  rw [Bool.eq_iff_iff]
  exact ⟨C14_symm ha hb, C14_symm hb ha⟩

theorem C14_trans [DecidableEq P] {a b c : IMap P} (ha : NoDupKeys a) (hb : NoDupKeys b) (hc : NoDupKeys c)
    (hab : IMap.eqv a b = true) (hbc : IMap.eqv b c = true) : IMap.eqv a c = true :=
  (C14_eqv_iff ha hc).2 fun k => ((C14_eqv_iff ha hb).1 hab k).trans ((C14_eqv_iff hb hc).1 hbc k)

theorem C14_store_refl [DecidableEq P] {s : Store P} (hs : s.WF) : Store.eqv s s = true :=
  C14_refl hs.nodup

theorem C14_store_symm [DecidableEq P] {s t : Store P} (hs : s.WF) (ht : t.WF)
    (h : Store.eqv s t = true) : Store.eqv t s = true :=
  C14_symm hs.nodup ht.nodup h

theorem C14_store_trans [DecidableEq P] {s t u : Store P} (hs : s.WF) (ht : t.WF) (hu : u.WF)
    (hst : Store.eqv s t = true) (htu : Store.eqv t u = true) : Store.eqv s u = true :=
  C14_trans hs.nodup ht.nodup hu.nodup hst htu

/-- Without unique keys even reflexivity fails (so `NoDupKeys`, which `Store.WF` provides, is a necessary
hypothesis and not an artefact of the proof). -/
theorem C14_refl_needs_noDup :
    IMap.eqv (#[(⟨1, 0⟩, 5), (⟨1, 0⟩, 6)] : IMap Nat) #[(⟨1, 0⟩, 5), (⟨1, 0⟩, 6)] = false := by
  decide +kernel

/-! `qA` and `qB` are produced by the model of the crate's own operations through *different histories*
(different insertion order, different payloads, an extra element pushed and removed again, a priority
changed afterwards).  They end up with different slot orders, different heap arrangements and different
comparison counters, yet compare equal; `qC` differs from `qA` in one priority and compares unequal.
(`decide +kernel`: `find?` is `Array.findIdx?`, defined by well-founded recursion, on which the elaborator's
`decide` gets stuck while the kernel evaluates it; no axiom is involved.) -/
section Examples

private def run (r : R (Store Nat)) : Store Nat :=
  match r with
  | .ok s => s
  | .error _ => Store.empty

private def qA : Store Nat :=
  run (MaxQ.pushAll [(⟨1, 10⟩, 5), (⟨2, 20⟩, 7), (⟨3, 30⟩, 6)] Store.empty)

private def qB : Store Nat := run (do
  let s ← MaxQ.pushAll [(⟨3, 31⟩, 1), (⟨4, 0⟩, 9), (⟨2, 21⟩, 7), (⟨1, 11⟩, 5)] Store.empty
  let (s, _) ← MaxQ.remove s 4
  let (s, _) ← MaxQ.changePriority s 3 6
  pure s)

private def qC : Store Nat :=
  run (MaxQ.pushAll [(⟨1, 10⟩, 5), (⟨2, 20⟩, 8), (⟨3, 30⟩, 6)] Store.empty)

/-- the concrete states (so that the reader sees they are non-trivial and differently arranged) -/
example : qA.map = #[(⟨1, 10⟩, 5), (⟨2, 20⟩, 7), (⟨3, 30⟩, 6)] ∧ qA.heap = #[1, 0, 2] ∧ qA.qp = #[1, 0, 2] ∧
    qA.size = 3 ∧ qA.ticks = 2 := by decide +kernel
example : qB.map = #[(⟨3, 31⟩, 6), (⟨1, 11⟩, 5), (⟨2, 21⟩, 7)] ∧ qB.heap = #[2, 1, 0] ∧ qB.qp = #[2, 1, 0] ∧
    qB.size = 3 ∧ qB.ticks = 7 := by decide +kernel

/-- same contents, different histories / slot orders / heap arrangement / payloads: equal -/
example : Store.eqv qA qB = true ∧ Store.eqv qB qA = true := by decide +kernel
/-- one priority off: unequal (both ways) -/
example : Store.eqv qA qC = false ∧ Store.eqv qC qA = false := by decide +kernel
/-- one element more or less: unequal -/
example : Store.eqv qA (run (do let (s, _) ← MaxQ.pop qB; pure s)) = false := by decide +kernel
/-- the same on two hand-written maps, by plain map-level evaluation -/
example : IMap.eqv (#[(⟨1, 0⟩, 5), (⟨2, 0⟩, 7)] : IMap Nat) #[(⟨2, 9⟩, 7), (⟨1, 9⟩, 5)] = true ∧
    IMap.eqv (#[(⟨1, 0⟩, 5), (⟨2, 0⟩, 7)] : IMap Nat) #[(⟨2, 9⟩, 7), (⟨1, 9⟩, 6)] = false := by decide +kernel

/-- the hypotheses of `C14_eqv_iff`, `C14_refl`, `C14_symm`, `C14_trans` are satisfiable -/
example : NoDupKeys qA.map ∧ NoDupKeys qB.map ∧ NoDupKeys qC.map := by decide +kernel

private theorem wf3 {s : Store Nat} (h0 : s.size = 3) (hm : s.map.size = 3) (hh : s.heap.size = 3)
    (hq : s.qp.size = 3) (hn : NoDupKeys s.map)
    (hhq : (∃ i, s.heap[0]? = some i ∧ s.qp[i]? = some 0) ∧ (∃ i, s.heap[1]? = some i ∧ s.qp[i]? = some 1) ∧
      (∃ i, s.heap[2]? = some i ∧ s.qp[i]? = some 2))
    (hqh : (∃ p, s.qp[0]? = some p ∧ s.heap[p]? = some 0) ∧ (∃ p, s.qp[1]? = some p ∧ s.heap[p]? = some 1) ∧
      (∃ p, s.qp[2]? = some p ∧ s.heap[p]? = some 2)) : s.WF where
  map_size := by omega
  heap_size := by omega
  qp_size := by omega
  nodup := hn
  heap_qp := by
    intro p hp
    have : p = 0 ∨ p = 1 ∨ p = 2 := by omega
    rcases this with rfl | rfl | rfl
    · exact hhq.1
    · exact hhq.2.1
    · exact hhq.2.2
  qp_heap := by
    intro i hi
    have : i = 0 ∨ i = 1 ∨ i = 2 := by omega
    rcases this with rfl | rfl | rfl
    · exact hqh.1
    · exact hqh.2.1
    · exact hqh.2.2

/-- the hypotheses of `C14_store_eqv_iff` and of the `C14_store_*` theorems are satisfiable by these states -/
example : qA.WF ∧ qB.WF := by
  refine ⟨wf3 (by decide +kernel) (by decide +kernel) (by decide +kernel) (by decide +kernel) (by decide +kernel)
      ⟨⟨1, by decide +kernel, by decide +kernel⟩, ⟨0, by decide +kernel, by decide +kernel⟩,
        ⟨2, by decide +kernel, by decide +kernel⟩⟩
      ⟨⟨1, by decide +kernel, by decide +kernel⟩, ⟨0, by decide +kernel, by decide +kernel⟩,
        ⟨2, by decide +kernel, by decide +kernel⟩⟩,
    wf3 (by decide +kernel) (by decide +kernel) (by decide +kernel) (by decide +kernel) (by decide +kernel)
      ⟨⟨2, by decide +kernel, by decide +kernel⟩, ⟨1, by decide +kernel, by decide +kernel⟩,
        ⟨0, by decide +kernel, by decide +kernel⟩⟩
      ⟨⟨2, by decide +kernel, by decide +kernel⟩, ⟨1, by decide +kernel, by decide +kernel⟩,
        ⟨0, by decide +kernel, by decide +kernel⟩⟩⟩

/-- the right-hand side of `C14_eqv_iff` on the concrete states, evaluated key by key -/
example : ∀ k, k < 6 → (lookup qA.map k).map (·.2) = (lookup qB.map k).map (·.2) := by decide +kernel
example : (lookup qA.map 2).map (·.2) ≠ (lookup qC.map 2).map (·.2) := by decide +kernel

end Examples

end PQ

#print axioms PQ.C14_eqv_iff
#print axioms PQ.C14_eqv_iff_pairs
#print axioms PQ.C14_store_eqv_only_map
#print axioms PQ.C14_store_eqv_iff_of_noDup
#print axioms PQ.C14_store_eqv_iff
#print axioms PQ.C14_store_eqv_iff_pairs
#print axioms PQ.C14_refl
#print axioms PQ.C14_symm
#print axioms PQ.C14_symm_eq
#print axioms PQ.C14_trans
#print axioms PQ.C14_store_refl
#print axioms PQ.C14_store_symm
#print axioms PQ.C14_store_trans
#print axioms PQ.C14_refl_needs_noDup
